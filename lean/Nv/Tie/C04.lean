import Nv.Model.C04
import Nv.Gen.C04
/-! C04 — obligations on the definitions regenerated from /repo's current source. -/
namespace Nv.C04

theorem tie_facts : Nv.Gen.C04.factsSized = Facts.expected ∧ Nv.Gen.C04.factsTiny = Facts.expected := by decide

theorem tie_cfg_proved : Proved .sized Nv.Gen.C04.cfgSized ∧ Proved .tiny Nv.Gen.C04.cfgTiny := by decide

/-- the two shapes of the per-shard capacity kernel the theorems below cover: `capacity/numbs + 1` (the source
    before `fixes/C04-wide-shard-capacity-overflow.diff`) and the saturating `p := capacity/numbs; if p < MaxInt64 { p++ }` -/
def KernelShape (k : BitVec 64 → BitVec 64 → BitVec 64) : Prop :=
  (∀ a b, k a b = BitVec.sdiv a b + 1#64) ∨
  (∀ a b, k a b = if (BitVec.sdiv a b).slt 9223372036854775807#64 then BitVec.sdiv a b + 1#64 else BitVec.sdiv a b)

def Saturating (k : BitVec 64 → BitVec 64 → BitVec 64) : Prop :=
  ∀ a b, k a b = if (BitVec.sdiv a b).slt 9223372036854775807#64 then BitVec.sdiv a b + 1#64 else BitVec.sdiv a b

theorem sdiv_facts (cap n : BitVec 64) (hc : 0 ≤ cap.toInt) (hn : 0 < n.toInt) :
    (BitVec.sdiv cap n).toInt = cap.toInt.tdiv n.toInt ∧ 0 ≤ cap.toInt.tdiv n.toInt ∧
      cap.toInt.tdiv n.toInt ≤ cap.toInt ∧ cap.toInt.tdiv n.toInt * n.toInt ≤ cap.toInt := by
  have hne : cap ≠ BitVec.intMin 64 := by
    intro h; rw [h] at hc; simp [BitVec.toInt_intMin] at hc
  refine ⟨BitVec.toInt_sdiv_of_ne_or_ne _ _ (Or.inl hne), Int.tdiv_nonneg hc (by omega), ?_, ?_⟩
  · rw [Int.tdiv_eq_ediv_of_nonneg hc]; exact Int.ediv_le_self _ hc
  · rw [Int.tdiv_eq_ediv_of_nonneg hc]; exact Int.ediv_mul_le _ (by omega)

theorem add_one_toInt (q : BitVec 64) (h0 : 0 ≤ q.toInt) (h1 : q.toInt + 1 < 2 ^ 63) : (q + 1#64).toInt = q.toInt + 1 := by
  rw [BitVec.toInt_add, show (1#64 : BitVec 64).toInt = 1 from rfl]
  apply Int.bmod_eq_of_le <;> omega

private theorem saturating_toInt (k : BitVec 64 → BitVec 64 → BitVec 64) (hk : Saturating k) (cap n : BitVec 64)
    (h0 : 0 ≤ (BitVec.sdiv cap n).toInt) :
    0 < (k cap n).toInt ∧
      ((BitVec.sdiv cap n).toInt + 1 < 2 ^ 63 → (k cap n).toInt = (BitVec.sdiv cap n).toInt + 1) := by
  rw [hk]
  generalize BitVec.sdiv cap n = q at h0 ⊢
  have hmax : (9223372036854775807#64 : BitVec 64).toInt = 2 ^ 63 - 1 := by decide
  by_cases h : q.slt 9223372036854775807#64 = true
  · rw [if_pos h]
    rw [BitVec.slt_iff_toInt_lt, hmax] at h
    rw [add_one_toInt q h0 (Int.add_lt_of_lt_sub_right h)]
    exact ⟨Int.lt_add_one_iff.2 h0, fun _ => rfl⟩
  · rw [if_neg h]
    rw [BitVec.slt_iff_toInt_lt, hmax] at h
    exact ⟨Int.lt_of_lt_of_le (by decide) (Int.not_lt.1 h), fun h1 => absurd (Int.lt_sub_right_of_add_lt h1) h⟩

/-- 64-bit per-shard capacity is the model's `shardCap` whenever `capacity/shards + 1` does not overflow
    (it overflows only for capacity = MaxInt64 with a single shard) -/
theorem shardCap_kernel (k : BitVec 64 → BitVec 64 → BitVec 64) (hk : KernelShape k)
    (cap n : BitVec 64) (hc : 0 ≤ cap.toInt) (hn : 0 < n.toInt)
    (hov : cap.toInt < 2 ^ 63 - 1 ∨ 2 ≤ n.toInt) :
    (k cap n).toInt = shardCap cap.toInt n.toNat ∧ 0 < (k cap n).toInt := by
  obtain ⟨hs, hq0, hqle, hmul⟩ := sdiv_facts cap n hc hn
  have hnat : (n.toNat : Int) = n.toInt :=
    (BitVec.toInt_eq_toNat_of_lt (BitVec.toInt_pos_iff.1 (Int.le_of_lt hn))).symm
  -- the quotient is below MaxInt64: it is at most the capacity, and at most half of it from two shards on
  have hq : cap.toInt.tdiv n.toInt + 1 < 2 ^ 63 := by
    have hcl := BitVec.toInt_lt (x := cap)
    generalize cap.toInt.tdiv n.toInt = q at hq0 hqle hmul ⊢
    rcases hov with h | h
    · exact Int.lt_of_le_of_lt (Int.add_le_add_right hqle 1) (Int.add_lt_of_lt_sub_right h)
    · have := Int.mul_le_mul_of_nonneg_left h hq0
      omega
  rw [shardCap, hnat, ← hs]
  rw [← hs] at hq0 hq
  have hval : (k cap n).toInt = (BitVec.sdiv cap n).toInt + 1 := by
    rcases hk with hk | hk
    · rw [hk, add_one_toInt _ hq0 hq]
    · exact (saturating_toInt k hk cap n hq0).2 hq
  exact ⟨hval, hval ▸ Int.lt_add_one_iff.2 hq0⟩

theorem saturating_positive (k : BitVec 64 → BitVec 64 → BitVec 64) (hk : Saturating k)
    (cap n : BitVec 64) (hc : 0 ≤ cap.toInt) (hn : 0 < n.toInt) : 0 < (k cap n).toInt := by
  obtain ⟨hs, hq0, -, -⟩ := sdiv_facts cap n hc hn
  exact (saturating_toInt k hk cap n (hs ▸ hq0)).1

theorem tie_pSize (cap n : BitVec 64) (hc : 0 ≤ cap.toInt) (hn : 0 < n.toInt)
    (hov : cap.toInt < 2 ^ 63 - 1 ∨ 2 ≤ n.toInt) :
    (Nv.Gen.C04.pSize cap n).toInt = shardCap cap.toInt n.toNat ∧ 0 < (Nv.Gen.C04.pSize cap n).toInt := by
  refine shardCap_kernel Nv.Gen.C04.pSize ?_ cap n hc hn hov
  unfold KernelShape Nv.Gen.C04.pSize
  -- `with_reducible`: the shape that does not apply has to fail at once; at default transparency the failing `rfl`
  -- unfolds the 64-bit division first
  first
    | exact Or.inl (fun _ _ => by with_reducible rfl)
    | exact Or.inr (fun _ _ => by with_reducible rfl)

theorem tie_pSize_tiny (cap n : BitVec 64) (hc : 0 ≤ cap.toInt) (hn : 0 < n.toInt)
    (hov : cap.toInt < 2 ^ 63 - 1 ∨ 2 ≤ n.toInt) :
    (Nv.Gen.C04.pSizeTiny cap n).toInt = shardCap cap.toInt n.toNat ∧ 0 < (Nv.Gen.C04.pSizeTiny cap n).toInt := by
  refine shardCap_kernel Nv.Gen.C04.pSizeTiny ?_ cap n hc hn hov
  unfold KernelShape Nv.Gen.C04.pSizeTiny
  first
    | exact Or.inl (fun _ _ => by with_reducible rfl)
    | exact Or.inr (fun _ _ => by with_reducible rfl)

/-- FULL quantifier of the property (capacity ≥ 0, any shard count ≥ 1): every shard gets a positive capacity.
    False for `capacity/numbs + 1` (capacity = MaxInt64, one shard: `Nv.C04.witness_shard_capacity_overflow`);
    holds for the saturating form. -/
theorem tie_pSize_positive (cap n : BitVec 64) (hc : 0 ≤ cap.toInt) (hn : 0 < n.toInt) :
    0 < (Nv.Gen.C04.pSize cap n).toInt ∧ 0 < (Nv.Gen.C04.pSizeTiny cap n).toInt :=
  ⟨saturating_positive Nv.Gen.C04.pSize (fun _ _ => rfl) cap n hc hn,
   saturating_positive Nv.Gen.C04.pSizeTiny (fun _ _ => rfl) cap n hc hn⟩

end Nv.C04
