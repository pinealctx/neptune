import Nv.Model.C07
import Nv.Props.C07
import Nv.Gen.C07
/-!
C07 — obligations on the definitions regenerated from /repo's current source (`Nv/Gen/C07.lean`): the regenerated
kernels are the model's functions, and the property theorems restated directly on them.
-/
namespace Nv.C07
open Nv.C06 (figureShift idFields join LayoutOk tsWidth)

theorem tie_facts : Nv.Gen.C07.facts = Facts.expected := by decide

theorem tie_figureShift (nb : BitVec 8) (nal : Bool) :
    Nv.Gen.C07.figureShiftC nb nal = figureShift nb nal := by
  unfold Nv.Gen.C07.figureShiftC Nv.Gen.C07.figureShift figureShift; cases nal <;> rfl

theorem tie_figureShift' (nb : BitVec 8) (nal : Bool) :
    Nv.Gen.C07.figureShift nb nal = figureShift nb nal := tie_figureShift nb nal

theorem tie_idFields (id : BitVec 64) (nb : BitVec 8) (nal : Bool) :
    Nv.Gen.C07.idFieldsC id nb nal = idFields id nb nal := by
  unfold Nv.Gen.C07.idFieldsC Nv.Gen.C07.iDFields idFields
  rw [tie_figureShift']

theorem tie_idFields' (id : BitVec 64) (nb : BitVec 8) (nal : Bool) :
    Nv.Gen.C07.iDFields id nb nal = idFields id nb nal := tie_idFields id nb nal

theorem tie_idParse (id : BitVec 64) (nb : BitVec 8) (nal : Bool) (epoch : BitVec 64) :
    Nv.Gen.C07.idParseC id nb nal epoch = idParse id nb nal epoch := by
  unfold Nv.Gen.C07.idParseC Nv.Gen.C07.iDParse idParse
  rw [tie_idFields']

theorem tie_timeIDRange (nb : BitVec 8) (epoch sec : BitVec 64) :
    Nv.Gen.C07.timeIDRangeC nb epoch sec = timeIDRange nb epoch sec := by
  unfold Nv.Gen.C07.timeIDRangeC Nv.Gen.C07.timeIDRange timeIDRange lowMask; rfl

theorem tie_timeBetweenID (nb : BitVec 8) (epoch b e : BitVec 64) :
    Nv.Gen.C07.timeBetweenIDC nb epoch b e = timeBetweenID nb epoch b e := by
  unfold Nv.Gen.C07.timeBetweenIDC Nv.Gen.C07.timeBetweenID timeBetweenID lowMask; rfl

/-- split / join on the regenerated `IDFields` (the packing is `Generate`'s, see `Nv.C06.tie_hardGenerate`) -/
theorem tie_id_split_join {nb : BitVec 8} (hl : LayoutOk nb) (nal : Bool) (id : BitVec 64) (h : 0 ≤ id.toInt) :
    join nb nal (Nv.Gen.C07.idFieldsC id nb nal).1 (Nv.Gen.C07.idFieldsC id nb nal).2.1 (Nv.Gen.C07.idFieldsC id nb nal).2.2 = id := by
  rw [tie_idFields]; exact id_split_join hl nal id h

theorem tie_id_join_split {nb : BitVec 8} (hl : LayoutOk nb) (nal : Bool) (t n s : BitVec 64)
    (ht : t.toNat < 2 ^ tsWidth nb) (hn : n.toNat < 2 ^ nb.toNat) (hs : s.toNat < 4096) :
    Nv.Gen.C07.idFieldsC (join nb nal t n s) nb nal = (t, n, s) := by
  rw [tie_idFields]; exact (id_join_split hl nal t n s ht hn hs).1

theorem tie_id_order_lex {nb : BitVec 8} (hl : LayoutOk nb) (nal : Bool) (a b : BitVec 64) (ha : 0 ≤ a.toInt) (hb : 0 ≤ b.toInt) :
    a.toInt < b.toInt ↔
      ((Nv.Gen.C07.idFieldsC a nb nal).1.toInt < (Nv.Gen.C07.idFieldsC b nb nal).1.toInt ∨
        ((Nv.Gen.C07.idFieldsC a nb nal).1 = (Nv.Gen.C07.idFieldsC b nb nal).1 ∧ (rest a nb).toNat < (rest b nb).toNat)) := by
  rw [tie_idFields, tie_idFields]; exact id_order_lex hl nal a b ha hb

theorem tie_id_parse_fields (id : BitVec 64) (nb : BitVec 8) (nal : Bool) (epoch : BitVec 64) :
    (Nv.Gen.C07.idParseC id nb nal epoch).1 - epoch = (Nv.Gen.C07.idFieldsC id nb nal).1 ∧
    (Nv.Gen.C07.idParseC id nb nal epoch).2 = (Nv.Gen.C07.idFieldsC id nb nal).2 := by
  rw [tie_idParse, tie_idFields]; exact id_parse_fields id nb nal epoch

theorem tie_range_exact {nb : BitVec 8} (hl : LayoutOk nb) (nal : Bool) (epoch b e id : BitVec 64)
    (hb : ((b * 1000#64) - epoch).toNat < 2 ^ tsWidth nb) (he : ((e * 1000#64) - epoch).toNat < 2 ^ tsWidth nb)
    (hid : 0 ≤ id.toInt) :
    ((Nv.Gen.C07.timeBetweenIDC nb epoch b e).1.toInt ≤ id.toInt ∧ id.toInt ≤ (Nv.Gen.C07.timeBetweenIDC nb epoch b e).2.toInt) ↔
      (((b * 1000#64) - epoch).toInt ≤ (Nv.Gen.C07.idFieldsC id nb nal).1.toInt ∧
        (Nv.Gen.C07.idFieldsC id nb nal).1.toInt ≤ ((e * 1000#64) - epoch).toInt) := by
  rw [tie_timeBetweenID, tie_idFields]; exact range_exact hl nal epoch b e id hb he hid

theorem tie_range_exact_one {nb : BitVec 8} (hl : LayoutOk nb) (nal : Bool) (epoch sec id : BitVec 64)
    (hs : ((sec * 1000#64) - epoch).toNat < 2 ^ tsWidth nb) (hid : 0 ≤ id.toInt) :
    ((Nv.Gen.C07.timeIDRangeC nb epoch sec).1.toInt ≤ id.toInt ∧ id.toInt ≤ (Nv.Gen.C07.timeIDRangeC nb epoch sec).2.toInt) ↔
      (Nv.Gen.C07.idFieldsC id nb nal).1 = (sec * 1000#64) - epoch := by
  rw [tie_timeIDRange, time_id_range_eq, tie_idFields, range_exact hl nal epoch sec sec id hs hs hid, ← BitVec.toInt_inj]
  omega

/-- the accessor found in `FromChStyle` is inside the proved set (fails while the code converts through `UnixNano`:
    see `witness_unixNano_roundtrip`) -/
theorem tie_cfg_proved : Proved Nv.Gen.C07.cfg := by decide

theorem tie_cn_roundtrip (cal : Calendar) (D : Int → Prop) (law : cal.Lawful D)
    {nb : BitVec 8} (hl : LayoutOk nb) (epoch id : BitVec 64) (hid : 0 ≤ id.toInt) (hD : D (cnMs nb epoch id).toInt) :
    fromChStyle Nv.Gen.C07.cfg cal nb epoch (cnStyle cal nb epoch id) = some id :=
  cn_roundtrip tie_cfg_proved cal D law hl epoch id hid hD

theorem tie_cn_roundtrip_shanghai {nb : BitVec 8} (hl : LayoutOk nb) (epoch id : BitVec 64) (hid : 0 ≤ id.toInt)
    (he0 : 946684800000 ≤ epoch.toInt) (he1 : epoch.toInt ≤ 2 ^ 47) :
    (cnStyle shanghai nb epoch id).length = 24 ∧
    fromChStyle Nv.Gen.C07.cfg shanghai nb epoch (cnStyle shanghai nb epoch id) = some id :=
  cn_roundtrip_shanghai tie_cfg_proved hl epoch id hid he0 he1

end Nv.C07
