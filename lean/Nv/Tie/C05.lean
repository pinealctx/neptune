import Nv.Model.C05
import Nv.Spec.C05
import Nv.Gen.C05
/-! C05 — obligations on the definitions regenerated from /repo's current source. -/
namespace Nv.C05
theorem tie_facts : Nv.Gen.C05.facts = Facts.expected := by decide
theorem tie_cfg_proved : Proved Nv.Gen.C05.cfg := by decide

/-- the named atomicity assumption of the concurrency theorems holds for the facts regenerated from the source:
    Lock + deferred Unlock first in every public method of the in-memory cache; a consuming read is one GETDEL -/
theorem tie_atomic_calls : AtomicCalls Nv.Gen.C05.facts := ⟨by decide, by decide⟩

/-- The translated kernel `deadline(ttl)` (BitVec 64, Go semantics; `now()` is the parameter `now`) and the
    comparison `now() > node.deadline` of `get()` are what the model calls `deadline` / `expired`, for every
    ttl and every clock reading `t`, provided `now + ttl` does not overflow int64 (for `ttl ≤ 0` always). -/
theorem tie_deadline_kernel (ttl now t : BitVec 64) (hno : ttl.toInt ≤ 0 ∨ now.toInt + ttl.toInt < 2^63) :
    (Nv.Gen.C05.deadline ttl now).slt t = expired t.toInt (deadline now.toInt ttl.toInt) := by
  have hsle : BitVec.sle ttl 0#64 = decide (ttl.toInt ≤ 0) := by
    rw [Bool.eq_iff_iff, BitVec.sle_iff_toInt_le, decide_eq_true_eq]; rfl
  rw [Nv.Gen.C05.deadline, deadline, hsle]
  by_cases h : ttl.toInt ≤ 0
  · -- never: `MaxInt64 < t` fails for every `t`
    rw [decide_eq_true h, if_pos rfl, if_pos h, expired, Bool.eq_false_iff, ne_eq, BitVec.slt_iff_toInt_lt]
    have hb := BitVec.toInt_lt (x := t)
    have : (9223372036854775807#64 : BitVec 64).toInt = 2 ^ 63 - 1 := by decide
    omega
  · -- the sum stays inside int64, so the wrapped addition is the integer one
    have hadd : (now + ttl).toInt = now.toInt + ttl.toInt := by
      have hn := BitVec.le_toInt (x := now)
      apply BitVec.toInt_add_of_not_saddOverflow
      simp only [BitVec.saddOverflow, Bool.or_eq_true, decide_eq_true_eq]
      omega
    rw [decide_eq_false h, if_neg (by decide), if_neg h, expired, Bool.eq_iff_iff, BitVec.slt_iff_toInt_lt, hadd,
      decide_eq_true_eq]

/-- non-vacuity: ttl 60 at clock 1700000000 gives deadline 1700000060, elapsed at 1700000061 and not before -/
example : (Nv.Gen.C05.deadline 60#64 1700000000#64).slt 1700000061#64 = true ∧
    (Nv.Gen.C05.deadline 60#64 1700000000#64).slt 1700000060#64 = false := by decide
end Nv.C05
