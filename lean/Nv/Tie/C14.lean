import Nv.Props.C14
import Nv.Gen.C14
/-! C14 — obligations on the definitions regenerated from /repo's current source. -/
namespace Nv.C14

theorem tie_facts : Nv.Gen.C14.facts = Facts.expected := by decide

theorem tie_cfg_proved : Proved Nv.Gen.C14.cfg := by decide

/-- `slot_in_range`, stated on the regenerated `NormalizeSlotIndex`: for every hash and every positive
lane count the index lies in `[0, lanes)`.  The regenerated kernel is `slotRemFirst`, up to the names of its locals. -/
theorem tie_slot_in_range : SlotOk Nv.Gen.C14.normalizeSlotIndex :=
  slot_in_range_remFirst

end Nv.C14
