import Nv.Model.C17Glue
import Nv.Props.C17
import Nv.Proofs.Int64
/-!
C17 — obligations on the definitions regenerated from /repo's current source: facts, configuration,
and the property theorems stated directly on the translated kernels (boundary expression, clamp,
`SimpleIndex` tail and arms) as the oracle evaluates them (`genNps`, `genSearchIndex`, `genSimple`).
Shard counts `1 ≤ n < 2^63` (a Go slice cannot be longer; `int(r.numbs)` is then non-negative).
-/
namespace Nv.C17

theorem tie_facts : Nv.Gen.C17.facts = Facts.expected := by decide
theorem tie_cfg_proved : Proved Nv.Gen.C17.cfg := by decide

/-- `ToBytes` can hash a HitGroup implementer, as `route_total` needs for the property's full key space
    (fails on a tree whose `ToBytes` lacks the arm: the defect `C17:XHashIndex:HitGroup-key-unsupported`) -/
theorem tie_hitgroup_hashable : Nv.Gen.C17.hitHashable = true := by decide

/-- every key type the property lists gets an index from the regenerated xxhash route (the one that can panic:
    `genSimple` answers through an arm or falls back on it) -/
theorem tie_route_total (n : Nat) (k : Key) (hk : k.ty ≠ .other) : ∃ i, genXHash n k = .idx i := by
  have hh : k.hashable Nv.Gen.C17.hitHashable = true := by
    rw [tie_hitgroup_hashable]; exact hashable_of_listed k hk
  exact ⟨genSearchIndex n k.hash, by rw [genXHash, if_pos hh]⟩

private theorem toNat_ofNat_lt {i : Nat} (h : i < 2 ^ 64) : (BitVec.ofNat 64 i).toNat = i := by
  rw [BitVec.toNat_ofNat]; exact Nat.mod_eq_of_lt h

theorem tie_nps (n i : Nat) (h2 : n < 2 ^ 64) (hi : i < n) : genNps n i = nps Nv.Gen.C17.cfg n i := by
  have hy : (Nv.Gen.C17.npsY (BitVec.ofNat 64 n)).toNat = yOf n := by
    rw [Nv.Gen.C17.npsY, BitVec.udiv_eq, BitVec.toNat_udiv, toNat_ofNat_lt h2]; rfl
  have h1 : (BitVec.ofNat 64 i + 1#64).toNat = i + 1 := by
    rw [BitVec.toNat_add, toNat_ofNat_lt (Nat.lt_trans hi h2)]
    exact Nat.mod_eq_of_lt (Nat.lt_of_le_of_lt hi h2)
  rw [genNps, Nv.Gen.C17.npsAt, BitVec.toNat_mul, hy, h1]
  rfl

theorem tie_clamp (n i : Nat) (h2 : n < 2 ^ 63) (hi : i ≤ n) : genClamp n i = clampSpec n i := by
  have hi63 : i < 2 ^ 63 := Nat.lt_of_le_of_lt hi h2
  -- both are non-negative as `int`, so the signed comparisons are the comparisons of the numbers
  have h0 : (BitVec.ofNat 64 i).slt 0#64 = false := by
    rw [BitVec.slt_eq_decide, toInt_ofNat_small i hi63]; exact decide_eq_false (Int.not_lt.2 (Int.natCast_nonneg i))
  have hs : (BitVec.ofNat 64 n).sle (BitVec.ofNat 64 i) = decide (i ≥ n) := by
    rw [BitVec.sle_eq_decide, toInt_ofNat_small i hi63, toInt_ofNat_small n h2]; simp
  rw [genClamp, Nv.Gen.C17.searchClamp, h0, hs, Bool.false_or, clampSpec]
  by_cases h : i ≥ n
  · rw [decide_eq_true h, if_pos rfl, if_pos h]; rfl
  · rw [decide_eq_false h, if_neg Bool.false_ne_true, if_neg h, toNat_ofNat_lt (Nat.lt_trans hi63 (by decide))]

theorem tie_search_eq (n x : Nat) (h2 : n < 2 ^ 63) : genSearchIndex n x = searchIndex Nv.Gen.C17.cfg n x := by
  have h64 : n < 2 ^ 64 := Nat.lt_trans h2 (by decide)
  rw [genSearchIndex, searchIndex, searchWith, searchWith,
    bsearch_congr (fun i => holds Nv.Gen.C17.cfg.searchPred (genNps n i) x)
      (fun i => holds Nv.Gen.C17.cfg.searchPred (nps Nv.Gen.C17.cfg n i) x) n
      (fun k hk => by rw [tie_nps n k h64 hk]) n 0 n (Nat.le_refl _)]
  exact tie_clamp n _ h2 (bsearch_bounds _ n 0 n (Nat.zero_le _)).2

private theorem le_M64 {n : Nat} (h : n < 2 ^ 63) : n ≤ M64 := Nat.le_of_lt (Nat.lt_trans h (by decide))

/-- range + the partition, on what the code computes today -/
theorem tie_partition (n x : Nat) (h1 : 1 ≤ n) (h2 : n < 2 ^ 63) (hx : x < 2 ^ 64) :
    genSearchIndex n x < n ∧ x ≤ genNps n (genSearchIndex n x) ∧
      (0 < genSearchIndex n x → genNps n (genSearchIndex n x - 1) < x) := by
  have h64 : n < 2 ^ 64 := Nat.lt_trans h2 (by decide)
  have hp := partition_total Nv.Gen.C17.cfg tie_cfg_proved n x h1 (le_M64 h2) hx
  rw [tie_search_eq n x h2, tie_nps n _ h64 hp.1, tie_nps n _ h64 (Nat.lt_of_le_of_lt (Nat.sub_le _ 1) hp.1)]
  exact hp

theorem tie_search_monotone (n x y : Nat) (h1 : 1 ≤ n) (h2 : n < 2 ^ 63) (hxy : x ≤ y) (hy : y < 2 ^ 64) :
    genSearchIndex n x ≤ genSearchIndex n y := by
  rw [tie_search_eq n x h2, tie_search_eq n y h2]
  exact search_monotone Nv.Gen.C17.cfg tie_cfg_proved n x y h1 (le_M64 h2) hxy hy

/-- the translated tail `int(it % r.numbs)` is in `[0, n)` as an `int`, for every `it` -/
theorem tie_simple_tail (it n : BitVec 64) (h1 : 0 < n.toNat) (h2 : n.toNat < 2 ^ 63) :
    (Nv.Gen.C17.simpleTail it n).toNat = it.toNat % n.toNat ∧
      0 ≤ (Nv.Gen.C17.simpleTail it n).toInt ∧ (Nv.Gen.C17.simpleTail it n).toInt < n.toNat := by
  have hv : (Nv.Gen.C17.simpleTail it n).toNat = it.toNat % n.toNat := BitVec.toNat_umod
  have hlt : it.toNat % n.toNat < n.toNat := Nat.mod_lt _ h1
  -- below 2^63, so the `int` is the number itself
  rw [BitVec.toInt_eq_toNat_of_lt (hv ▸ Nat.lt_of_lt_of_le
    (Nat.mul_lt_mul_of_pos_left (Nat.lt_trans hlt h2) Nat.two_pos) (by decide)), hv]
  exact ⟨rfl, Int.natCast_nonneg _, Int.ofNat_lt.2 hlt⟩

/-- every arm of today's type switch yields a value (no arm was dropped from the regenerated table) -/
theorem tie_arms_total (t : KType) (ht : t ∈ simpleArmsExpected) (b : Nat) : (Nv.Gen.C17.simpleArm t b).isSome = true := by
  cases t <;> first | rfl | exact absurd ht (by decide)

/-- `SimpleIndex` and `XHashIndex` as computed by the regenerated kernels are in range for every key -/
theorem tie_route_in_range (n : Nat) (h1 : 1 ≤ n) (h2 : n < 2 ^ 63) (k : Key) (hh : k.hash < 2 ^ 64) :
    (∀ i, genSimple n k = .idx i → i < n) ∧ (∀ i, genXHash n k = .idx i → i < n) := by
  have hx : ∀ i, genXHash n k = .idx i → i < n := by
    intro i h
    rw [genXHash] at h
    split at h
    · cases h; exact (tie_partition n _ h1 h2 hh).1
    · cases h
  refine ⟨fun i h => ?_, hx⟩
  rw [genSimple] at h
  cases ha : Nv.Gen.C17.simpleArm k.ty k.bits with
  | none => rw [ha] at h; exact hx i h
  | some it =>
    rw [ha] at h
    cases h
    have hn : (BitVec.ofNat 64 n).toNat = n := toNat_ofNat_lt (Nat.lt_trans h2 (by decide))
    rw [(tie_simple_tail it (BitVec.ofNat 64 n) (hn.symm ▸ h1) (hn.symm ▸ h2)).1, hn]
    exact Nat.mod_lt _ h1

end Nv.C17
