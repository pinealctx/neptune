import Nv.Basic
/-!
C08 — model of `bitmap1024/internal.Bit64` and `bitmap1024.Bit1024`: set/unset, counting,
set algebra and the twenty hand-copied iterators (5 element widths × 2 directions, each with
a dense scan and a sparse find-first-set branch selected by `sparseMagic`).

The iterator is written once per direction, generic in the element width `w`
(`BitVec 8/16/32/64`; the value written is `ofNat w i + add`, wrapping like Go's typed
arithmetic). That each of the twenty Go bodies is the template modulo element type is a
regenerated fact (`Nv.Gen.C08.facts`). Slice writes are bounds-checked: `none` = Go panic.
`math/bits` (`OnesCount64`, `TrailingZeros64`, `Len64`) is modelled, not verified.
Core Lean only.
-/
namespace Nv.C08

abbrev Bit64 := BitVec 64

/-- constants of the source the model depends on (regenerated) -/
structure Cfg where
  sparseMagic : Int     -- initial value of `sparseMagic` (popcount threshold dense/sparse)
  b64 : Nat             -- `B64`
  l16 : Nat             -- `L16`
deriving DecidableEq, Repr

/-- configurations for which the theorems are proved: any threshold whatsoever -/
def Proved (c : Cfg) : Prop := c.b64 = 64 ∧ c.l16 = 16
instance : DecidablePred Proved := fun c => by unfold Proved; exact inferInstance

/-- shape of one Go function body after normalisation, as classified by the extractor -/
inductive Shape
  | fwd       -- the forward iterator template
  | rev       -- the reverse iterator template
  | ok        -- (non-iterator) equals the expected body
  | unknown   -- anything else
deriving DecidableEq, Repr

structure Facts where
  iter64 : List Shape      -- Bit64.IterAs{I64,I32,U32,I16,I8}
  riter64 : List Shape     -- Bit64.RIterAs{I64,I32,U32,I16,I8}
  iter1024 : List Shape    -- Bit1024.IterAs{I64,I32,U32,I16}
  riter1024 : List Shape   -- Bit1024.RIterAs{I64,I32,U32,I16}
  getN64 : List Shape      -- Bit64.getNAs{I64,I32,I16,I8} + the 8 public wrappers
  getN1024 : List Shape    -- Bit1024.getNAs{I64,I32,I16} + the 6 public wrappers
  algebra64 : List Shape   -- Bit64.{Len,NLen,Full,Reverse,And,Or}
  algebra1024 : List Shape -- Bit1024.{Len,NLen,Reverse,OrThenReverse,And,Or,Equal}, NewBit1024
  tabInit : Shape          -- the single `init` of internal/bit64.go, whole body: u64Tab[i] = 1 << i, seq64Buf[i] = i
  setters : List Shape     -- Bit1024.{SetI32,UnsetI32,SetI16,UnsetI16}, whole bodies (nothing after the Set/Unset call)
  kernelLocks : Nat        -- Lock/Unlock statements dropped by the translator in the six kernels (must be 0)
deriving DecidableEq, Repr

def Facts.expected : Facts where
  iter64 := [.fwd, .fwd, .fwd, .fwd, .fwd]
  riter64 := [.rev, .rev, .rev, .rev, .rev]
  iter1024 := [.fwd, .fwd, .fwd, .fwd]
  riter1024 := [.rev, .rev, .rev, .rev]
  getN64 := List.replicate 12 .ok
  getN1024 := List.replicate 9 .ok
  algebra64 := List.replicate 6 .ok
  algebra1024 := List.replicate 8 .ok
  tabInit := .ok
  setters := List.replicate 4 .ok
  kernelLocks := 0

/-! ## 64-bit layer -/

/-- `u64Tab[i]` -/
def bit (i : Nat) : Bit64 := 1#64 <<< i

/-- `func (b *Bit64) Set(i byte)` -/
def set64 (b : Bit64) (i : BitVec 8) : Bit64 :=
  if BitVec.ule i 63#8 then b ||| (1#64 <<< i.toNat) else b

/-- `func (b *Bit64) Unset(i byte)` -/
def unset64 (b : Bit64) (i : BitVec 8) : Bit64 :=
  if BitVec.ule i 63#8 then b &&& ~~~(1#64 <<< i.toNat) else b

/-- the set a word denotes, ascending -/
def members (w : Bit64) : List Nat := (List.range 64).filter w.getLsbD

/-- `bits.OnesCount64` (modelled) -/
def popcount (w : Bit64) : Nat := (members w).length

def full (b : Bit64) : Bool := b == ~~~(0#64)
/-- `Bit64.Len` -/
def len64 (b : Bit64) : Nat := if full b then 64 else popcount b
def nlen64 (b : Bit64) : Nat := 64 - len64 b
def reverse64 (b : Bit64) : Bit64 := ~~~b
def and64 (b c : Bit64) : Bit64 := b &&& c
def or64 (b c : Bit64) : Bit64 := b ||| c

/-- `bits.TrailingZeros64` (modelled): index of the lowest set bit, 64 for 0 -/
def tz64 (w : Bit64) : Nat := ((List.range 64).find? w.getLsbD).getD 64
/-- `bits.Len64` (modelled): 1 + index of the highest set bit, 0 for 0 -/
def bitlen64 (w : Bit64) : Nat :=
  match (List.range 64).reverse.find? w.getLsbD with
  | some i => i + 1
  | none => 0

/-- `s[cursor] = v` with Go's bounds check -/
def put {α} (s : List α) (cursor : Int) (v : α) : Option (List α) :=
  if 0 ≤ cursor ∧ cursor.toNat < s.length then some (s.set cursor.toNat v) else none

/-- loop state of one 64-bit iterator: slice, `cursor`, `c`, `w` -/
structure St (w : Nat) where
  s : List (BitVec w)
  cursor : Int
  c : Nat
  word : Bit64

/-- scan order of the dense loop: `i = 0…63` or `i = 63…0` -/
def order (rev : Bool) : List Nat := if rev then (List.range 64).reverse else List.range 64

/-- dense branch: `for i … { if w&u64Tab[i] != 0 { if c >= n || c >= l {break}; s[cursor] = i+add; cursor++; c++;
    w &= ^u64Tab[i]; if w == 0 {break} } }` -/
def denseLoop {w : Nat} (add : BitVec w) (n : Int) (l : Nat) : List Nat → St w → Option (St w)
  | [], st => some st
  | i :: is, st =>
    if st.word &&& bit i != 0#64 then
      if (st.c : Int) ≥ n ∨ st.c ≥ l then some st
      else match put st.s st.cursor (BitVec.ofNat w i + add) with
        | none => none
        | some s' =>
          let word' := st.word &&& ~~~(bit i)
          let st' : St w := ⟨s', st.cursor + 1, st.c + 1, word'⟩
          if word' == 0#64 then some st' else denseLoop add n l is st'
    else denseLoop add n l is st

/-- sparse branch: `for w != 0 { i = TrailingZeros64(w) (resp. Len64(w)-1); if c >= n || c >= l {break};
    s[cursor] = T(i)+add; cursor++; c++; w &= ^u64Tab[i] }`. Every round clears a bit, so 64 rounds of fuel
    are never exhausted with `w ≠ 0` (see `sparseLoop_eq_emit`). -/
def sparseLoop {w : Nat} (rev : Bool) (add : BitVec w) (n : Int) (l : Nat) : Nat → St w → Option (St w)
  | 0, st => some st
  | fuel + 1, st =>
    if st.word == 0#64 then some st
    else
      let i := if rev then bitlen64 st.word - 1 else tz64 st.word
      if (st.c : Int) ≥ n ∨ st.c ≥ l then some st
      else match put st.s st.cursor (BitVec.ofNat w i + add) with
        | none => none
        | some s' => sparseLoop rev add n l fuel ⟨s', st.cursor + 1, st.c + 1, st.word &&& ~~~(bit i)⟩

/-- `Bit64.IterAs*` / `Bit64.RIterAs*`: result slice and returned count; `none` = index-out-of-range panic -/
def iter64 {w : Nat} (magic : Int) (rev : Bool) (b : Bit64) (s : List (BitVec w)) (pos : Int)
    (add : BitVec w) (n : Int) : Option (List (BitVec w) × Nat) :=
  let l := len64 b
  if l = 0 then some (s, 0)
  else
    let st0 : St w := ⟨s, pos, 0, b⟩
    let r := if (l : Int) > magic then denseLoop add n l (order rev) st0 else sparseLoop rev add n l 64 st0
    r.map (fun st => (st.s, st.c))

/-- outcome of the `GetNAs*` family -/
inductive GetN (α : Type)
  | panic            -- `make([]T, n)` with negative n (or an out-of-range write)
  | nil              -- `iterN == 0`
  | slice (l : List α)
deriving DecidableEq, Repr

def getNOf {w : Nat} (n : Int) (it : List (BitVec w) → Option (List (BitVec w) × Nat)) : GetN (BitVec w) :=
  if n < 0 then .panic
  else match it (List.replicate n.toNat 0) with
    | none => .panic
    | some (s, c) => if c = 0 then .nil else .slice (s.take c)

/-- `Bit64.getNAs*` -/
def getN64 {w : Nat} (magic : Int) (rev : Bool) (b : Bit64) (n : Int) : GetN (BitVec w) :=
  getNOf n (fun s => iter64 magic rev b s 0 0 n)

/-! ## 1024-bit layer -/

abbrev Bit1024 := Vector Bit64 16

def empty1024 : Bit1024 := Vector.replicate 16 0#64

def modifyWord (b : Bit1024) (k : Nat) (f : Bit64 → Bit64) : Bit1024 :=
  if h : k < 16 then b.set k (f b[k]) else b

/-- index arithmetic of `SetI32/UnsetI32`: (guard passed, word index, `byte(i % B64)`) -/
def selI32 (i : BitVec 32) : Bool × BitVec 32 × BitVec 8 :=
  let index := BitVec.sdiv i 64#32
  if BitVec.sle 0#32 index && BitVec.slt index 16#32 then
    (true, index, BitVec.setWidth 8 (BitVec.srem i 64#32))
  else (false, 0#32, 0#8)

/-- index arithmetic of `SetI16/UnsetI16` -/
def selI16 (i : BitVec 16) : Bool × BitVec 16 × BitVec 8 :=
  let index := BitVec.sdiv i 64#16
  if BitVec.sle 0#16 index && BitVec.slt index 16#16 then
    (true, index, BitVec.setWidth 8 (BitVec.srem i 64#16))
  else (false, 0#16, 0#8)

def setI32 (b : Bit1024) (i : BitVec 32) : Bit1024 :=
  let r := selI32 i
  if r.1 then modifyWord b r.2.1.toNat (set64 · r.2.2) else b
def unsetI32 (b : Bit1024) (i : BitVec 32) : Bit1024 :=
  let r := selI32 i
  if r.1 then modifyWord b r.2.1.toNat (unset64 · r.2.2) else b
def setI16 (b : Bit1024) (i : BitVec 16) : Bit1024 :=
  let r := selI16 i
  if r.1 then modifyWord b r.2.1.toNat (set64 · r.2.2) else b
def unsetI16 (b : Bit1024) (i : BitVec 16) : Bit1024 :=
  let r := selI16 i
  if r.1 then modifyWord b r.2.1.toNat (unset64 · r.2.2) else b

/-- membership of an index in the 1024-bit set -/
def mem1024 (b : Bit1024) (i : Nat) : Bool :=
  if h : i / 64 < 16 then b[i / 64].getLsbD (i % 64) else false

def members1024 (b : Bit1024) : List Nat := (List.range 1024).filter (mem1024 b)

def len1024 (b : Bit1024) : Nat := (b.toList.map len64).sum
def nlen1024 (b : Bit1024) : Nat := 1024 - len1024 b
def reverse1024 (b : Bit1024) : Bit1024 := b.map reverse64
def and1024 (b c : Bit1024) : Bit1024 := Vector.zipWith and64 b c
def or1024 (b c : Bit1024) : Bit1024 := Vector.zipWith or64 b c
def orThenReverse1024 (b c : Bit1024) : Bit1024 := Vector.zipWith (fun x y => reverse64 (or64 x y)) b c
def equal1024 (b c : Bit1024) : Bool := b.toList == c.toList

/-- the `for i … L16` loop of `Bit1024.IterAs*`: `if iterN >= n {break}; eIterN = b[i].Iter(s, cursor, B64*i+add, left);
    iterN += eIterN; cursor += eIterN; left = n - iterN` (`left` is always `n - iterN` at the call) -/
def chain {w : Nat} (c : Cfg) (magic : Int) (rev : Bool) (add : BitVec w) (n : Int) :
    List (Bit64 × Nat) → List (BitVec w) → Int → Nat → Option (List (BitVec w) × Nat)
  | [], s, _, iterN => some (s, iterN)
  | (word, k) :: rest, s, cursor, iterN =>
    if (iterN : Int) ≥ n then some (s, iterN)
    else match iter64 magic rev word s cursor (BitVec.ofNat w (c.b64 * k) + add) (n - iterN) with
      | none => none
      | some (s', e) => chain c magic rev add n rest s' (cursor + e) (iterN + e)

/-- words in visiting order, with their index -/
def wordsOf (c : Cfg) (rev : Bool) (b : Bit1024) : List (Bit64 × Nat) :=
  let l := (b.toList.zipIdx).take c.l16
  if rev then l.reverse else l

/-- `Bit1024.IterAs*` / `Bit1024.RIterAs*` -/
def iter1024 {w : Nat} (c : Cfg) (magic : Int) (rev : Bool) (b : Bit1024) (s : List (BitVec w)) (pos : Int)
    (add : BitVec w) (n : Int) : Option (List (BitVec w) × Nat) :=
  chain c magic rev add n (wordsOf c rev b) s pos 0

/-- `Bit1024.getNAs*` -/
def getN1024 {w : Nat} (c : Cfg) (magic : Int) (rev : Bool) (b : Bit1024) (n : Int) : GetN (BitVec w) :=
  getNOf n (fun s => iter1024 c magic rev b s 0 0 n)

/-! ## specification vocabulary -/

/-- overwrite `xs` into `s` starting at `pos` -/
def writeAt {α} (s : List α) (pos : Nat) (xs : List α) : List α :=
  s.take pos ++ xs ++ s.drop (pos + xs.length)

/-- what an iterator must produce: the first `n` members in the direction's order, offset by `add` -/
def expected {w : Nat} (rev : Bool) (ms : List Nat) (add : BitVec w) (n : Int) : List (BitVec w) :=
  ((if rev then ms.reverse else ms).take n.toNat).map (fun i => BitVec.ofNat w i + add)

end Nv.C08
