import Nv.Model.C07
/-! C07 — zero-padded decimal text: `atoi (padInt w n) = n` and the slices of the 24-character date form. -/
namespace Nv.C07

theorem lastDigits_length : ∀ (w n : Nat), (lastDigits w n).length = w
  | 0, _ => rfl
  | w + 1, n => by simp [lastDigits, lastDigits_length w]

theorem digitVal_digitChar (n : Nat) : digitVal (digitChar n) = some (n % 10) := by
  have key : ∀ d : Fin 10, digitVal (Char.ofNat (48 + d.val)) = some d.val := by decide
  have := key ⟨n % 10, Nat.mod_lt _ (by decide)⟩
  simpa [digitChar] using this

theorem digitChar_not_sign (n : Nat) : digitChar n ≠ '-' ∧ digitChar n ≠ '+' := by
  have key : ∀ d : Fin 10, Char.ofNat (48 + d.val) ≠ '-' ∧ Char.ofNat (48 + d.val) ≠ '+' := by decide
  exact key ⟨n % 10, Nat.mod_lt _ (by decide)⟩

theorem digitsVal_append : ∀ (xs ys : List Char) (acc : Nat),
    digitsVal (xs ++ ys) acc = (digitsVal xs acc).bind (fun a => digitsVal ys a)
  | [], _, _ => rfl
  | c :: xs, ys, acc => by
    simp only [List.cons_append, digitsVal]
    cases digitVal c with
    | none => rfl
    | some d => exact digitsVal_append xs ys _

theorem digitsVal_lastDigits : ∀ (w n acc : Nat), digitsVal (lastDigits w n) acc = some (acc * 10 ^ w + n % 10 ^ w)
  | 0, n, acc => by simp [lastDigits, digitsVal, Nat.mod_one]
  | w + 1, n, acc => by
    rw [lastDigits, digitsVal_append, digitsVal_lastDigits w (n / 10) acc]
    simp only [Option.bind_some, digitsVal, digitVal_digitChar]
    congr 1
    have : n % 10 ^ (w + 1) = n % 10 + 10 * (n / 10 % 10 ^ w) := by
      rw [Nat.pow_succ, Nat.mul_comm (10 ^ w) 10, Nat.mod_mul]
    rw [this, Nat.pow_succ]
    generalize n / 10 % 10 ^ w = a
    generalize 10 ^ w = p
    rw [Nat.add_mul, Nat.mul_assoc]; omega

theorem lastDigits_not_sign : ∀ (w n : Nat) (c : Char), c ∈ lastDigits w n → c ≠ '-' ∧ c ≠ '+'
  | 0, _, _, h => nomatch h
  | w + 1, n, c, h => by
    rw [lastDigits, List.mem_append, List.mem_singleton] at h
    rcases h with h | rfl
    · exact lastDigits_not_sign w _ c h
    · exact digitChar_not_sign n

theorem atoi_of_not_sign {cs : List Char} (hne : cs ≠ []) (h : ∀ c ∈ cs, c ≠ '-' ∧ c ≠ '+') :
    atoi cs = (digitsVal cs 0).map (fun n => (n : Int)) := by
  unfold atoi
  split
  · exact absurd rfl hne
  · exact absurd rfl (h '-' (List.mem_cons_self ..)).1
  · exact absurd rfl (h '+' (List.mem_cons_self ..)).2
  · rfl

theorem padInt_of_fits {w : Nat} {n : Int} (h : 0 ≤ n ∧ n < 10 ^ w) : padInt w n = lastDigits w n.toNat :=
  if_pos h

theorem padInt_length {w : Nat} {n : Int} (h : 0 ≤ n ∧ n < 10 ^ w) : (padInt w n).length = w := by
  rw [padInt_of_fits h, lastDigits_length]

theorem atoi_padInt {w : Nat} (hw : 0 < w) {n : Int} (h : 0 ≤ n ∧ n < 10 ^ w) : atoi (padInt w n) = some n := by
  rw [padInt_of_fits h, atoi_of_not_sign (List.ne_nil_of_length_pos (by rw [lastDigits_length]; exact hw))
    (lastDigits_not_sign w _), digitsVal_lastDigits]
  have hlt : n.toNat < 10 ^ w := (Int.toNat_lt h.1).2 (by rw [Int.natCast_pow]; exact h.2)
  show some ((0 * 10 ^ w + n.toNat % 10 ^ w : Nat) : Int) = some n
  rw [Nat.zero_mul, Nat.zero_add, Nat.mod_eq_of_lt hlt, Int.toNat_of_nonneg h.1]

/-- the eight slices `FromChStyle` takes of a text built from eight segments of widths 4,2,2,2,2,2,3,7 -/
theorem slices (a b c d e f g h : List Char) (ha : a.length = 4) (hb : b.length = 2) (hc : c.length = 2) (hd : d.length = 2)
    (he : e.length = 2) (hf : f.length = 2) (hg : g.length = 3) (hh : h.length = 7) :
    let v := a ++ b ++ c ++ d ++ e ++ f ++ g ++ h
    v.length = 24 ∧ v.take 4 = a ∧ (v.drop 4).take 2 = b ∧ (v.drop 6).take 2 = c ∧ (v.drop 8).take 2 = d ∧
      (v.drop 10).take 2 = e ∧ (v.drop 12).take 2 = f ∧ (v.drop 14).take 3 = g ∧ v.drop 17 = h := by
  intro v
  have hv : v = a ++ (b ++ (c ++ (d ++ (e ++ (f ++ (g ++ h)))))) := by simp [v, List.append_assoc]
  have d4 : v.drop 4 = b ++ (c ++ (d ++ (e ++ (f ++ (g ++ h))))) := by rw [hv]; exact List.drop_left' ha
  have d6 : v.drop 6 = c ++ (d ++ (e ++ (f ++ (g ++ h)))) := by
    rw [show 6 = 4 + 2 from rfl, ← List.drop_drop, d4]; exact List.drop_left' hb
  have d8 : v.drop 8 = d ++ (e ++ (f ++ (g ++ h))) := by
    rw [show 8 = 6 + 2 from rfl, ← List.drop_drop, d6]; exact List.drop_left' hc
  have d10 : v.drop 10 = e ++ (f ++ (g ++ h)) := by
    rw [show 10 = 8 + 2 from rfl, ← List.drop_drop, d8]; exact List.drop_left' hd
  have d12 : v.drop 12 = f ++ (g ++ h) := by
    rw [show 12 = 10 + 2 from rfl, ← List.drop_drop, d10]; exact List.drop_left' he
  have d14 : v.drop 14 = g ++ h := by
    rw [show 14 = 12 + 2 from rfl, ← List.drop_drop, d12]; exact List.drop_left' hf
  have d17 : v.drop 17 = h := by
    rw [show 17 = 14 + 3 from rfl, ← List.drop_drop, d14]; exact List.drop_left' hg
  refine ⟨by rw [hv]; simp [ha, hb, hc, hd, he, hf, hg, hh], by rw [hv]; exact List.take_left' ha, ?_, ?_, ?_, ?_, ?_, ?_, d17⟩
  · rw [d4]; exact List.take_left' hb
  · rw [d6]; exact List.take_left' hc
  · rw [d8]; exact List.take_left' hd
  · rw [d10]; exact List.take_left' he
  · rw [d12]; exact List.take_left' hf
  · rw [d14]; exact List.take_left' hg

end Nv.C07
