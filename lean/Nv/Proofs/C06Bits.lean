import Nv.Model.C06
/-!
Bit-field arithmetic of the snowflake layout, shared by C06 and C07: value of `join`, `idFields` of a
`join`, `join` of `idFields`.

An id is three fields `t · 2^(wh+wl) + (h · 2^wl + l)`. The arithmetic (`pack_lt`, `pack_toNat`, `unpack`,
`repack`) is done once for arbitrary widths `wh`, `wl`; the two field orders of the package are the
instances `(h, l, wh, wl) = (node, step, nb, 12)` and, node at lowest, `(step, node, 12, nb)`.
-/
namespace Nv.C06

/-- the three node widths of the package (`Node256`, `Node512`, `Node1024`) -/
def LayoutOk (nb : BitVec 8) : Prop := nb = 8#8 ∨ nb = 9#8 ∨ nb = 10#8
instance : DecidablePred LayoutOk := fun nb => by unfold LayoutOk; exact inferInstance

/-- bits of node and step together (everything below the timestamp) -/
def lowNat (nb : BitVec 8) (nal : Bool) (n s : Nat) : Nat :=
  if nal then s * 2 ^ nb.toNat + n else n * 4096 + s

def tsShift (nb : BitVec 8) : Nat := nb.toNat + 12

def tsWidth (nb : BitVec 8) : Nat := 51 - nb.toNat

def nodeNat (nb : BitVec 8) (nal : Bool) (x : Nat) : Nat :=
  if nal then x % 2 ^ nb.toNat else x / 4096 % 2 ^ nb.toNat

def stepNat (nb : BitVec 8) (nal : Bool) (x : Nat) : Nat :=
  if nal then x / 2 ^ nb.toNat % 4096 else x % 4096

/-- Nothing else of `LayoutOk` is used below, and of this only `nb ≤ 51` (timestamp width and shift add up to the
    63 value bits): the lemmas hold for every such node width, not only the three of the package. -/
theorem LayoutOk.le {nb : BitVec 8} (hl : LayoutOk nb) : nb.toNat ≤ 10 := by
  rcases hl with rfl | rfl | rfl <;> decide

theorem or_eq_add_nat (a b i : Nat) (hb : b < 2 ^ i) : (a * 2 ^ i) ||| b = a * 2 ^ i + b := by
  rw [← Nat.shiftLeft_eq, ← Nat.shiftLeft_add_eq_or_of_lt hb]

theorem pack_lt {a b wa wb : Nat} (ha : a < 2 ^ wa) (hb : b < 2 ^ wb) : a * 2 ^ wb + b < 2 ^ (wa + wb) := by
  have := Nat.mul_le_mul_right (2 ^ wb) (Nat.succ_le_of_lt ha)
  rw [Nat.succ_mul, ← Nat.pow_add] at this
  omega

theorem unpack {x t h l wh wl : Nat} (hh : h < 2 ^ wh) (hl : l < 2 ^ wl)
    (hx : x = t * 2 ^ (wh + wl) + (h * 2 ^ wl + l)) :
    x / 2 ^ (wh + wl) = t ∧ x / 2 ^ wl % 2 ^ wh = h ∧ x % 2 ^ wl = l := by
  have e : x = (t * 2 ^ wh + h) * 2 ^ wl + l := by
    rw [hx, Nat.pow_add, Nat.add_mul, Nat.mul_assoc, Nat.add_assoc]
  refine ⟨?_, ?_, ?_⟩
  · rw [hx, Nat.mul_comm, Nat.mul_add_div (Nat.two_pow_pos _), Nat.div_eq_of_lt (pack_lt hh hl), Nat.add_zero]
  · rw [e, Nat.mul_comm, Nat.mul_add_div (Nat.two_pow_pos _), Nat.div_eq_of_lt hl, Nat.add_zero,
      Nat.mul_add_mod_of_lt hh]
  · rw [e, Nat.mul_add_mod_of_lt hl]

theorem repack (x wh wl : Nat) :
    x / 2 ^ (wh + wl) * 2 ^ (wh + wl) + (x / 2 ^ wl % 2 ^ wh * 2 ^ wl + x % 2 ^ wl) = x := by
  have := Nat.div_add_mod' x (2 ^ (wh + wl))
  rw [Nat.add_comm wh, Nat.pow_add, Nat.mod_mul, Nat.mul_comm (2 ^ wl) (_ % _)] at this
  rw [Nat.add_comm wh, Nat.pow_add]
  omega

theorem toInt_eq_toNat_of_lt {x : BitVec 64} (h : x.toNat < 2 ^ 63) : x.toInt = (x.toNat : Int) :=
  BitVec.toInt_eq_toNat_of_lt (by omega)

theorem toNat_lt_of_toInt_nonneg {x : BitVec 64} (h : 0 ≤ x.toInt) : x.toNat < 2 ^ 63 := by
  have := BitVec.toInt_neg_iff (x := x)
  omega

/-- a field shifted into place keeps its value when it and what lies below it stay inside the word -/
theorem shiftLeft_toNat {x : BitVec 64} {k b w : Nat} (h : x.toNat * 2 ^ k + b < 2 ^ w) (hw : w ≤ 64) :
    (x <<< k).toNat = x.toNat * 2 ^ k := by
  have := Nat.lt_of_lt_of_le h (Nat.pow_le_pow_right Nat.zero_lt_two hw)
  rw [BitVec.toNat_shiftLeft, Nat.shiftLeft_eq, Nat.mod_eq_of_lt (Nat.lt_of_le_of_lt (Nat.le_add_right _ _) this)]

theorem pack_toNat {t h l : BitVec 64} {wt wh wl : Nat} (hw : wt + (wh + wl) ≤ 64)
    (ht : t.toNat < 2 ^ wt) (hh : h.toNat < 2 ^ wh) (hl : l.toNat < 2 ^ wl) :
    (t <<< (wh + wl) ||| h <<< wl ||| l).toNat = t.toNat * 2 ^ (wh + wl) + (h.toNat * 2 ^ wl + l.toNat) := by
  have hlow := pack_lt hh hl
  rw [BitVec.toNat_or, BitVec.toNat_or, shiftLeft_toNat (pack_lt ht hlow) hw,
    shiftLeft_toNat hlow (Nat.le_trans (Nat.le_add_left _ _) hw), Nat.or_assoc,
    or_eq_add_nat _ _ _ hl, or_eq_add_nat _ _ _ hlow]

theorem sshiftRight_toNat {id : BitVec 64} (h : id.toNat < 2 ^ 63) (k : Nat) :
    (BitVec.sshiftRight id k).toNat = id.toNat / 2 ^ k := by
  rw [BitVec.toNat_sshiftRight_of_msb_false (by rw [BitVec.msb_eq_false_iff_two_mul_lt]; omega),
    Nat.shiftRight_eq_div_pow]

/-- `nodeMax = 1<<w - 1` -/
theorem nodeMax_toNat {w : Nat} (hw : w < 64) : ((1#64 <<< w) - 1#64).toNat = 2 ^ w - 1 := by
  have h1 : 1#64 ≤ BitVec.twoPow 64 w := by
    rw [BitVec.le_def, BitVec.toNat_twoPow_of_lt hw]
    exact Nat.two_pow_pos w
  rw [← BitVec.twoPow_eq, BitVec.toNat_sub_of_le h1, BitVec.toNat_twoPow_of_lt hw]
  rfl

theorem mask_toNat (x : BitVec 64) {w : Nat} (hw : w < 64) :
    (x &&& ((1#64 <<< w) - 1#64)).toNat = x.toNat % 2 ^ w := by
  rw [BitVec.toNat_and, nodeMax_toNat hw, Nat.and_two_pow_sub_one_eq_mod]

theorem stepMask_toNat (x : BitVec 64) : (x &&& 4095#64).toNat = x.toNat % 4096 :=
  Nat.and_two_pow_sub_one_eq_mod x.toNat 12

theorem lowNat_lt (nb : BitVec 8) (nal : Bool) {n s : Nat} (hn : n < 2 ^ nb.toNat) (hs : s < 4096) :
    lowNat nb nal n s < 2 ^ tsShift nb := by
  cases nal
  · exact pack_lt (wb := 12) hn hs
  · rw [tsShift, Nat.add_comm nb.toNat 12]
    exact pack_lt (wa := 12) hs hn

theorem fields_pack (nb : BitVec 8) (nal : Bool) {x t n s : Nat} (hn : n < 2 ^ nb.toNat) (hs : s < 4096)
    (hx : x = t * 2 ^ tsShift nb + lowNat nb nal n s) :
    x / 2 ^ tsShift nb = t ∧ nodeNat nb nal x = n ∧ stepNat nb nal x = s := by
  cases nal
  · exact unpack (wl := 12) hn hs hx
  · rw [tsShift, Nat.add_comm nb.toNat 12] at hx ⊢
    have := unpack (wh := 12) hs hn hx
    exact ⟨this.1, this.2.2, this.2.1⟩

theorem split_join_nat (nb : BitVec 8) (nal : Bool) (x : Nat) :
    x / 2 ^ tsShift nb * 2 ^ tsShift nb + lowNat nb nal (nodeNat nb nal x) (stepNat nb nal x) = x := by
  cases nal
  · exact repack x nb.toNat 12
  · rw [tsShift, Nat.add_comm nb.toNat 12]
    exact repack x 12 nb.toNat

theorem width_add_shift {nb : BitVec 8} (hl : LayoutOk nb) : tsWidth nb + tsShift nb = 63 := by
  have := hl.le
  unfold tsWidth tsShift
  omega

theorem figureShift_time {nb : BitVec 8} (hl : LayoutOk nb) (nal : Bool) :
    (figureShift nb nal).1.toNat = tsShift nb := by
  have := hl.le
  have : (nb + 12#8).toNat = nb.toNat + 12 := by rw [BitVec.toNat_add, BitVec.toNat_ofNat]; omega
  cases nal <;> exact this

theorem join_toNat {nb : BitVec 8} (hl : LayoutOk nb) (nal : Bool) {t n s : BitVec 64}
    (ht : t.toNat < 2 ^ tsWidth nb) (hn : n.toNat < 2 ^ nb.toNat) (hs : s.toNat < 4096) :
    (join nb nal t n s).toNat = t.toNat * 2 ^ tsShift nb + lowNat nb nal n.toNat s.toNat := by
  have hw : tsWidth nb + (nb.toNat + 12) ≤ 64 := by rw [← tsShift, width_add_shift hl]; decide
  unfold join
  rw [figureShift_time hl, tsShift]
  cases nal
  · show (t <<< (nb.toNat + 12) ||| n <<< 12 ||| s <<< 0).toNat = _
    rw [BitVec.shiftLeft_zero]
    exact pack_toNat hw ht hn hs
  · show (t <<< (nb.toNat + 12) ||| n <<< 0 ||| s <<< nb.toNat).toNat = _
    rw [BitVec.shiftLeft_zero, BitVec.or_assoc, BitVec.or_comm n, ← BitVec.or_assoc]
    rw [Nat.add_comm nb.toNat 12] at hw ⊢
    exact pack_toNat (wh := 12) hw ht hs hn

theorem join_lt {nb : BitVec 8} (hl : LayoutOk nb) (nal : Bool) {t n s : BitVec 64}
    (ht : t.toNat < 2 ^ tsWidth nb) (hn : n.toNat < 2 ^ nb.toNat) (hs : s.toNat < 4096) :
    (join nb nal t n s).toNat < 2 ^ 63 := by
  rw [join_toNat hl nal ht hn hs, ← width_add_shift hl]
  exact pack_lt ht (lowNat_lt nb nal hn hs)

theorem idFields_toNat {nb : BitVec 8} (hl : LayoutOk nb) (nal : Bool) {id : BitVec 64} (h : id.toNat < 2 ^ 63) :
    (idFields id nb nal).1.toNat = id.toNat / 2 ^ tsShift nb ∧
    (idFields id nb nal).2.1.toNat = nodeNat nb nal id.toNat ∧
    (idFields id nb nal).2.2.toNat = stepNat nb nal id.toNat := by
  have hnb : nb.toNat < 64 := Nat.lt_of_le_of_lt hl.le (by decide)
  unfold idFields
  rw [figureShift_time hl]
  refine ⟨sshiftRight_toNat h _, ?_⟩
  cases nal
  · show (id.sshiftRight 12 &&& _).toNat = id.toNat / 2 ^ 12 % _ ∧ (id.sshiftRight 0 &&& _).toNat = id.toNat % 4096
    rw [BitVec.sshiftRight_zero, mask_toNat _ hnb, sshiftRight_toNat h]
    exact ⟨rfl, stepMask_toNat id⟩
  · show (id.sshiftRight 0 &&& _).toNat = id.toNat % _ ∧ (id.sshiftRight nb.toNat &&& _).toNat = id.toNat / _ % 4096
    rw [BitVec.sshiftRight_zero, mask_toNat _ hnb, stepMask_toNat, sshiftRight_toNat h]
    exact ⟨rfl, rfl⟩

theorem idFields_ranges {nb : BitVec 8} (hl : LayoutOk nb) (nal : Bool) {id : BitVec 64} (h : id.toNat < 2 ^ 63) :
    (idFields id nb nal).1.toNat < 2 ^ tsWidth nb ∧
    (idFields id nb nal).2.1.toNat < 2 ^ nb.toNat ∧
    (idFields id nb nal).2.2.toNat < 4096 := by
  obtain ⟨h1, h2, h3⟩ := idFields_toNat hl nal h
  rw [h1, h2, h3]
  refine ⟨Nat.div_lt_of_lt_mul ?_, ?_, ?_⟩
  · rwa [← Nat.pow_add, Nat.add_comm, width_add_shift hl]
  · unfold nodeNat
    split <;> exact Nat.mod_lt _ (Nat.two_pow_pos _)
  · unfold stepNat
    split <;> exact Nat.mod_lt _ (by decide)

theorem join_idFields {nb : BitVec 8} (hl : LayoutOk nb) (nal : Bool) {id : BitVec 64} (h : id.toNat < 2 ^ 63) :
    join nb nal (idFields id nb nal).1 (idFields id nb nal).2.1 (idFields id nb nal).2.2 = id := by
  apply BitVec.eq_of_toNat_eq
  obtain ⟨r1, r2, r3⟩ := idFields_ranges hl nal h
  obtain ⟨h1, h2, h3⟩ := idFields_toNat hl nal h
  rw [join_toNat hl nal r1 r2 r3, h1, h2, h3]
  exact split_join_nat nb nal id.toNat

theorem idFields_join {nb : BitVec 8} (hl : LayoutOk nb) (nal : Bool) {t n s : BitVec 64}
    (ht : t.toNat < 2 ^ tsWidth nb) (hn : n.toNat < 2 ^ nb.toNat) (hs : s.toNat < 4096) :
    idFields (join nb nal t n s) nb nal = (t, n, s) := by
  obtain ⟨h1, h2, h3⟩ := idFields_toNat hl nal (join_lt hl nal ht hn hs)
  obtain ⟨f1, f2, f3⟩ := fields_pack nb nal hn hs (join_toNat hl nal ht hn hs)
  rw [Prod.ext_iff, Prod.ext_iff]
  exact ⟨BitVec.eq_of_toNat_eq (h1.trans f1), BitVec.eq_of_toNat_eq (h2.trans f2), BitVec.eq_of_toNat_eq (h3.trans f3)⟩

end Nv.C06
