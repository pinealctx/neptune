import Nv.Proofs.C11Grow
/-!
C11 — the simulation relation between the implementation model and the abstract buffer. An operation changes the
state in one of a few ways — reset, invalidate `lastRead`, consume unread bytes, un-consume the remembered ones,
store behind the unread bytes, grow — and the relation is shown to survive each of them once; the operations
themselves then only have to be matched with the way they take.
-/
namespace Nv.C11
open Spec

/-- what `lastRead` must mean for `Unread*` to agree with the abstract buffer -/
def LastRel (i : St) : Last → Prop
  | .invalid => i.lastRead = 0
  | .read b => i.lastRead = -1 ∧ 1 ≤ i.off ∧ i.buf[i.off - 1]? = some b
  | .rune bs => i.lastRead = (bs.length : Int) ∧ 1 ≤ bs.length ∧ bs.length ≤ i.off ∧
      (i.buf.drop (i.off - bs.length)).take bs.length = bs

/-- simulation relation; `t` = a `Grow` happened and no operation since has (re)assigned `lastRead`
    (then `off` may have moved under a still-valid `lastRead`: nothing is claimed about it) -/
structure Rel (t : Bool) (i : St) (s : SSt) : Prop where
  inv : Inv i
  data : s.data = i.buf.drop i.off
  last : t = false → LastRel i s.last

def StepOk (t' : Bool) (ri : St × Out) (rs : SSt × Out) : Prop := ri.2 = rs.2 ∧ Rel t' ri.1 rs.1

/-- a buffer nothing has been read from yet: the zero value, `NewBuffer(b)`, `NewSizedBuffer` -/
theorem rel_new {b : Bytes} {cp : Nat} {nl : Bool} (h1 : b.length ≤ cp) (h2 : cp ≤ allocLimit) (h3 : nl = true → cp = 0) :
    Rel false ⟨b, 0, cp, 0, nl⟩ ⟨b, .invalid⟩ :=
  ⟨⟨Nat.zero_le _, h1, h2, h3⟩, rfl, fun _ => rfl⟩

theorem rel_zero : Rel false St.zero SSt.empty := rel_new (Nat.le_refl 0) (Nat.zero_le _) (fun _ => rfl)

theorem rel_reset {i : St} (h : Inv i) : Rel false (reset i) ⟨[], .invalid⟩ :=
  ⟨inv_reset h, rfl, fun _ => rfl⟩

theorem rel_invalidate {t : Bool} {i : St} {s : SSt} (R : Rel t i s) :
    Rel false { i with lastRead := 0 } ⟨s.data, .invalid⟩ :=
  ⟨inv_lastRead R.inv 0, R.data, fun _ => rfl⟩

theorem rel_advance {t : Bool} {i : St} {s : SSt} (R : Rel t i s) {d tl : Bytes} (hd : i.buf.drop i.off = d ++ tl)
    {n : Nat} (hn : d.length = n) {x : Int} {l : Last} (hl : LastRel { i with off := i.off + n, lastRead := x } l) :
    Rel false { i with off := i.off + n, lastRead := x } ⟨tl, l⟩ := by
  subst hn
  refine ⟨⟨?_, R.inv.len_le, R.inv.cap_le, R.inv.nil_cap⟩, ?_, fun _ => hl⟩
  · have hlen := congrArg List.length hd
    rw [List.length_drop, List.length_append] at hlen
    have := R.inv.off_le
    show i.off + d.length ≤ i.buf.length
    omega
  · show tl = i.buf.drop (i.off + d.length)
    rw [← List.drop_drop, hd, List.drop_left]

theorem lastOfTaken_rel {i : St} {d tl : Bytes} (hd : i.buf.drop i.off = d ++ tl) :
    LastRel { i with off := i.off + d.length, lastRead := if d.length > 0 then -1 else 0 } (lastOfTaken d) := by
  unfold lastOfTaken
  cases hl : d.getLast? with
  | none =>
    have : d = [] := List.getLast?_eq_none_iff.1 hl
    subst this
    rfl
  | some b =>
    have hpos : 0 < d.length := by
      cases d with
      | nil => cases hl
      | cons _ _ => exact Nat.succ_pos _
    have hb : i.buf[i.off + (d.length - 1)]? = some b := by
      rw [← List.getElem?_drop, hd, List.getElem?_append_left (Nat.sub_lt hpos Nat.one_pos), ← List.getLast?_eq_getElem?, hl]
    refine ⟨if_pos hpos, Nat.le_trans hpos (Nat.le_add_left _ _), ?_⟩
    show i.buf[i.off + d.length - 1]? = some b
    rw [Nat.add_sub_assoc hpos]
    exact hb

theorem lastRel_rune {i : St} {d tl : Bytes} (hd : i.buf.drop i.off = d ++ tl) (h1 : 1 ≤ d.length) :
    LastRel { i with off := i.off + d.length, lastRead := d.length } (.rune d) := by
  refine ⟨rfl, h1, Nat.le_add_left _ _, ?_⟩
  show (i.buf.drop (i.off + d.length - d.length)).take d.length = d
  rw [Nat.add_sub_cancel, hd, List.take_left]

theorem rel_taken {t : Bool} {i : St} {s : SSt} (R : Rel t i s) {d tl : Bytes} (hd : i.buf.drop i.off = d ++ tl) :
    Rel false { i with off := i.off + d.length, lastRead := if d.length > 0 then -1 else 0 } ⟨tl, lastOfTaken d⟩ :=
  rel_advance R hd rfl (lastOfTaken_rel hd)

theorem rel_retreat {t : Bool} {i : St} {s : SSt} (R : Rel t i s) {k : Nat} (hk : k ≤ i.off) :
    Rel false { i with off := i.off - k, lastRead := 0 } ⟨(i.buf.drop (i.off - k)).take k ++ s.data, .invalid⟩ := by
  refine ⟨⟨Nat.le_trans (Nat.sub_le _ _) R.inv.off_le, R.inv.len_le, R.inv.cap_le, R.inv.nil_cap⟩, ?_, fun _ => rfl⟩
  show (i.buf.drop (i.off - k)).take k ++ s.data = i.buf.drop (i.off - k)
  have e : i.buf.drop i.off = (i.buf.drop (i.off - k)).drop k := by
    rw [List.drop_drop, Nat.sub_add_cancel hk]
  rw [R.data, e, List.take_append_drop]

theorem put_rel {i s1 : St} {sd : Bytes} {n m : Nat} {p : Bytes} (g : Grown i s1 n m) (hd : sd = i.buf.drop i.off)
    (hl : i.lastRead = 0) (hp : m + p.length ≤ s1.cap) :
    Rel false { s1 with buf := s1.buf.take m ++ p } ⟨sd ++ p, .invalid⟩ :=
  have k := store_grown g p hp
  ⟨k.1, hd ▸ k.2.symm, fun _ => g.last.elim (fun l => l.trans hl) id⟩

/-- the common body of `Write`, `WriteByte`, `WriteRune`. By definition `write c i p` is
    `store c i p.length p (.nErr p.length .nil)` and `writeByte c i b` is `store c i 1 [b] (.err .nil)`. -/
def store (c : Cfg) (i : St) (n : Nat) (p : Bytes) (o : Out) : St × Out :=
  match growFor c { i with lastRead := 0 } n with
  | (s1, none) => (s1, .panic .tooLarge)
  | (s1, some m) => ({ s1 with buf := s1.buf.take m ++ p }, o)

theorem sim_store {c : Cfg} (hs : c.small ≤ allocLimit) {t : Bool} {i : St} {s : SSt} (R : Rel t i s) {n : Nat}
    {p : Bytes} (hp : p.length ≤ n) (o : Out) (hmem : (store c i n p o).2 ≠ .panic .tooLarge) :
    StepOk false (store c i n p o) (⟨s.data ++ p, .invalid⟩, o) := by
  unfold store at hmem ⊢
  cases hg : growFor c { i with lastRead := 0 } n with
  | mk s1 r =>
    rw [hg] at hmem
    cases r with
    | none => exact absurd rfl hmem
    | some m =>
      have g : Grown _ s1 n m := growFor_spec (fun _ => hs) (inv_lastRead R.inv 0) hg
      exact ⟨rfl, put_rel g R.data rfl (Nat.le_trans (Nat.add_le_add_left hp m) (g.len ▸ g.inv.len_le))⟩

theorem encodeRune_length_le (r : Int) : (encodeRune r).length ≤ 4 := by
  have ite_ok : ∀ {c : Prop} [Decidable c] {x y : Bytes}, x.length ≤ 4 → y.length ≤ 4 →
      (if c then x else y).length ≤ 4 := by
    intro c _ x y hx hy
    split <;> assumption
  unfold encodeRune
  -- the four branches are list literals of 1, 2, 3 and 4 bytes
  exact ite_ok (Nat.le_of_ble_eq_true rfl) (ite_ok (Nat.le_of_ble_eq_true rfl)
    (ite_ok (Nat.le_of_ble_eq_true rfl) (Nat.le_of_ble_eq_true rfl)))

theorem encodeRune_single {r : Int} (h0 : 0 ≤ r) (h1 : r < 128) : encodeRune r = [UInt8.ofNat (r % 256).toNat] := by
  have e1 : r % 4294967296 = r := Int.emod_eq_of_lt h0 (Int.lt_trans h1 (by decide))
  have e2 : r % 256 = r := Int.emod_eq_of_lt h0 (Int.lt_trans h1 (by decide))
  have h2 : r.toNat ≤ 0x7F := by omega
  unfold encodeRune
  rw [e1, e2]
  exact if_pos h2

theorem isSingle_unsigned {c : Cfg} (hc : c.runeCmp = .unsigned) {r : Int} (h : isSingle c r = true) :
    0 ≤ r ∧ r < 128 := by
  unfold isSingle at h
  rw [hc] at h
  simpa using h

/-- with the unsigned comparison `WriteRune` takes the one-byte path exactly for the runes encoded in one byte -/
theorem writeRune_eq {c : Cfg} (hc : c.runeCmp = .unsigned) (i : St) (r : Int) :
    writeRune c i r = store c i (if isSingle c r then 1 else 4) (encodeRune r) (.nErr (encodeRune r).length .nil) := by
  unfold writeRune
  by_cases hsing : isSingle c r = true
  · have hr := isSingle_unsigned hc hsing
    rw [if_pos hsing, if_pos hsing, encodeRune_single hr.1 hr.2]
    unfold writeByte store
    cases growFor c { i with lastRead := 0 } 1 with
    | mk s1 m => cases m <;> rfl
  · rw [if_neg hsing, if_neg hsing]
    rfl

theorem encodeRune_fits {c : Cfg} (hc : c.runeCmp = .unsigned) (r : Int) :
    (encodeRune r).length ≤ if isSingle c r then 1 else 4 := by
  split
  · rename_i hsing
    have hr := isSingle_unsigned hc hsing
    rw [encodeRune_single hr.1 hr.2]
    exact Nat.le_refl 1
  · exact encodeRune_length_le r

theorem sim_read {t : Bool} {i : St} {s : SSt} (R : Rel t i s) (k : Nat) :
    StepOk false (read i k) (Spec.step s (.read k)) := by
  have hlen : s.data.length = i.buf.length - i.off := by rw [R.data, List.length_drop]
  unfold read Spec.step
  simp only
  by_cases he : i.buf.length ≤ i.off
  · have hl : s.data.length = 0 := by rw [hlen]; exact Nat.sub_eq_zero_of_le he
    rw [if_pos he, if_pos hl]
    exact ⟨rfl, rel_reset (inv_lastRead R.inv 0)⟩
  · have hl : ¬ s.data.length = 0 := by rw [hlen]; exact Nat.sub_ne_zero_of_lt (Nat.lt_of_not_le he)
    rw [if_neg he, if_neg hl, R.data]
    exact ⟨rfl, rel_taken R (List.take_append_drop k _).symm⟩

theorem sim_next {t : Bool} {i : St} {s : SSt} (R : Rel t i s) (n : Int) :
    StepOk false (next i n) (Spec.step s (.next n)) := by
  unfold next Spec.step
  simp only
  by_cases hn : n < 0
  · rw [if_pos hn, if_pos hn]
    exact ⟨rfl, rel_invalidate R⟩
  · rw [if_neg hn, if_neg hn, R.data]
    exact ⟨rfl, rel_taken R (List.take_append_drop n.toNat _).symm⟩

theorem sim_readByte {t : Bool} {i : St} {s : SSt} (R : Rel t i s) :
    StepOk false (readByte i) (Spec.step s .readByte) := by
  unfold readByte Spec.step
  simp only
  rw [R.data]
  cases hx : i.buf.drop i.off with
  | nil => exact ⟨rfl, rel_reset R.inv⟩
  | cons b rest => exact ⟨rfl, rel_taken R (d := [b]) hx⟩

/-- down the decoder, every answer has size 1, or size `k` where `k` bytes have been matched -/
theorem decodeRune_size (b : UInt8) (rest : Bytes) :
    1 ≤ (decodeRune (b :: rest)).2 ∧ (decodeRune (b :: rest)).2 ≤ rest.length + 1 := by
  have ite_ok : ∀ {n : Nat} {c : Prop} [Decidable c] {x y : Nat × Nat}, (1 ≤ x.2 ∧ x.2 ≤ n) → (1 ≤ y.2 ∧ y.2 ≤ n) →
      1 ≤ (if c then x else y).2 ∧ (if c then x else y).2 ≤ n := by
    intro n c _ x y hx hy
    split <;> assumption
  have one : ∀ {n : Nat} (r : Nat), 1 ≤ ((r, 1) : Nat × Nat).2 ∧ ((r, 1) : Nat × Nat).2 ≤ n + 1 :=
    fun _ => ⟨Nat.le_refl 1, Nat.le_add_left 1 _⟩
  simp only [decodeRune]
  refine ite_ok (one _) (ite_ok (one _) ?_)
  cases rest with
  | nil => exact one _
  | cons b1 rest1 =>
    refine ite_ok (one _) (ite_ok (one _) (ite_ok ⟨by simp, by simp⟩ ?_))
    cases rest1 with
    | nil => exact one _
    | cons b2 rest2 =>
      refine ite_ok (one _) (ite_ok ⟨by simp, by simp⟩ ?_)
      cases rest2 with
      | nil => exact one _
      | cons b3 rest3 => exact ite_ok (one _) ⟨by simp, by simp⟩

theorem sim_readRune {t : Bool} {i : St} {s : SSt} (R : Rel t i s) :
    StepOk false (readRune i) (Spec.step s .readRune) := by
  unfold readRune Spec.step
  simp only
  rw [R.data]
  cases hx : i.buf.drop i.off with
  | nil => exact ⟨rfl, rel_reset R.inv⟩
  | cons b rest =>
    simp only
    split
    · exact ⟨rfl, rel_advance R (d := [b]) hx rfl (lastRel_rune (d := [b]) hx (Nat.le_refl 1))⟩
    · have sz := decodeRune_size b rest
      have hl : ((b :: rest).take (decodeRune (b :: rest)).2).length = (decodeRune (b :: rest)).2 := by
        rw [List.length_take, List.length_cons, Nat.min_eq_left sz.2]
      have hd : i.buf.drop i.off = (b :: rest).take (decodeRune (b :: rest)).2 ++ (b :: rest).drop (decodeRune (b :: rest)).2 := by
        rw [List.take_append_drop, hx]
      have l := lastRel_rune hd (by rw [hl]; exact sz.1)
      rw [hl] at l
      exact ⟨rfl, rel_advance R hd hl l⟩

theorem take_one_drop {α} {l : List α} {k : Nat} {x : α} (h : l[k]? = some x) : (l.drop k).take 1 = [x] := by
  rw [List.take_one, List.head?_drop, h]
  rfl

theorem drop_window {α} (l : List α) {o n : Nat} (h1 : 1 ≤ n) (hn : n ≤ o) :
    ((l.drop (o - n)).take n).drop (n - 1) = (l.drop (o - 1)).take 1 := by
  rw [List.drop_take, List.drop_drop, ← Nat.add_sub_assoc h1, Nat.sub_add_cancel hn, Nat.sub_sub_self h1]

theorem sim_unreadByte {i : St} {s : SSt} (R : Rel false i s) :
    StepOk false (unreadByte i) (Spec.step s .unreadByte) := by
  have hl := R.last rfl
  obtain ⟨sd, l⟩ := s
  unfold unreadByte Spec.step
  cases l with
  | invalid =>
    have h0 : i.lastRead = 0 := hl
    rw [if_pos h0]
    exact ⟨rfl, R⟩
  | read b =>
    obtain ⟨l1, l2, l3⟩ := hl
    have hne : ¬ i.lastRead = 0 := by rw [l1]; decide
    rw [if_neg hne]
    simp only [if_pos (show i.off > 0 from l2)]
    have k := rel_retreat R l2
    rw [take_one_drop l3] at k
    exact ⟨rfl, k⟩
  | rune bs =>
    obtain ⟨l1, l2, l3, l4⟩ := hl
    have hne : ¬ i.lastRead = 0 := by rw [l1]; exact Int.natCast_ne_zero.2 (Nat.ne_of_gt l2)
    have hpos : i.off > 0 := Nat.lt_of_lt_of_le l2 l3
    rw [if_neg hne]
    simp only [if_pos hpos]
    have k := rel_retreat R (k := 1) hpos
    rw [← drop_window i.buf l2 l3, l4] at k
    exact ⟨rfl, k⟩

theorem sim_unreadRune {i : St} {s : SSt} (R : Rel false i s) :
    StepOk false (unreadRune i) (Spec.step s .unreadRune) := by
  have hl := R.last rfl
  obtain ⟨sd, l⟩ := s
  unfold unreadRune Spec.step
  cases l with
  | invalid =>
    have hle : i.lastRead ≤ 0 := Int.le_of_eq hl
    rw [if_pos hle]
    exact ⟨rfl, R⟩
  | read b =>
    have hle : i.lastRead ≤ 0 := by rw [hl.1]; decide
    rw [if_pos hle]
    exact ⟨rfl, R⟩
  | rune bs =>
    obtain ⟨l1, l2, l3, l4⟩ := hl
    have hne : ¬ i.lastRead ≤ 0 := by rw [l1]; exact Int.not_le.2 (Int.natCast_pos.2 l2)
    have hk : i.lastRead.toNat = bs.length := by rw [l1]; exact Int.toNat_natCast _
    rw [if_neg hne]
    simp only [hk, if_pos (show i.off ≥ bs.length from l3)]
    have k := rel_retreat R l3
    rw [l4] at k
    exact ⟨rfl, k⟩

theorem sim_truncate {t : Bool} {i : St} {s : SSt} (R : Rel t i s) (n : Int) :
    StepOk false (truncate i n) (Spec.step s (.truncate n)) := by
  have h1 := R.inv.off_le
  have hlen : (s.data.length : Int) = ((i.buf.length - i.off : Nat) : Int) := by rw [R.data, List.length_drop]
  unfold truncate Spec.step
  simp only
  by_cases h0 : n = 0
  · rw [if_pos h0, if_pos h0]
    exact ⟨rfl, rel_reset R.inv⟩
  · rw [if_neg h0, if_neg h0, hlen]
    by_cases hr : n < 0 ∨ n > ((i.buf.length - i.off : Nat) : Int)
    · rw [if_pos hr, if_pos hr]
      exact ⟨rfl, rel_invalidate R⟩
    · rw [if_neg hr, if_neg hr]
      have hk : i.off + n.toNat ≤ i.buf.length := by omega
      have hl : (i.buf.take (i.off + n.toNat)).length = i.off + n.toNat := by
        rw [List.length_take, Nat.min_eq_left hk]
      refine ⟨rfl, ⟨?_, ?_, R.inv.cap_le, R.inv.nil_cap⟩, ?_, fun _ => rfl⟩
      · show i.off ≤ (i.buf.take (i.off + n.toNat)).length
        rw [hl]
        exact Nat.le_add_right _ _
      · show (i.buf.take (i.off + n.toNat)).length ≤ i.cap
        rw [hl]
        exact Nat.le_trans hk R.inv.len_le
      · show s.data.take n.toNat = (i.buf.take (i.off + n.toNat)).drop i.off
        rw [List.drop_take, R.data, Nat.add_sub_cancel_left]

theorem sim_reset {t : Bool} {i : St} {s : SSt} (R : Rel t i s) :
    StepOk false (reset i, Out.ok) (Spec.step s .reset) :=
  ⟨rfl, rel_reset R.inv⟩

/-- `Grow`: the result taints the relation (nothing is claimed about `lastRead` any more) -/
theorem sim_grow {c : Cfg} (hs : c.small ≤ allocLimit) {t : Bool} {i : St} {s : SSt} (R : Rel t i s) (n : Int)
    (hmem : (growOp c i n).2 = .panic .tooLarge → 0 ≤ n ∧ n.toNat > allocLimit) :
    StepOk true (growOp c i n) (Spec.step s (.grow n)) := by
  have tainted : ∀ {i' : St}, Kept i i' → Rel true i' (if s.data.length = 0 then ⟨[], .invalid⟩ else s) := by
    intro i' k
    refine ⟨k.inv, ?_, fun h => by cases h⟩
    rw [k.data, ← R.data]
    split
    · rename_i h; exact (List.eq_nil_of_length_eq_zero h).symm
    · rfl
  unfold growOp at hmem ⊢
  unfold Spec.step
  simp only
  by_cases hn : n < 0
  · rw [if_pos hn, if_pos hn]
    exact ⟨rfl, R.inv, R.data, fun h => by cases h⟩
  · rw [if_neg hn] at hmem
    rw [if_neg hn, if_neg hn]
    cases hg : grow c i n.toNat with
    | mk s1 r =>
      rw [hg] at hmem
      cases r with
      | none =>
        have k : Kept i s1 := grow_spec (fun h => absurd rfl h) R.inv hg
        rw [if_pos (hmem rfl).2]
        exact ⟨rfl, tainted k⟩
      | some m =>
        have hle : ¬ n.toNat > allocLimit := by
          intro hgt
          have := grow_tooLarge (c := c) hs R.inv hgt
          rw [hg] at this
          cases this
        have g : Grown i s1 n.toNat m := grow_spec (fun _ => hs) R.inv hg
        rw [if_neg hle]
        exact ⟨rfl, tainted (cut_grown g)⟩

theorem sim_writeTo {t : Bool} {i : St} {s : SSt} (R : Rel t i s) (w : Writer) :
    StepOk false (writeTo i w) (Spec.step s (.writeTo w)) := by
  have rst : Rel false (reset { i with lastRead := 0 }) ⟨[], .invalid⟩ := rel_reset (inv_lastRead R.inv 0)
  have adv : ∀ m, m ≤ (i.buf.drop i.off).length →
      Rel false { i with lastRead := 0, off := i.off + m } ⟨(i.buf.drop i.off).drop m, .invalid⟩ :=
    fun m hm => rel_advance R (List.take_append_drop m _).symm (by rw [List.length_take, Nat.min_eq_left hm]) rfl
  unfold writeTo Spec.step
  simp only
  rw [R.data]
  by_cases he : (i.buf.drop i.off).length = 0
  · rw [if_pos he, if_pos he]
    exact ⟨rfl, rst⟩
  · rw [if_neg he, if_neg he]
    cases w with
    | over => exact ⟨rfl, R.data ▸ rel_invalidate R⟩
    | all => exact ⟨rfl, rst⟩
    | short k =>
      simp only
      split
      · exact ⟨rfl, rst⟩
      · exact ⟨rfl, adv _ (Nat.min_le_right _ _)⟩
    | err k => exact ⟨rfl, adv _ (Nat.min_le_right _ _)⟩

end Nv.C11
