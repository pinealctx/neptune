import Nv.Proofs.C05Basic
/-!
C05 — the redis store by itself: go-redis' formatting of whole seconds, `rFind` / `rErase` as `List.find?` /
`List.filter`, each command the cache issues on each form of input, and what `Rds.get` / `Rds.set` come to for ttls in seconds.
-/
namespace Nv.C05

theorem fmt_pos (t : Int) (h : 0 < t) :
    goSetExpiry (t * nsPerSec) = .ex t ∧ goSetNXExpiry (t * nsPerSec) = .ex t ∧ formatSec (t * nsPerSec) = t := by
  -- a whole number of seconds: not below one second, no remainder
  have hge : ¬ (t * nsPerSec < nsPerSec) := by simp only [nsPerSec]; omega
  have hpos : 0 < t * nsPerSec := by simp only [nsPerSec]; omega
  have hsec : formatSec (t * nsPerSec) = t := by
    rw [formatSec, if_neg (fun hh => hge hh.2)]; exact Int.mul_tdiv_cancel _ (by decide)
  have hprec : usePrecise (t * nsPerSec) = false := by
    simp only [usePrecise, Int.mul_tmod_left, hge, decide_false, ne_eq, not_true_eq_false, Bool.or_self]
  refine ⟨?_, ?_, hsec⟩
  · rw [goSetExpiry, if_pos hpos, hprec, hsec]; rfl
  · rw [goSetNXExpiry, if_neg (by omega), if_neg (by omega), hprec, hsec]; rfl

theorem rFind_eq_find (k : Key) (st : List REntry) : rFind k st = st.find? (fun e => e.key = k) := by
  induction st with
  | nil => rfl
  | cons a st ih => simp only [rFind, List.find?_cons, ih]; split <;> simp [*]

theorem rErase_eq_filter (k : Key) (st : List REntry) : rErase k st = st.filter (fun e => e.key ≠ k) := by
  induction st with
  | nil => rfl
  | cons a st ih => simp only [rErase, List.filter_cons, ih]; split <;> simp [*]

theorem rFind_rErase (k k' : Key) (st : List REntry) :
    rFind k' (rErase k st) = if k' = k then none else rFind k' st := by
  simp only [rFind_eq_find, rErase_eq_filter]
  exact find?_filter_key _ k k' st

theorem rFind_put (k k' : Key) (v : Val) (x : Option Int) (st : List REntry) :
    rFind k' (⟨k, v, x⟩ :: rErase k st) = if k' = k then some ⟨k, v, x⟩ else rFind k' st := by
  by_cases h : k' = k
  · simp [rFind, h]
  · have : ¬ k = k' := fun e => h e.symm
    simp [rFind, this, rFind_rErase, h]

theorem mem_rErase {k : Key} {st : List REntry} {e : REntry} : e ∈ rErase k st ↔ e ∈ st ∧ e.key ≠ k := by
  simp [rErase_eq_filter]

theorem rErase_idem (k : Key) (st : List REntry) : rErase k (rErase k st) = rErase k st := by
  simp only [rErase_eq_filter, List.filter_filter, Bool.and_self]

theorem rLive_rErase (now : Int) (k : Key) (st : List REntry) : rLive now k (rErase k st) = none := by
  simp [rLive, rFind_rErase]

theorem rSet_keepttl_live {now : Int} {k : Key} {v : Val} {st : List REntry} {e : REntry}
    (h : rLive now k st = some e) : rSet now k v .keepttl false st = (⟨k, v, e.exp⟩ :: rErase k st, .ok) := by
  simp [rSet, h]

theorem rSet_keepttl_persistent {now : Int} {k : Key} {v : Val} {st : List REntry} {e : REntry}
    (h : rLive now k st = some e) (hp : e.exp = none) :
    rSet now k v .keepttl false st = (⟨k, v, none⟩ :: rErase k st, .ok) := by
  rw [rSet_keepttl_live h, hp]

/-- KEEPTTL on an absent or expired key stores it WITHOUT expiry (memory gives a fresh deadline: outside the domain) -/
theorem rSet_keepttl_absent {now : Int} {k : Key} {v : Val} {st : List REntry} (h : rLive now k st = none) :
    rSet now k v .keepttl false st = (⟨k, v, none⟩ :: rErase k st, .ok) := by simp [rSet, h]

theorem rSet_plain_drops_ttl (now : Int) (k : Key) (v : Val) (st : List REntry) :
    rSet now k v .plain false st = (⟨k, v, none⟩ :: rErase k st, .ok) := by simp [rSet]

theorem rSet_ex {now : Int} {k : Key} (v : Val) {st : List REntry} {n : Int} (hn : 0 < n) {nx : Bool}
    (h : nx = true → rLive now k st = none) :
    rSet now k v (.ex n) nx st = (⟨k, v, some (now + n * 1000)⟩ :: rErase k st, .ok) := by
  have : ¬ n ≤ 0 := by omega
  cases nx
  · simp [rSet, this]
  · simp [rSet, this, h rfl]

theorem rSet_ex_nx_live {now : Int} {k : Key} (v : Val) {st : List REntry} {n : Int} (hn : 0 < n) {e : REntry}
    (h : rLive now k st = some e) : rSet now k v (.ex n) true st = (st, .nil) := by
  have : ¬ n ≤ 0 := by omega
  simp [rSet, this, h]

theorem rGetDel_expired {now : Int} {k : Key} {st : List REntry} {e : REntry} (hf : rFind k st = some e)
    (he : rExpired now e.exp = true) : rGetDel now k st = (rErase k st, .nil) := by
  simp [rGetDel, rLive, hf, he]

theorem rGetDel_then_nil (now now' : Int) (k : Key) (st : List REntry) :
    (rGetDel now' k (rGetDel now k st).1).2 = .nil ∧ (rGet now' k (rGetDel now k st).1).2 = .nil := by
  have h1 : (rGetDel now k st).1 = rErase k st := by unfold rGetDel; split <;> rfl
  rw [h1]
  simp [rGetDel, rGet, rLive_rErase]

theorem rExpire_absent {now : Int} {k : Key} {st : List REntry} (h : rLive now k st = none) (s : Int) :
    rExpire now k s st = (rErase k st, .int 0) := by simp [rExpire, h]

theorem rExpire_nonpos_deletes {now : Int} {k : Key} {st : List REntry} {e : REntry} (h : rLive now k st = some e)
    {s : Int} (hs : s ≤ 0) : rExpire now k s st = (rErase k st, .int 1) := by simp [rExpire, h, hs]

theorem rExpire_sets_ttl {now : Int} {k : Key} {st : List REntry} {e : REntry} (h : rLive now k st = some e)
    {s : Int} (hs : 0 < s) : rExpire now k s st = (⟨k, e.val, some (now + s * 1000)⟩ :: rErase k st, .int 1) := by
  have : ¬ s ≤ 0 := by omega
  simp [rExpire, h, this]

theorem rds_get_dead (c : Cfg) {r : Rds} {now : Int} {k : Key} (o : GetOpt) (h : rLive now k r.store = none) :
    r.get c now k o = ({ r with store := rErase k r.store }, .notFound) := by
  cases hr : o.remove <;> simp [Rds.get, rGet, rGetDel, h, hr]

/-- a consuming read is GETDEL; the EXPIRE that update-ttl adds finds nothing -/
theorem rds_get_consume (c : Cfg) {r : Rds} {now : Int} {k : Key} {o : GetOpt} {e : REntry}
    (h : rLive now k r.store = some e) (hr : o.remove = true) :
    r.get c now k o = ({ r with store := rErase k r.store }, .value e.val) := by
  cases hu : o.update <;> simp [Rds.get, rGetDel, h, hr, hu, rExpire_absent (rLive_rErase now k r.store), rErase_idem]

theorem rds_get_plain (c : Cfg) {r : Rds} {now : Int} {k : Key} {o : GetOpt} {e : REntry}
    (h : rLive now k r.store = some e) (hr : o.remove = false) (hu : o.update = none) :
    r.get c now k o = (r, .value e.val) := by
  simp [Rds.get, rGet, h, hr, hu]

theorem rds_get_update {c : Cfg} (hc : c.rdsUnit = .seconds) {r : Rds} {now : Int} {k : Key} {o : GetOpt} {e : REntry}
    (h : rLive now k r.store = some e) (hr : o.remove = false) {t : Int} (hu : o.update = some t)
    (hpos : 0 < getTtl r.dttl t) :
    r.get c now k o =
      ({ r with store := ⟨k, e.val, some (now + getTtl r.dttl t * 1000)⟩ :: rErase k r.store }, .value e.val) := by
  simp [Rds.get, rGet, h, hr, hu, durOf, hc, (fmt_pos _ hpos).2.2, rExpire_sets_ttl h hpos]

/-- a Set that stores a fresh ttl: set-if-absent on a dead key, or an overwrite without keep-ttl -/
theorem rds_set_fresh {c : Cfg} (hc : c.rdsUnit = .seconds) {r : Rds} {now : Int} {k : Key} (v : Val) {o : SetOpt}
    (hpos : 0 < o.ttl.getD r.dttl) (hnx : o.mustNotExist = true → rLive now k r.store = none)
    (hk : o.mustNotExist = false → o.keepTTL = false) :
    r.set c now k v o =
      ({ r with store := ⟨k, v, some (now + o.ttl.getD r.dttl * 1000)⟩ :: rErase k r.store }, .ok) := by
  obtain ⟨f1, f2, -⟩ := fmt_pos _ hpos
  cases hm : o.mustNotExist with
  | true => simp [Rds.set, hm, durOf, hc, f2, rSet_ex v hpos (fun _ => hnx hm)]
  | false => simp [Rds.set, hm, hk hm, durOf, hc, f1, rSet_ex (nx := false) v hpos (fun h => by cases h)]

theorem rds_set_exists {c : Cfg} (hc : c.rdsUnit = .seconds) {r : Rds} {now : Int} {k : Key} (v : Val) {o : SetOpt}
    (hpos : 0 < o.ttl.getD r.dttl) (hm : o.mustNotExist = true) {e : REntry} (h : rLive now k r.store = some e) :
    r.set c now k v o = (r, .exists_) := by
  simp [Rds.set, hm, durOf, hc, (fmt_pos _ hpos).2.1, rSet_ex_nx_live v hpos h]

theorem rds_set_keep (c : Cfg) {r : Rds} {now : Int} {k : Key} (v : Val) {o : SetOpt} (hm : o.mustNotExist = false)
    (hk : o.keepTTL = true) {e : REntry} (h : rLive now k r.store = some e) :
    r.set c now k v o = ({ r with store := ⟨k, v, e.exp⟩ :: rErase k r.store }, .ok) := by
  have hks : goSetExpiry (-1) = .keepttl := by decide
  simp [Rds.set, hm, hk, hks, rSet_keepttl_live h]

end Nv.C05
