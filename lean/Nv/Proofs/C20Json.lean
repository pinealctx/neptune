import Nv.Proofs.C20Fmt
/-! C20 — quote stripping, and the integer wrappers' exact-or-error and round trip. -/
namespace Nv.C20

theorem inner_quoted (s : Bytes) : inner (34 :: (s ++ [34])) = s := by
  simp [inner]

theorem isQuoted_quoted (s : Bytes) : isQuoted (34 :: (s ++ [34])) = true := by
  have : (34 :: (s ++ [34])).getLast? = some 34 := by rw [← List.cons_append, List.getLast?_concat]
  simp [isQuoted, quote, this]

theorem eq_quoted_of_isQuoted {b : Bytes} (hq : isQuoted b = true) (hl : ¬ b.length < 2) :
    b = 34 :: (inner b ++ [34]) := by
  cases b with
  | nil => simp at hl
  | cons x xs =>
    simp only [isQuoted, quote, List.head?_cons, decide_eq_true_eq, Option.some.injEq] at hq
    obtain ⟨hx, hlast⟩ := hq
    subst hx
    have hne : xs ≠ [] := by intro h; subst h; simp at hl
    rw [List.getLast?_cons_of_ne_nil hne] at hlast
    have hl2 : xs.getLast hne = 34 := by
      rw [List.getLast?_eq_some_getLast hne] at hlast; exact Option.some.inj hlast
    have := List.dropLast_concat_getLast hne
    simp only [inner, List.drop_succ_cons, List.drop_zero]
    rw [← hl2, this]

theorem eq_quote_of_isQuoted {b : Bytes} (hq : isQuoted b = true) (hl : b.length < 2) : b = [34] := by
  cases b with
  | nil => simp [isQuoted] at hq
  | cons x xs =>
    cases xs with
    | nil =>
      simp only [isQuoted, quote, List.head?_cons, decide_eq_true_eq, Option.some.injEq] at hq
      rw [hq.1]
    | cons y ys => simp only [List.length_cons] at hl; omega

theorem strip_checked {w : Wrap} (hw : w.Checked) (b : Bytes) :
    strip w b = .invalid ∨ strip w b = .bare b ∨ (∃ s, b = 34 :: (s ++ [34]) ∧ strip w b = .quoted s) ∨
      (strip w b = .panic ∧ (b = [34] ∨ (b = [] ∧ w.minLen = 0))) := by
  unfold strip
  by_cases hlen : b.length < w.minLen
  · rw [if_pos hlen]; exact Or.inl rfl
  rw [if_neg hlen]
  -- the two checked kinds differ only in what they do with an unquoted input
  have key : ∀ r x : Stripped, r = .invalid ∨ r = .bare b →
      x = (if b.length = 0 then .panic else if isQuoted b then (if b.length < 2 then .panic else .quoted (inner b)) else r) →
      x = .invalid ∨ x = .bare b ∨ (∃ s, b = 34 :: (s ++ [34]) ∧ x = .quoted s) ∨
        (x = .panic ∧ (b = [34] ∨ (b = [] ∧ w.minLen = 0))) := by
    intro r x hr hx
    by_cases h0 : b.length = 0
    · rw [if_pos h0] at hx
      exact Or.inr (Or.inr (Or.inr ⟨hx, Or.inr ⟨List.length_eq_zero_iff.1 h0, by omega⟩⟩))
    · rw [if_neg h0] at hx
      by_cases hq : isQuoted b = true
      · rw [if_pos hq] at hx
        by_cases h2 : b.length < 2
        · rw [if_pos h2] at hx
          exact Or.inr (Or.inr (Or.inr ⟨hx, Or.inl (eq_quote_of_isQuoted hq h2)⟩))
        · rw [if_neg h2] at hx
          exact Or.inr (Or.inr (Or.inl ⟨inner b, eq_quoted_of_isQuoted hq h2, hx⟩))
      · rw [if_neg hq] at hx
        rcases hr with hr | hr
        · exact Or.inl (hx.trans hr)
        · exact Or.inr (Or.inl (hx.trans hr))
  rcases hw with hk | hk <;> rw [hk]
  · exact key (.bare b) _ (Or.inr rfl) rfl
  · exact key .invalid _ (Or.inl rfl) rfl

theorem strip_quoted (w : Wrap) (hk : w.kind ≠ .unknown) (s : Bytes) (hl : w.minLen ≤ s.length + 2) :
    strip w (34 :: (s ++ [34])) = .quoted s := by
  have hlen : (34 :: (s ++ [34])).length = s.length + 2 := by simp
  unfold strip
  rw [if_neg (by omega)]
  cases hkind : w.kind with
  | unknown => exact absurd hkind hk
  | unconditional => simp [inner_quoted]
  | checkedBare => simp [isQuoted_quoted, inner_quoted]
  | checkedOnly => simp [isQuoted_quoted, inner_quoted]

theorem Wrap.Checked.ne_unknown {w : Wrap} (hw : w.Checked) : w.kind ≠ .unknown := by
  rcases hw with h | h <;> simp [h]

theorem runParser_ne_panic (p : Parser) (s : Bytes) : runParser p s ≠ .panic := by
  cases p with
  | atoi => exact parseInt_ne_panic 10 64 s
  | parseUint64 =>
    simp only [runParser]
    cases h : parseUint 10 64 s with
    | panic => exact absurd h (parseUint_ne_panic 10 64 s)
    | err e => simp [toIntRes]
    | ok n => simp [toIntRes]
  | parseDuration => simp [runParser]
  | fromString => simp [runParser]
  | unknown => simp [runParser]

theorem runParser_atoi_ok {s : Bytes} {v : Int} (h : runParser .atoi s = .ok v) :
    denotesCore s v ∧ -(2 ^ 63 : Int) ≤ v ∧ v < 2 ^ 63 :=
  denotesCore_of_parseInt (bits := 64) (by omega) h

theorem runParser_parseUint64_ok {s : Bytes} {v : Int} (h : runParser .parseUint64 s = .ok v) :
    denotesCore s v ∧ 0 ≤ v ∧ v < 2 ^ 64 := by
  simp only [runParser] at h
  cases hr : parseUint 10 64 s with
  | err e => simp [hr, toIntRes] at h
  | panic => simp [hr, toIntRes] at h
  | ok n =>
    obtain ⟨hd, hn, hlt⟩ := parseUint10_ok hr
    simp only [hr, toIntRes, Res.ok.injEq] at h
    subst h
    exact ⟨Or.inl ⟨hd, by rw [hn]⟩, by omega, by omega⟩

theorem decodeInt_exact {w : Wrap} (hw : w.Checked) {P : Int → Prop} (h0 : P 0)
    (hp : ∀ s v, runParser w.parser s = .ok v → denotesCore s v ∧ P v)
    {b : Bytes} {v : Int} (h : decodeInt w b = .ok v) : denotes b v ∧ P v := by
  unfold decodeInt at h
  rcases strip_checked hw b with hs | hs | ⟨s, hb, hs⟩ | ⟨hs, _⟩ <;> rw [hs] at h
  · cases h
  · exact ⟨Or.inr (hp b v h).1, (hp b v h).2⟩
  · simp only at h
    split at h
    · rename_i hz
      simp only [Bool.and_eq_true, List.isEmpty_iff] at hz
      cases h
      exact ⟨Or.inl ⟨s, hb, Or.inr ⟨hz.2, rfl⟩⟩, h0⟩
    · exact ⟨Or.inl ⟨s, hb, Or.inl (hp s v h).1⟩, (hp s v h).2⟩
  · cases h

theorem decodeInt_exact_atoi {w : Wrap} (hw : w.Checked) (hp : w.parser = .atoi) {b : Bytes} {v : Int}
    (h : decodeInt w b = .ok v) : denotes b v ∧ -(2 ^ 63 : Int) ≤ v ∧ v < 2 ^ 63 :=
  decodeInt_exact hw (P := fun v => -(2 ^ 63 : Int) ≤ v ∧ v < 2 ^ 63) (by omega)
    (fun s v h => by rw [hp] at h; exact runParser_atoi_ok h) h

theorem decodeInt_exact_parseUint64 {w : Wrap} (hw : w.Checked) (hp : w.parser = .parseUint64) {b : Bytes} {v : Int}
    (h : decodeInt w b = .ok v) : denotes b v ∧ 0 ≤ v ∧ v < 2 ^ 64 :=
  decodeInt_exact hw (P := fun v => 0 ≤ v ∧ v < 2 ^ 64) (by omega)
    (fun s v h => by rw [hp] at h; exact runParser_parseUint64_ok h) h

theorem decodeInt_quoted (w : Wrap) (hk : w.kind ≠ .unknown) {s : Bytes} (hs : s ≠ []) (hl : w.minLen ≤ s.length + 2) :
    decodeInt w (34 :: (s ++ [34])) = runParser w.parser s := by
  have he : s.isEmpty = false := by
    cases s with
    | nil => exact absurd rfl hs
    | cons _ _ => rfl
  unfold decodeInt
  rw [strip_quoted w hk s hl]
  simp only [he, Bool.and_false, Bool.false_eq_true, if_false]

theorem minLen_le_of_ne_nil {w : Wrap} (hl : w.minLen ≤ 3) {s : Bytes} (hs : s ≠ []) : w.minLen ≤ s.length + 2 := by
  have := List.length_pos_iff.2 hs
  omega

theorem fmtInt_ne_nil (base : Nat) (v : Int) : fmtInt base v ≠ [] := by
  unfold fmtInt
  split
  · simp
  · exact fmtNat_ne_nil base _

/-- marshal then unmarshal, signed (JsInt64, JsUnixTime, JsNanoTime, UnixStamp) -/
theorem decodeInt_encodeInt (w : Wrap) (hk : w.kind ≠ .unknown) (hl : w.minLen ≤ 3) (hp : w.parser = .atoi)
    (v : Int) (hlo : -(2 ^ 63 : Int) ≤ v) (hhi : v < 2 ^ 63) : decodeInt w (encodeInt v) = .ok v := by
  have hne := fmtInt_ne_nil 10 v
  rw [encodeInt, quote, decodeInt_quoted w hk hne (minLen_le_of_ne_nil hl hne), hp]
  exact parseInt_fmtInt 10 (by omega) (by omega) v hlo hhi

/-- marshal then unmarshal, unsigned (JsUInt64) -/
theorem decodeInt_encodeNat (w : Wrap) (hk : w.kind ≠ .unknown) (hl : w.minLen ≤ 3) (hp : w.parser = .parseUint64)
    (n : Nat) (hn : n < 2 ^ 64) : decodeInt w (encodeNat n) = .ok (n : Int) := by
  have hne := fmtNat_ne_nil 10 n
  rw [encodeNat, quote, decodeInt_quoted w hk hne (minLen_le_of_ne_nil hl hne), hp, runParser,
    parseUint_fmtNat 10 (by omega) (by omega) n hn]
  rfl

theorem eq_of_encode_eq {α β : Type} {enc : α → β} {dec : β → Res α} {P : α → Prop}
    (hdec : ∀ a, P a → dec (enc a) = .ok a) {a b : α} (ha : P a) (hb : P b) (h : enc a = enc b) : a = b := by
  have h1 := hdec a ha
  rw [h, hdec b hb] at h1
  exact Res.ok.inj h1.symm

/-- what `Proved` asks of one wrapper -/
structure WrapOk (w : Wrap) (p : Parser) (lo hi : Nat) : Prop where
  checked : w.Checked
  parser : w.parser = p
  minLen_ge : lo ≤ w.minLen
  minLen_le : w.minLen ≤ hi

structure Proved.Parts (c : Cfg) : Prop where
  i64 : WrapOk c.i64 .atoi 1 3
  u64 : WrapOk c.u64 .parseUint64 1 3
  byte : WrapOk c.byte .fromString 0 2
  unixTime : WrapOk c.unixTime .atoi 1 3
  nanoTime : WrapOk c.nanoTime .atoi 1 3
  stamp : WrapOk c.stamp .atoi 1 3
  dur : WrapOk c.dur .parseDuration 0 4
  byteConv : c.byteConv = .rangeChecked
  scanInt : c.scanInt = .strict

theorem Proved.parts {c : Cfg} (hc : Proved c) : Proved.Parts c := by
  obtain ⟨ki, ku, kb, kt, kn, ks, kd, pi, pu, pb, pt, pn, ps, pd, hconv, li, lu, lt, ln, ls, lb, ld, hscan, _,
    gi, gu, gt, gn, gs, _⟩ := hc
  exact ⟨⟨ki, pi, gi, li⟩, ⟨ku, pu, gu, lu⟩, ⟨kb, pb, Nat.zero_le _, lb⟩, ⟨kt, pt, gt, lt⟩, ⟨kn, pn, gn, ln⟩,
    ⟨ks, ps, gs, ls⟩, ⟨kd, pd, Nat.zero_le _, ld⟩, hconv, hscan⟩

end Nv.C20
