import Nv.Spec.C20
/-!
C20 — the strconv model returns exactly the denoted number or an error.
On a string of digits of the base each parser is *characterised*: the value if it fits, a range error
if it does not; a successful parse conversely forces the string to be such digits. Soundness,
completeness and "never wraps" are read off these two facts, first for any base (`BaseDigits`,
`baseVal`), then for base 10 in the words of the specification (`DecDigits`, `decVal`, `denotesCore`).
-/
namespace Nv.C20

theorem digitVal_of_dec {c : Nat} (h : 48 ≤ c ∧ c ≤ 57) : digitVal c = some (c - 48) := by
  unfold digitVal; simp [h]

theorem digitVal_dec {c d : Nat} (h : digitVal c = some d) (hd : d < 10) : 48 ≤ c ∧ c ≤ 57 ∧ d = c - 48 := by
  by_cases hc : 48 ≤ c ∧ c ≤ 57
  · rw [digitVal_of_dec hc] at h
    exact ⟨hc.1, hc.2, (Option.some.inj h).symm⟩
  · -- a letter is worth at least ten
    rw [digitVal, if_neg hc] at h
    split at h
    · have := Option.some.inj h; omega
    · split at h
      · have := Option.some.inj h; omega
      · cases h

theorem baseVal_nil (base n : Nat) : baseVal base n [] = n := rfl
theorem baseVal_cons (base n c : Nat) (cs : Bytes) :
    baseVal base n (c :: cs) = baseVal base (n * base + (digitVal c).getD 0) cs := rfl

theorem baseVal_digit {c d : Nat} (h : digitVal c = some d) (base n : Nat) (cs : Bytes) :
    baseVal base n (c :: cs) = baseVal base (n * base + d) cs := by
  rw [baseVal_cons, h]; rfl

theorem baseVal_append (base n : Nat) (s t : Bytes) :
    baseVal base n (s ++ t) = baseVal base (baseVal base n s) t := by
  simp [baseVal, List.foldl_append]

/-- the accumulator only grows, so a bound on the final value bounds every intermediate one -/
theorem baseVal_ge (base : Nat) (hb : 1 ≤ base) : ∀ (s : Bytes) (n : Nat), n ≤ baseVal base n s
  | [], n => Nat.le_refl n
  | c :: cs, n => by
    rw [baseVal_cons]
    have h1 : n ≤ n * base := Nat.le_mul_of_pos_right n hb
    exact Nat.le_trans (Nat.le_trans h1 (Nat.le_add_right _ _)) (baseVal_ge base hb cs _)

theorem baseVal_shift (base : Nat) : ∀ (s : Bytes) (x : Nat), baseVal base x s = x * base ^ s.length + baseVal base 0 s
  | [], x => by simp [baseVal]
  | c :: cs, x => by
    rw [baseVal_cons, baseVal_cons, baseVal_shift base cs (x * base + _), baseVal_shift base cs (0 * base + _),
      List.length_cons, Nat.pow_succ, Nat.add_mul, Nat.add_mul, Nat.zero_mul, Nat.zero_mul, Nat.zero_add,
      Nat.add_assoc, Nat.mul_assoc, Nat.mul_comm base]

theorem baseDigits_nil (base : Nat) : BaseDigits base [] := fun _ h => nomatch h

theorem baseDigits_cons {base c : Nat} {cs : Bytes} :
    BaseDigits base (c :: cs) ↔ (∃ d, digitVal c = some d ∧ d < base) ∧ BaseDigits base cs :=
  List.forall_mem_cons

theorem baseDigits_append {base : Nat} {s t : Bytes} : BaseDigits base (s ++ t) ↔ BaseDigits base s ∧ BaseDigits base t :=
  List.forall_mem_append

theorem baseDigits_head_not_sign {base : Nat} {c : Nat} {cs : Bytes} (h : BaseDigits base (c :: cs)) : c ≠ 43 ∧ c ≠ 45 := by
  obtain ⟨⟨d, hd, _⟩, _⟩ := baseDigits_cons.1 h
  constructor <;> (intro hc; subst hc; simp [digitVal] at hd)

theorem parseUintLoop_digits (base bits : Nat) : ∀ (s : Bytes) (n : Nat), BaseDigits base s → n < 2 ^ bits →
    parseUintLoop base bits n s = if baseVal base n s < 2 ^ bits then .ok (baseVal base n s) else .err .range
  | [], n, _, hn => by rw [baseVal_nil, if_pos hn]; rfl
  | c :: cs, n, hd, hn => by
    obtain ⟨⟨d, hdc, hdb⟩, hcs⟩ := baseDigits_cons.1 hd
    have hmono := baseVal_ge base (by omega) cs (n * base + d)
    rw [baseVal_digit hdc]
    simp only [parseUintLoop, hdc]
    rw [if_neg (by omega)]
    by_cases hov : 2 ^ bits ≤ n * base + d
    · rw [if_pos hov, if_neg (by omega)]
    · rw [if_neg hov]
      exact parseUintLoop_digits base bits cs _ hcs (by omega)

theorem baseDigits_of_parseUintLoop (base bits : Nat) : ∀ (s : Bytes) (n m : Nat),
    parseUintLoop base bits n s = .ok m → BaseDigits base s
  | [], _, _, _ => baseDigits_nil base
  | c :: cs, n, m, h => by
    simp only [parseUintLoop] at h
    cases hd : digitVal c with
    | none => simp [hd] at h
    | some d =>
      simp only [hd] at h
      split at h
      · cases h
      · split at h
        · cases h
        · exact baseDigits_cons.2 ⟨⟨d, hd, by omega⟩, baseDigits_of_parseUintLoop base bits cs _ m h⟩

theorem parseUint_digits (base bits : Nat) {s : Bytes} (hne : s ≠ []) (hd : BaseDigits base s) :
    parseUint base bits s = if baseVal base 0 s < 2 ^ bits then .ok (baseVal base 0 s) else .err .range := by
  cases s with
  | nil => exact absurd rfl hne
  | cons c cs => exact parseUintLoop_digits base bits _ 0 hd (Nat.two_pow_pos bits)

theorem parseUint_ok (base bits : Nat) {s : Bytes} {m : Nat} (h : parseUint base bits s = .ok m) :
    s ≠ [] ∧ BaseDigits base s ∧ baseVal base 0 s = m ∧ m < 2 ^ bits := by
  cases s with
  | nil => cases h
  | cons c cs =>
    have hd := baseDigits_of_parseUintLoop base bits _ 0 m h
    rw [parseUint_digits base bits (List.cons_ne_nil c cs) hd] at h
    split at h
    · rename_i hlt
      cases h
      exact ⟨List.cons_ne_nil c cs, hd, rfl, hlt⟩
    · cases h

theorem parseInt_plus (base bits : Nat) (t : Bytes) :
    parseInt base bits (43 :: t) = signedOf bits false (parseUint base bits t) := rfl

theorem parseInt_minus (base bits : Nat) (t : Bytes) :
    parseInt base bits (45 :: t) = signedOf bits true (parseUint base bits t) := rfl

theorem parseInt_unsigned (base bits : Nat) {c : Nat} (h43 : c ≠ 43) (h45 : c ≠ 45) (cs : Bytes) :
    parseInt base bits (c :: cs) = signedOf bits false (parseUint base bits (c :: cs)) := by
  simp only [parseInt, if_neg h43, if_neg h45]

theorem signedOf_parseUint_digits (base : Nat) {bits : Nat} (hbits : 1 ≤ bits) (neg : Bool) {t : Bytes} (hne : t ≠ [])
    (hd : BaseDigits base t) {v : Int} (hv : v = if neg then -(baseVal base 0 t : Int) else (baseVal base 0 t : Int)) :
    signedOf bits neg (parseUint base bits t) =
      if -(2 ^ (bits - 1) : Int) ≤ v ∧ v < 2 ^ (bits - 1) then .ok v else .err .range := by
  have hpow : 2 ^ (bits - 1) < 2 ^ bits := Nat.pow_lt_pow_right (by omega) (by omega)
  have hpos : 0 < 2 ^ (bits - 1) := Nat.two_pow_pos _
  have hcast : ((2 ^ (bits - 1) : Nat) : Int) = 2 ^ (bits - 1) := Int.natCast_pow 2 (bits - 1)
  rw [parseUint_digits base bits hne hd]
  cases neg with
  | false =>
    simp only [Bool.false_eq_true, if_false] at hv
    subst hv
    by_cases hfit : baseVal base 0 t < 2 ^ bits
    · simp only [if_pos hfit, signedOf, Bool.false_eq_true, if_false]
      by_cases hr : 2 ^ (bits - 1) ≤ baseVal base 0 t
      · rw [if_pos hr, if_neg (by omega)]
      · rw [if_neg hr, if_pos (by omega)]
    · rw [if_neg hfit, if_neg (by omega)]
      rfl
  | true =>
    simp only [if_true] at hv
    subst hv
    by_cases hfit : baseVal base 0 t < 2 ^ bits
    · simp only [if_pos hfit, signedOf, if_true]
      by_cases hr : 2 ^ (bits - 1) < baseVal base 0 t
      · rw [if_pos hr, if_neg (by omega)]
      · rw [if_neg hr, if_pos (by omega)]
    · rw [if_neg hfit, if_neg (by omega)]
      rfl

theorem signedOf_ok {bits : Nat} {neg : Bool} {r : Res Nat} {v : Int} (h : signedOf bits neg r = .ok v) :
    ∃ un, r = .ok un := by
  cases r with
  | ok un => exact ⟨un, rfl⟩
  | err e => simp [signedOf] at h
  | panic => simp [signedOf] at h

theorem signedOf_parseUint_ok (base : Nat) {bits : Nat} (hbits : 1 ≤ bits) {neg : Bool} {t : Bytes} {v : Int}
    (h : signedOf bits neg (parseUint base bits t) = .ok v) :
    t ≠ [] ∧ BaseDigits base t ∧ v = (if neg then -(baseVal base 0 t : Int) else (baseVal base 0 t : Int)) ∧
      -(2 ^ (bits - 1) : Int) ≤ v ∧ v < 2 ^ (bits - 1) := by
  obtain ⟨un, hun⟩ := signedOf_ok h
  obtain ⟨hne, hd, _, _⟩ := parseUint_ok base bits hun
  obtain ⟨w, hw⟩ : ∃ w : Int, w = if neg then -(baseVal base 0 t : Int) else (baseVal base 0 t : Int) := ⟨_, rfl⟩
  rw [signedOf_parseUint_digits base hbits neg hne hd hw] at h
  split at h
  · rename_i hr
    cases h
    exact ⟨hne, hd, hw, hr⟩
  · cases h

theorem parseInt_ok (base : Nat) {bits : Nat} (hbits : 1 ≤ bits) {s : Bytes} {v : Int} (h : parseInt base bits s = .ok v) :
    (-(2 ^ (bits - 1) : Int) ≤ v ∧ v < 2 ^ (bits - 1)) ∧
      ((s ≠ [] ∧ BaseDigits base s ∧ v = (baseVal base 0 s : Int)) ∨
       (∃ t, s = 43 :: t ∧ t ≠ [] ∧ BaseDigits base t ∧ v = (baseVal base 0 t : Int)) ∨
       (∃ t, s = 45 :: t ∧ t ≠ [] ∧ BaseDigits base t ∧ v = -(baseVal base 0 t : Int))) := by
  cases s with
  | nil => simp [parseInt] at h
  | cons c cs =>
    by_cases h43 : c = 43
    · subst h43
      rw [parseInt_plus] at h
      obtain ⟨hne, hd, hv, hr⟩ := signedOf_parseUint_ok base hbits h
      exact ⟨hr, Or.inr (Or.inl ⟨cs, rfl, hne, hd, hv⟩)⟩
    · by_cases h45 : c = 45
      · subst h45
        rw [parseInt_minus] at h
        obtain ⟨hne, hd, hv, hr⟩ := signedOf_parseUint_ok base hbits h
        exact ⟨hr, Or.inr (Or.inr ⟨cs, rfl, hne, hd, hv⟩)⟩
      · rw [parseInt_unsigned base bits h43 h45] at h
        obtain ⟨hne, hd, hv, hr⟩ := signedOf_parseUint_ok base hbits h
        exact ⟨hr, Or.inl ⟨hne, hd, hv⟩⟩

theorem parseUintLoop_ne_panic (base bits : Nat) : ∀ (s : Bytes) (n : Nat), parseUintLoop base bits n s ≠ .panic
  | [], _ => by simp [parseUintLoop]
  | c :: cs, n => by
    simp only [parseUintLoop]
    split
    · simp
    · split
      · simp
      · split
        · simp
        · exact parseUintLoop_ne_panic base bits cs _

theorem parseUint_ne_panic (base bits : Nat) : ∀ s : Bytes, parseUint base bits s ≠ .panic
  | [] => by simp [parseUint]
  | c :: cs => parseUintLoop_ne_panic base bits _ 0

theorem signedOf_ne_panic (bits : Nat) (neg : Bool) {r : Res Nat} (hr : r ≠ .panic) : signedOf bits neg r ≠ .panic := by
  cases r with
  | panic => exact absurd rfl hr
  | err e => simp [signedOf]
  | ok un => simp only [signedOf]; split <;> split <;> simp

theorem parseInt_ne_panic (base bits : Nat) : ∀ s : Bytes, parseInt base bits s ≠ .panic
  | [] => by simp [parseInt]
  | c :: cs => by
    simp only [parseInt]
    split
    · exact signedOf_ne_panic _ _ (parseUint_ne_panic _ _ _)
    · split <;> exact signedOf_ne_panic _ _ (parseUint_ne_panic _ _ _)

theorem baseDigits10_iff (s : Bytes) : BaseDigits 10 s ↔ ∀ c ∈ s, 48 ≤ c ∧ c ≤ 57 := by
  constructor
  · intro h c hc
    obtain ⟨d, h1, h2⟩ := h c hc
    have := digitVal_dec h1 h2
    omega
  · intro h c hc
    exact ⟨c - 48, digitVal_of_dec (h c hc), by have := h c hc; omega⟩

theorem baseVal10_eq (s : Bytes) (h : ∀ c ∈ s, 48 ≤ c ∧ c ≤ 57) : ∀ n, baseVal 10 n s = s.foldl (fun n c => n * 10 + (c - 48)) n := by
  induction s with
  | nil => intro n; rfl
  | cons c cs ih =>
    intro n
    rw [baseVal_digit (digitVal_of_dec (h c (by simp)))]
    exact ih (fun x hx => h x (by simp [hx])) _

theorem decDigits_baseDigits {t : Bytes} (h : DecDigits t) : t ≠ [] ∧ BaseDigits 10 t ∧ baseVal 10 0 t = decVal t :=
  ⟨h.1, (baseDigits10_iff t).2 h.2, baseVal10_eq t h.2 0⟩

theorem decDigits_of_baseDigits {t : Bytes} (hne : t ≠ []) (hd : BaseDigits 10 t) : DecDigits t ∧ baseVal 10 0 t = decVal t :=
  ⟨⟨hne, (baseDigits10_iff t).1 hd⟩, baseVal10_eq t ((baseDigits10_iff t).1 hd) 0⟩

theorem parseUint10_ok {bits : Nat} {s : Bytes} {m : Nat} (h : parseUint 10 bits s = .ok m) :
    DecDigits s ∧ m = decVal s ∧ m < 2 ^ bits := by
  obtain ⟨hne, hd, hv, hm⟩ := parseUint_ok 10 bits h
  obtain ⟨hdec, hval⟩ := decDigits_of_baseDigits hne hd
  exact ⟨hdec, by rw [← hv, hval], hm⟩

theorem parseUint10_digits {bits : Nat} {s : Bytes} (hd : DecDigits s) :
    parseUint 10 bits s = if decVal s < 2 ^ bits then .ok (decVal s) else .err .range := by
  obtain ⟨h1, h2, h3⟩ := decDigits_baseDigits hd
  rw [parseUint_digits 10 bits h1 h2, h3]

theorem denotesCore_ne_nil {s : Bytes} {v : Int} (h : denotesCore s v) : s ≠ [] := by
  rcases h with ⟨hd, _⟩ | ⟨t, rfl, _⟩ | ⟨t, rfl, _⟩
  · exact hd.1
  · exact List.cons_ne_nil _ _
  · exact List.cons_ne_nil _ _

theorem denotesCore_decDigits {s : Bytes} {v : Int} (hs : DecDigits s) (h : denotesCore s v) : v = (decVal s : Int) := by
  rcases h with ⟨_, hv⟩ | ⟨t, rfl, _⟩ | ⟨t, rfl, _⟩
  · exact hv
  · have := hs.2 43 List.mem_cons_self; omega
  · have := hs.2 45 List.mem_cons_self; omega

theorem denotesCore_of_parseInt {bits : Nat} (hbits : 1 ≤ bits) {s : Bytes} {v : Int} (h : parseInt 10 bits s = .ok v) :
    denotesCore s v ∧ -(2 ^ (bits - 1) : Int) ≤ v ∧ v < 2 ^ (bits - 1) := by
  obtain ⟨hr, ⟨hne, hd, hv⟩ | ⟨t, hs, hne, hd, hv⟩ | ⟨t, hs, hne, hd, hv⟩⟩ := parseInt_ok 10 hbits h
  all_goals obtain ⟨hdec, hval⟩ := decDigits_of_baseDigits hne hd
  · exact ⟨Or.inl ⟨hdec, by rw [hv, hval]⟩, hr⟩
  · exact ⟨Or.inr (Or.inl ⟨t, hs, hdec, by rw [hv, hval]⟩), hr⟩
  · exact ⟨Or.inr (Or.inr ⟨t, hs, hdec, by rw [hv, hval]⟩), hr⟩

theorem parseInt_denotesCore {bits : Nat} (hbits : 1 ≤ bits) {s : Bytes} {v : Int} (hd : denotesCore s v) :
    parseInt 10 bits s = if -(2 ^ (bits - 1) : Int) ≤ v ∧ v < 2 ^ (bits - 1) then .ok v else .err .range := by
  rcases hd with ⟨hd, hv⟩ | ⟨t, rfl, hd, hv⟩ | ⟨t, rfl, hd, hv⟩
  · obtain ⟨h1, h2, h3⟩ := decDigits_baseDigits hd
    cases s with
    | nil => exact absurd rfl h1
    | cons c cs =>
      have hs := baseDigits_head_not_sign h2
      rw [parseInt_unsigned 10 bits hs.1 hs.2]
      exact signedOf_parseUint_digits 10 hbits false h1 h2 (by rw [hv, h3]; rfl)
  · obtain ⟨h1, h2, h3⟩ := decDigits_baseDigits hd
    rw [parseInt_plus]
    exact signedOf_parseUint_digits 10 hbits false h1 h2 (by rw [hv, h3]; rfl)
  · obtain ⟨h1, h2, h3⟩ := decDigits_baseDigits hd
    rw [parseInt_minus]
    exact signedOf_parseUint_digits 10 hbits true h1 h2 (by rw [hv, h3]; rfl)

end Nv.C20
