import Nv.Proofs.C09Block
/-! C09 — `Marshal` / `Unmarshal`: the byte readers against the byte writers, `Unmarshal` case by case on the length
of its input, the two decoding loops, and `Unmarshal (Marshal b) = b` for both encodings. Core only. -/
namespace Nv.C09
open Nv.C08

/-- the `m + 8` bits of `v` from bit `k` upwards are the byte at `k` below the `m` bits from `k + 8` upwards; both
    byte widths are this step, once resp. seven times -/
theorem append_bytes {w : Nat} (v : BitVec w) (k m : Nat) :
    (v >>> (k + 8)).setWidth m ++ ((v >>> k).setWidth 8 : BitVec 8) = (v >>> k).setWidth (m + 8) := by
  simp only [BitVec.setWidth_ushiftRight_eq_extractLsb]
  exact BitVec.extractLsb'_append_extractLsb'_eq_extractLsb' rfl

theorem rd16_le16 (v : BitVec 16) (t : List Byte) : rd16 (le16 v ++ t) 0 = some v := by
  have h := append_bytes v 0 8
  rw [BitVec.ushiftRight_zero, BitVec.setWidth_eq] at h
  exact congrArg some h

theorem rd64_le64 (v : BitVec 64) (t : List Byte) : rd64 (le64 v ++ t) 0 = some v := by
  have h := append_bytes v
  have h0 := h 0 56
  rw [BitVec.ushiftRight_zero, BitVec.setWidth_eq] at h0
  show some (_ ++ _ ++ _ ++ _ ++ _ ++ _ ++ _ ++ _) = some v
  rw [h 48 8, h 40, h 32, h 24, h 16, h 8, h0]

theorem rd16_drop (buf : List Byte) (off : Nat) : rd16 buf off = rd16 (buf.drop off) 0 := rfl
theorem rd64_drop (buf : List Byte) (off : Nat) : rd64 buf off = rd64 (buf.drop off) 0 := rfl

theorem rd16_some (buf : List Byte) (off : Nat) (h : off + 2 ≤ buf.length) : ∃ v, rd16 buf off = some v := by
  simp (disch := omega) only [rd16, List.drop_eq_getElem_cons]
  exact ⟨_, rfl⟩

theorem rd64_some (buf : List Byte) (off : Nat) (h : off + 8 ≤ buf.length) : ∃ v, rd64 buf off = some v := by
  simp (disch := omega) only [rd64, List.drop_eq_getElem_cons]
  exact ⟨_, rfl⟩

theorem drop_flatMap {α β} (f : α → List β) (m : Nat) (hf : ∀ a, (f a).length = m) :
    ∀ (vs : List α) (k : Nat), (vs.flatMap f).drop (k * m) = (vs.drop k).flatMap f
  | _, 0 => by rw [Nat.zero_mul]; rfl
  | [], k + 1 => by simp
  | a :: vs, k + 1 => by
    rw [Nat.succ_mul, Nat.add_comm, ← List.drop_drop, List.flatMap_cons, List.drop_left' (hf a), List.drop_succ_cons]
    exact drop_flatMap f m hf vs k

theorem length_flatMap_const {α β} (f : α → List β) (m : Nat) (hf : ∀ a, (f a).length = m) (vs : List α) :
    (vs.flatMap f).length = m * vs.length := by
  induction vs with
  | nil => rfl
  | cons a vs ih => rw [List.flatMap_cons, List.length_append, hf, ih, List.length_cons, Nat.mul_succ, Nat.add_comm]

theorem rd16_flatMap (vs : List (BitVec 16)) (k : Nat) (h : k < vs.length) :
    rd16 (vs.flatMap le16) (k * 2) = some vs[k] := by
  rw [rd16_drop, drop_flatMap le16 2 (fun _ => rfl), List.drop_eq_getElem_cons h, List.flatMap_cons, rd16_le16]

theorem rd64_flatMap (vs : List (BitVec 64)) (k : Nat) (h : k < vs.length) :
    rd64 (vs.flatMap le64) (k * 8) = some vs[k] := by
  rw [rd64_drop, drop_flatMap le64 8 (fun _ => rfl), List.drop_eq_getElem_cons h, List.flatMap_cons, rd64_le64]

/-- the four ways `Unmarshal` treats its input: nothing to do, rejected, the sparse form, the dense form -/
theorem length_cases (buf : List Byte) :
    buf = [] ∨ (buf.length > 128 ∨ buf.length % 2 = 1) ∨
    (buf ≠ [] ∧ buf.length < 128 ∧ buf.length % 2 = 0) ∨ buf.length = 128 := by
  by_cases h0 : buf = []
  · exact Or.inl h0
  · have : buf.length ≠ 0 := fun e => h0 (List.length_eq_zero_iff.1 e)
    simp only [h0, ne_eq, not_false_eq_true, true_and, false_or]
    omega

theorem unmarshal_sparse (b : Bit1024) (buf : List Byte) (h0 : buf ≠ []) (hlt : buf.length < 128)
    (heven : buf.length % 2 = 0) : unmarshal b buf = unmSparse buf (List.range (buf.length / 2)) b := by
  have h0 : buf.length ≠ 0 := fun e => h0 (List.length_eq_zero_iff.1 e)
  have h1 : ¬ buf.length > 128 := by omega
  simp [unmarshal, h0, h1, heven, hlt]

theorem ofNat16_toInt (j : Nat) (hj : j < 1024) : (BitVec.ofNat 16 j).toInt = (j : Int) := by
  have hn : (BitVec.ofNat 16 j).toNat = j := by rw [BitVec.toNat_ofNat]; omega
  rw [BitVec.toInt_eq_toNat_of_lt (by omega), hn]

theorem elem_eq (v : BitVec 16) (j : Nat) (hj : j < 1024) :
    (0 ≤ v.toInt ∧ v.toInt < 1024 ∧ v.toInt = (j : Int)) ↔ v = BitVec.ofNat 16 j := by
  constructor
  · intro h
    exact BitVec.eq_of_toInt_eq (by rw [ofNat16_toInt j hj]; exact h.2.2)
  · intro h
    rw [h, ofNat16_toInt j hj]
    omega

theorem unmSparse_no_panic (buf : List Byte) : ∀ (idxs : List Nat) (b : Bit1024),
    (∀ i ∈ idxs, i * 2 + 2 ≤ buf.length) → unmSparse buf idxs b ≠ .panic
  | [], b, _ => by simp [unmSparse]
  | i :: is, b, h => by
    obtain ⟨v, hv⟩ := rd16_some buf (i * 2) (h i (by simp))
    unfold unmSparse
    rw [hv]
    simp only
    split
    · simp
    · exact unmSparse_no_panic buf is _ (fun j hj => h j (by simp [hj]))

theorem unmSparse_isOk (buf : List Byte) : ∀ (idxs : List Nat) (b : Bit1024),
    (∀ i ∈ idxs, ∃ v, rd16 buf (i * 2) = some v ∧ 0 ≤ v.toInt ∧ v.toInt ≤ 1023) → ∃ b', unmSparse buf idxs b = .ok b'
  | [], b, _ => ⟨b, rfl⟩
  | i :: is, b, h => by
    obtain ⟨v, hv, h1, h2⟩ := h i (by simp)
    unfold unmSparse
    rw [hv]
    have : ¬ (v.toInt < 0 ∨ v.toInt > 1023) := by omega
    simp only [this, if_false]
    exact unmSparse_isOk buf is _ (fun j hj => h j (by simp [hj]))

/-- a successful sparse decoding *adds* exactly the elements read to the receiver -/
theorem unmSparse_ok (buf : List Byte) : ∀ (idxs : List Nat) (b b' : Bit1024), unmSparse buf idxs b = .ok b' →
    ∀ j, j < 1024 → (mem1024 b' j = true ↔
      (mem1024 b j = true ∨ ∃ k, k ∈ idxs ∧ rd16 buf (k * 2) = some (BitVec.ofNat 16 j)))
  | [], b, b', h, j, _ => by
    simp only [unmSparse, URes.ok.injEq] at h
    subst h; simp
  | i :: is, b, b', h, j, hj => by
    unfold unmSparse at h
    split at h
    · cases h
    · rename_i v hv
      split at h
      · cases h
      · rw [unmSparse_ok buf is _ b' h j hj, setI16_spec, Bool.or_eq_true, decide_eq_true_eq, elem_eq v j hj]
        simp only [List.mem_cons, or_assoc]
        apply or_congr_right
        constructor
        · rintro (e | ⟨k, hk, hr⟩)
          · exact ⟨i, Or.inl rfl, by rw [hv, e]⟩
          · exact ⟨k, Or.inr hk, hr⟩
        · rintro ⟨k, rfl | hk, hr⟩
          · exact Or.inl (Option.some.inj (hv.symm.trans hr))
          · exact Or.inr ⟨k, hk, hr⟩

/-- on a long enough input the dense loop succeeds and *overwrites* the words it visits with the values read -/
theorem unmDense_spec (buf : List Byte) : ∀ (idxs : List Nat) (b : Bit1024),
    (∀ i ∈ idxs, i < 16 ∧ i * 8 + 8 ≤ buf.length) →
    ∃ b', unmDense buf idxs b = .ok b' ∧
      ∀ k, k < 16 → (k ∈ idxs → rd64 buf (k * 8) = some (word b' k)) ∧ (k ∉ idxs → word b' k = word b k)
  | [], b, _ => ⟨b, rfl, fun k _ => by simp⟩
  | i :: is, b, h => by
    obtain ⟨hi, hlen⟩ := h i (by simp)
    obtain ⟨v, hv⟩ := rd64_some buf (i * 8) hlen
    obtain ⟨b', hb', ih⟩ := unmDense_spec buf is (b.set i v) (fun j hj => h j (by simp [hj]))
    refine ⟨b', by simpa only [unmDense, hv, hi, dite_true] using hb', fun k hk => ?_⟩
    obtain ⟨ih1, ih2⟩ := ih k hk
    have hset : k ∉ is → word b' k = if k = i then v else word b k := by
      intro hkis
      rw [ih2 hkis]
      by_cases e : k = i
      · subst e; simp [word, hk]
      · have : ¬ i = k := fun h => e h.symm
        simp [word, hk, e, this]
    constructor
    · intro hmem
      by_cases hkis : k ∈ is
      · exact ih1 hkis
      · have e : k = i := by simpa [hkis] using hmem
        rw [hset hkis, if_pos e, e, hv]
    · intro hmem
      have hkis : k ∉ is := fun h => hmem (List.mem_cons_of_mem _ h)
      have e : ¬ k = i := fun e => hmem (by simp [e])
      rw [hset hkis, if_neg e]

theorem unmarshal_dense (b : Bit1024) (buf : List Byte) (h : buf.length = 128) :
    ∃ b', unmarshal b buf = .ok b' ∧ ∀ k, k < 16 → rd64 buf (k * 8) = some (word b' k) := by
  obtain ⟨b', hb', hw⟩ := unmDense_spec buf (List.range 16) b (by
    intro i hi
    have := List.mem_range.1 hi
    omega)
  exact ⟨b', by simpa [unmarshal, h] using hb', fun k hk => (hw k hk).1 (List.mem_range.2 hk)⟩

theorem sparse_roundtrip (b : Bit1024) (ms : List Nat) (hmem : ∀ j, j ∈ ms ↔ mem1024 b j = true)
    (hlen : ms.length < 64) (hne : ms ≠ []) :
    unmarshal empty1024 ((ms.map (BitVec.ofNat 16)).flatMap le16) = .ok b := by
  have hlt : ∀ m ∈ ms, m < 1024 := fun m hm => mem1024_range b m ((hmem m).1 hm)
  have hbl := length_flatMap_const le16 2 (fun _ => rfl) (ms.map (BitVec.ofNat 16))
  rw [List.length_map] at hbl
  have hpos : ms.length ≠ 0 := fun e => hne (List.length_eq_zero_iff.1 e)
  have hrd : ∀ k (hk : k < ms.length),
      rd16 ((ms.map (BitVec.ofNat 16)).flatMap le16) (k * 2) = some (BitVec.ofNat 16 ms[k]) := by
    intro k hk
    rw [rd16_flatMap _ k (by rw [List.length_map]; exact hk), List.getElem_map]
  rw [unmarshal_sparse _ _ (fun e => by rw [e] at hbl; simp at hbl; omega) (by omega) (by omega),
    show ((ms.map (BitVec.ofNat 16)).flatMap le16).length / 2 = ms.length by omega]
  obtain ⟨b', hb'⟩ := unmSparse_isOk _ (List.range ms.length) empty1024 (by
    intro i hi
    have hi := List.mem_range.1 hi
    have hm := hlt _ (List.getElem_mem hi)
    have := ofNat16_toInt ms[i] hm
    exact ⟨_, hrd i hi, by omega, by omega⟩)
  rw [hb']
  congr 1
  apply ext1024
  intro j hj
  apply Bool.eq_iff_iff.2
  rw [unmSparse_ok _ _ _ _ hb' j hj, ← hmem j, mem_empty1024]
  simp only [Bool.false_eq_true, false_or, List.mem_range]
  constructor
  · rintro ⟨k, hk, hr⟩
    rw [hrd k hk, Option.some.injEq] at hr
    have e := congrArg BitVec.toInt hr
    rw [ofNat16_toInt _ (hlt _ (List.getElem_mem hk)), ofNat16_toInt j hj] at e
    have e : ms[k] = j := by omega
    exact e ▸ List.getElem_mem hk
  · intro hin
    obtain ⟨k, hk, hkj⟩ := List.getElem_of_mem hin
    exact ⟨k, hk, by rw [hrd k hk, hkj]⟩

theorem dense_roundtrip (b : Bit1024) : unmarshal empty1024 (b.toList.flatMap le64) = .ok b := by
  have hbl := length_flatMap_const le64 8 (fun _ => rfl) b.toList
  rw [Vector.length_toList] at hbl
  obtain ⟨b', hb', hw⟩ := unmarshal_dense empty1024 _ hbl
  rw [hb']
  congr 1
  apply Vector.ext
  intro k hk
  have h := hw k hk
  rw [rd64_flatMap b.toList k (by simpa using hk)] at h
  simpa [word, hk] using h.symm

/-- what `Marshal` returns, explicitly: nothing for the empty set, the members as little-endian 16-bit values when
    there are fewer than 64, the 16 words as little-endian 64-bit values otherwise; it never panics -/
theorem marshal_eq (c : Cfg) (hc : Proved c) (magic : Int) (b : Bit1024) :
    marshal c magic b = some (
      if (members1024 b).length = 0 then []
      else if (members1024 b).length < 64 then ((members1024 b).map (BitVec.ofNat 16)).flatMap le16
      else b.toList.flatMap le64) := by
  unfold marshal
  simp only [len1024_eq, hc.2.2.2.2.2.1]
  by_cases h0 : (members1024 b).length = 0
  · simp [h0]
  · simp only [h0, if_false]
    by_cases hs : (members1024 b).length < 64
    · simp only [hs, if_true]
      rw [getN1024_spec c.base hc.1 magic false b _ (Int.natCast_nonneg _), getN_values]
      simp only [Bool.false_eq_true, if_false, Int.toNat_natCast, List.take_length]
      have hne : (members1024 b).map (BitVec.ofNat 16) ≠ [] := by
        intro e
        exact h0 (by rw [← List.length_map (BitVec.ofNat 16), e]; rfl)
      simp only [hne, if_false, List.length_map, if_true]
    · simp only [hs, if_false]

end Nv.C09
