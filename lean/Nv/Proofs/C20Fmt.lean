import Nv.Proofs.C20Strconv
/-! C20 — `Format{Int,Uint}` print non-empty digit strings of the base whose value is the number, so
`ParseInt` / `ParseUint` read them back (any base 2…36). -/
namespace Nv.C20

theorem digitChar_dec {d : Nat} (h : d < 10) : digitChar d = 48 + d := by simp [digitChar, h]

theorem digitVal_digitChar {d : Nat} (h : d < 36) : digitVal (digitChar d) = some d := by
  by_cases h10 : d < 10
  · rw [digitChar_dec h10, digitVal_of_dec (by omega), Nat.add_sub_cancel_left]
  · have e : digitChar d = 97 + (d - 10) := if_neg h10
    have hd : d - 10 + 10 = d := Nat.sub_add_cancel (Nat.le_of_not_lt h10)
    rw [e, digitVal, if_neg (by omega), if_pos (by omega), Nat.add_sub_cancel_left, hd]

theorem digitChar_not_sign {d : Nat} (h : d < 36) : digitChar d ≠ 43 ∧ digitChar d ≠ 45 ∧ digitChar d ≠ 34 ∧ digitChar d ≠ 47 := by
  unfold digitChar; split <;> omega

theorem baseDigits_digitChar {base d : Nat} (h36 : base ≤ 36) (hd : d < base) : BaseDigits base [digitChar d] :=
  baseDigits_cons.2 ⟨⟨d, digitVal_digitChar (by omega), hd⟩, baseDigits_nil base⟩

theorem baseVal_digitChar (base n : Nat) {d : Nat} (h : d < 36) : baseVal base n [digitChar d] = n * base + d :=
  baseVal_digit (digitVal_digitChar h) base n []

theorem digitsFuel_succ (base f n : Nat) :
    digitsFuel base (f + 1) n = if n < base then [digitChar n] else digitsFuel base f (n / base) ++ [digitChar (n % base)] := rfl

theorem digitsFuel_ne_nil (base f n : Nat) : digitsFuel base (f + 1) n ≠ [] := by
  rw [digitsFuel_succ]; split <;> simp

theorem baseDigits_digitsFuel (base : Nat) (h1 : 1 ≤ base) (h36 : base ≤ 36) : ∀ f n : Nat, BaseDigits base (digitsFuel base f n)
  | 0, _ => baseDigits_nil base
  | f + 1, n => by
    rw [digitsFuel_succ]
    split
    · rename_i hn
      exact baseDigits_digitChar h36 hn
    · exact baseDigits_append.2 ⟨baseDigits_digitsFuel base h1 h36 f _, baseDigits_digitChar h36 (Nat.mod_lt n h1)⟩

theorem baseVal_digitsFuel (base : Nat) (h2 : 2 ≤ base) (h36 : base ≤ 36) : ∀ f n : Nat, n < base ^ f →
    baseVal base 0 (digitsFuel base f n) = n
  | 0, n, hn => by
    have : n = 0 := by simpa using hn
    rw [this]; rfl
  | f + 1, n, hn => by
    rw [digitsFuel_succ]
    split
    · rw [baseVal_digitChar base 0 (by omega), Nat.zero_mul, Nat.zero_add]
    · have hdiv : n / base < base ^ f := Nat.div_lt_of_lt_mul (by rw [Nat.mul_comm, ← Nat.pow_succ]; exact hn)
      rw [baseVal_append, baseVal_digitsFuel base h2 h36 f _ hdiv,
        baseVal_digitChar base _ (Nat.lt_of_lt_of_le (Nat.mod_lt n (by omega)) h36), Nat.mul_comm]
      exact Nat.div_add_mod n base

theorem fmtNat_ne_nil (base n : Nat) : fmtNat base n ≠ [] := digitsFuel_ne_nil base 63 n

theorem baseDigits_fmtNat (base : Nat) (h1 : 1 ≤ base) (h36 : base ≤ 36) (n : Nat) : BaseDigits base (fmtNat base n) :=
  baseDigits_digitsFuel base h1 h36 64 n

theorem baseVal_fmtNat (base : Nat) (h2 : 2 ≤ base) (h36 : base ≤ 36) {n : Nat} (hn : n < 2 ^ 64) :
    baseVal base 0 (fmtNat base n) = n :=
  baseVal_digitsFuel base h2 h36 64 n (Nat.lt_of_lt_of_le hn (Nat.pow_le_pow_left h2 64))

theorem parseUint_fmtNat (base : Nat) (h2 : 2 ≤ base) (h36 : base ≤ 36) (n : Nat) (hn : n < 2 ^ 64) :
    parseUint base 64 (fmtNat base n) = .ok n := by
  rw [parseUint_digits base 64 (fmtNat_ne_nil base n) (baseDigits_fmtNat base (by omega) h36 n),
    baseVal_fmtNat base h2 h36 hn, if_pos hn]

theorem fmtNat_head_not_sign (base : Nat) (h1 : 1 ≤ base) (h36 : base ≤ 36) (n : Nat) :
    ∃ c cs, fmtNat base n = c :: cs ∧ c ≠ 43 ∧ c ≠ 45 := by
  have hd := baseDigits_fmtNat base h1 h36 n
  obtain ⟨c, cs, h⟩ := List.exists_cons_of_ne_nil (fmtNat_ne_nil base n)
  rw [h] at hd
  exact ⟨c, cs, h, baseDigits_head_not_sign hd⟩

theorem signedOf_parseUint_fmtNat (base : Nat) (h2 : 2 ≤ base) (h36 : base ≤ 36) (neg : Bool) {n : Nat} (hn : n < 2 ^ 64)
    {v : Int} (hv : v = if neg then -(n : Int) else (n : Int)) (hlo : -(2 ^ 63 : Int) ≤ v) (hhi : v < 2 ^ 63) :
    signedOf 64 neg (parseUint base 64 (fmtNat base n)) = .ok v := by
  rw [signedOf_parseUint_digits base (by omega) neg (fmtNat_ne_nil base n) (baseDigits_fmtNat base (by omega) h36 n)
    (v := v) (by rw [baseVal_fmtNat base h2 h36 hn]; exact hv), if_pos ⟨hlo, hhi⟩]

theorem parseInt_fmtInt (base : Nat) (h2 : 2 ≤ base) (h36 : base ≤ 36) (v : Int)
    (hlo : -(2 ^ 63 : Int) ≤ v) (hhi : v < 2 ^ 63) : parseInt base 64 (fmtInt base v) = .ok v := by
  unfold fmtInt
  split
  · rw [parseInt_minus]
    exact signedOf_parseUint_fmtNat base h2 h36 true (n := (-v).toNat) (by omega) (by rw [if_pos rfl]; omega) hlo hhi
  · obtain ⟨c, cs, hf, h43, h45⟩ := fmtNat_head_not_sign base (by omega) h36 v.toNat
    rw [hf, parseInt_unsigned base 64 h43 h45, ← hf]
    exact signedOf_parseUint_fmtNat base h2 h36 false (n := v.toNat) (by omega) (by rw [if_neg (by decide)]; omega) hlo hhi

theorem fmtNat10_dec (n : Nat) : ∀ c ∈ fmtNat 10 n, 48 ≤ c ∧ c ≤ 57 :=
  (baseDigits10_iff _).1 (baseDigits_fmtNat 10 (by omega) (by omega) n)

theorem fmtNat10_cons (n : Nat) : ∃ c cs, fmtNat 10 n = c :: cs ∧ 48 ≤ c ∧ c ≤ 57 := by
  obtain ⟨c, cs, h⟩ := List.exists_cons_of_ne_nil (fmtNat_ne_nil 10 n)
  exact ⟨c, cs, h, fmtNat10_dec n c (by rw [h]; exact List.mem_cons_self)⟩

theorem decDigits_fmtNat (n : Nat) : DecDigits (fmtNat 10 n) := ⟨fmtNat_ne_nil 10 n, fmtNat10_dec n⟩

theorem decVal_fmtNat {n : Nat} (hn : n < 2 ^ 64) : decVal (fmtNat 10 n) = n :=
  (baseVal10_eq _ (fmtNat10_dec n) 0).symm.trans (baseVal_fmtNat 10 (by omega) (by omega) hn)

theorem denotesCore_fmtInt (v : Int) (hlo : -(2 ^ 64 : Int) < v) (hhi : v < 2 ^ 64) : denotesCore (fmtInt 10 v) v := by
  unfold fmtInt
  split
  · exact Or.inr (Or.inr ⟨_, rfl, decDigits_fmtNat _, by rw [decVal_fmtNat (by omega)]; omega⟩)
  · exact Or.inl ⟨decDigits_fmtNat _, by rw [decVal_fmtNat (by omega)]; omega⟩

end Nv.C20
