import Nv.Proofs.C07Codec
import Nv.Proofs.C07Text
/-! C07 — `FromChStyle (CnStyle id) = id` over a lawful calendar. -/
namespace Nv.C07
open Nv.C06

theorem shift_or_rest {nb : BitVec 8} (hl : LayoutOk nb) {id : BitVec 64} (h : id.toNat < 2 ^ 63) :
    ((BitVec.sshiftRight id (nb + 12#8).toNat) <<< (nb + 12#8).toNat) ||| rest id nb = id := by
  have e : BitVec.sshiftRight id (nb + 12#8).toNat = (idFields id nb false).1 := rfl
  have hr := (idFields_ranges hl false h).1
  apply BitVec.eq_of_toNat_eq
  rw [e, shift_toNat hl, BitVec.toNat_or, shiftLeft_toNat (top_of_ts_lt hl hr) (by decide), ts_toNat hl false h, rest_toNat hl,
    or_eq_add_nat _ _ _ (Nat.mod_lt _ (Nat.two_pow_pos _))]
  exact Nat.div_add_mod' _ _

theorem rest_toInt {nb : BitVec 8} (hl : LayoutOk nb) (id : BitVec 64) :
    0 ≤ (rest id nb).toInt ∧ (rest id nb).toInt < 10 ^ 7 := by
  have h := rest_lt hl id
  have h22 := (layout_pow hl).2
  rw [toInt_eq_toNat_of_lt (by omega)]
  omega

theorem cn_roundtrip_aux {c : Cfg} (hc : Proved c) (cal : Calendar) (D : Int → Prop) (law : cal.Lawful D)
    {nb : BitVec 8} (hl : LayoutOk nb) (epoch id : BitVec 64) (hid : 0 ≤ id.toInt) (hD : D (cnMs nb epoch id).toInt) :
    (cnStyle cal nb epoch id).length = 24 ∧
    fromChStyle c cal nb epoch (cnStyle cal nb epoch id) = some id := by
  have hid' := toNat_lt_of_toInt_nonneg hid
  have hround := law.round _ hD
  have by4 : 0 ≤ (cal.toCivil (cnMs nb epoch id).toInt).year ∧ (cal.toCivil (cnMs nb epoch id).toInt).year < 10 ^ 4 :=
    ⟨(law.year4 _ hD).1, by have := (law.year4 _ hD).2; omega⟩
  have b2 : ∀ n : Nat, n ≤ 99 → (0 : Int) ≤ (n : Int) ∧ (n : Int) < 10 ^ 2 := fun n h => ⟨by omega, by omega⟩
  have bmo := b2 _ (law.month2 _ hD)
  have bd := b2 _ (law.day2 _ hD)
  have bh := b2 _ (law.hour2 _ hD)
  have bmi := b2 _ (law.minute2 _ hD)
  have bs := b2 _ (law.second2 _ hD)
  have bms : (0 : Int) ≤ ((cal.toCivil (cnMs nb epoch id).toInt).milli : Int) ∧
      ((cal.toCivil (cnMs nb epoch id).toInt).milli : Int) < 10 ^ 3 := ⟨by omega, by have := law.milli3 _ hD; omega⟩
  have brest := rest_toInt hl id
  unfold fromChStyle cnStyle
  generalize cal.toCivil (cnMs nb epoch id).toInt = civ at *
  -- every field fits its width, so the eight slices are the eight fields and `Atoi` reads each of them back;
  -- what remains is the calendar's round trip and putting timestamp and remaining bits together again
  obtain ⟨slen, s1, s2, s3, s4, s5, s6, s7, s8⟩ := slices _ _ _ _ _ _ _ _ (padInt_length by4) (padInt_length bmo)
    (padInt_length bd) (padInt_length bh) (padInt_length bmi) (padInt_length bs) (padInt_length bms) (padInt_length brest)
  refine ⟨slen, ?_⟩
  simp only
  rw [if_neg (by rw [slen]; simp), s1, s2, s3, s4, s5, s6, s7, s8, atoi_padInt (by decide) by4, atoi_padInt (by decide) bmo,
    atoi_padInt (by decide) bd, atoi_padInt (by decide) bh, atoi_padInt (by decide) bmi, atoi_padInt (by decide) bs,
    atoi_padInt (by decide) bms, atoi_padInt (by decide) brest]
  simp only
  rw [hround, hc]
  simp only [fromMsWord, BitVec.ofInt_toInt]
  unfold cnMs
  rw [BitVec.add_sub_cancel, shift_or_rest hl hid']

end Nv.C07
