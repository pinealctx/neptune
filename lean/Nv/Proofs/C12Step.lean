import Nv.Proofs.C12Defs
/-! C12 — what the history theorems need of one call, for every operation of every list queue and every shape:
conservation, and the FIFO equation for the operations that insert nothing in front. -/
namespace Nv.C12

structure StepOk (s : LQ) (op : Op) (r : LQ × Out) : Prop where
  conserves : ∀ y, r.1.items.count y + popCount y r.2 = s.items.count y + addCount y s op r.2
  fifo : s.ctrl = [] → noFront op = true → r.1.ctrl = [] ∧ poppedOf r.2 ++ r.1.req = s.req ++ acceptedOf s op r.2

theorem count_insert (a b : List Nat) (x y : Nat) :
    (a ++ x :: b).count y = (a ++ b).count y + if x = y then 1 else 0 := by
  simp [List.count_append, List.count_cons, Nat.add_assoc]

theorem took_conserves {v : Nat} {s t : LQ} (h : Took v s t) (y : Nat) :
    t.items.count y + (if v = y then 1 else 0) = s.items.count y := by
  cases h
  · simp [LQ.items, List.count_cons]
  · simp [LQ.items, List.count_cons, Nat.add_assoc]

theorem took_fifo {v : Nat} {s t : LQ} (h : Took v s t) (hc : s.ctrl = []) : t.ctrl = [] ∧ s.req = v :: t.req := by
  cases h
  · cases hc
  · exact ⟨hc, rfl⟩

theorem popLike_ok {s : LQ} {op : Op} {r : LQ × Out} (h : PopLike s r) (hadd : ∀ y, addCount y s op r.2 = 0)
    (hacc : acceptedOf s op r.2 = []) : StepOk s op r := by
  rcases h with ⟨h1, h2, _, h3⟩ | ⟨v, h1, h2⟩
  · exact ⟨fun y => by simp [LQ.items, h1, h2, popCount_eq, h3, hadd], fun hc _ => by simp [h1, h2, h3, hc, hacc]⟩
  · rw [h1] at hadd hacc
    refine ⟨fun y => by simpa [h1, popCount, hadd] using took_conserves h2 y, fun hc _ => ?_⟩
    obtain ⟨h3, h4⟩ := took_fifo h2 hc
    simp [h1, h3, h4, hacc, poppedOf]

theorem addCount_refused {o : Out} (h : okOut o = false) (y : Nat) (s : LQ) (op : Op) : addCount y s op o = 0 := by
  unfold addCount
  split <;> simp [h]

theorem acceptedOf_refused {o : Out} (h : okOut o = false) (s : LQ) (op : Op) : acceptedOf s op o = [] := by
  unfold acceptedOf
  split <;> simp [h]

theorem refused_ok {s : LQ} {op : Op} {o : Out} (h1 : okOut o = false) (h2 : poppedOf o = []) : StepOk s op (s, o) :=
  popLike_ok (popLike_idle h2) (fun y => addCount_refused h1 y s op) (acceptedOf_refused h1 s op)

/-! ### add-like results. `hk` says that the add is not a push dropped by a closed SyncQueue. -/

theorem addLike_conserves {x : Nat} {s : LQ} {r : LQ × Out} (h : AddLike x s r)
    (hk : s.kind = .syncq → s.closed = false) (y : Nat) :
    r.1.items.count y + popCount y r.2 =
      s.items.count y + if x = y ∧ okOut r.2 = true ∧ (s.kind = .syncq → s.closed = false) then 1 else 0 := by
  rcases h with ⟨h1, h2, h3⟩ | ⟨h2, _, a, b, ha, hb⟩
  · simp [h1, h2, popCount_eq, h3]
  · rw [h2, hb, ha, count_insert]; simp [popCount, okOut, eq_true hk]

theorem front_ok {s : LQ} {op : Op} {r : LQ × Out}
    (h : ∀ y, r.1.items.count y + popCount y r.2 = s.items.count y + addCount y s op r.2) (hf : noFront op = false) :
    StepOk s op r :=
  ⟨h, fun _ h => by rw [hf] at h; cases h⟩

theorem back_ok (s : LQ) (x : Nat) (hk : s.kind = .syncq → s.closed = false) :
    StepOk s (.add x) ({ s with req := s.req ++ [x] }, .ok) :=
  ⟨addLike_conserves (addLike_back s x) hk, fun hc _ => ⟨hc, by simp [acceptedOf, poppedOf, okOut, eq_true hk]⟩⟩

theorem addReq_ok (sh : Shape) (s : LQ) (x : Nat) (hk : s.kind = .syncq → s.closed = false) :
    StepOk s (.add x) (addReq sh s x) := by
  rcases addReq_cases sh s x with h | h | ⟨_, h⟩ <;> rw [h]
  · exact refused_ok rfl rfl
  · exact refused_ok rfl rfl
  · exact back_ok s x hk

theorem addAnyway_conserves {add : LQ → LQ × Out} {x : Nat} (hadd : ∀ t, AddLike x t (add t)) (sh : Shape)
    (rp : Bool) (s : LQ) (hk : s.kind = .syncq → s.closed = false) (y : Nat) :
    (addAnyway add (popNow sh true) rp s).1.items.count y + popCount y (addAnyway add (popNow sh true) rp s).2 =
      s.items.count y +
        if x = y ∧ okOut (addAnyway add (popNow sh true) rp s).2 = true ∧ (s.kind = .syncq → s.closed = false)
        then 1 else 0 :=
  addAnyway_rule (I := fun t acc => t.items.count y + acc.count y = s.items.count y)
    (Q := fun r => r.1.items.count y + popCount y r.2 =
      s.items.count y + if x = y ∧ okOut r.2 = true ∧ (s.kind = .syncq → s.closed = false) then 1 else 0)
    rfl rfl
    (fun t acc t' v hI hp => by have := took_conserves (popNow_took hp) y; simp [List.count_cons]; omega)
    (fun t acc hI => by simpa [popCount, okOut] using hI)
    (fun t acc hI => by
      rcases hadd t with ⟨h1, h2, h3⟩ | ⟨h2, _, a, b, ha, hb⟩
      · simpa [h1, popCount, okOut_spinEnd h2] using hI
      · rw [h2, hb, count_insert, ← ha]; simp [popCount, okOut, spinEnd, eq_true hk, ← hI]; omega)
    (addLike_conserves (hadd s) hk y) rp

theorem addAnyway_fifo (sh : Shape) (x : Nat) (rp : Bool) (s : LQ) (hk : s.kind = .syncq → s.closed = false)
    (hc : s.ctrl = []) :
    (addAnyway (fun t => addReq sh t x) (popNow sh true) rp s).1.ctrl = [] ∧
    poppedOf (addAnyway (fun t => addReq sh t x) (popNow sh true) rp s).2 ++
        (addAnyway (fun t => addReq sh t x) (popNow sh true) rp s).1.req =
      s.req ++ acceptedOf s (.addAny x rp) (addAnyway (fun t => addReq sh t x) (popNow sh true) rp s).2 :=
  addAnyway_rule (I := fun t acc => t.ctrl = [] ∧ acc.reverse ++ t.req = s.req)
    (Q := fun r => r.1.ctrl = [] ∧ poppedOf r.2 ++ r.1.req = s.req ++ acceptedOf s (.addAny x rp) r.2)
    ⟨hc, rfl⟩ ⟨hc, rfl⟩
    (fun t acc t' v hI hp => by
      obtain ⟨h1, h2⟩ := took_fifo (popNow_took hp) hI.1
      exact ⟨h1, by rw [← hI.2, h2]; simp⟩)
    (fun t acc hI => by simpa [poppedOf, acceptedOf, okOut] using hI)
    (fun t acc hI => by
      rcases addReq_cases sh t x with h | h | ⟨_, h⟩ <;>
        simp [h, poppedOf, acceptedOf, okOut, spinEnd, eq_true hk, hI.1, ← hI.2])
    ((addReq_ok sh s x hk).fifo hc rfl) rp

theorem stepPipe_ok (sh : Shape) (k : Kind) (s : LQ) (op : Op) (hk : s.kind = .syncq → s.closed = false) :
    StepOk s op (stepPipe sh k s op) := by
  cases op with
  | add x => exact addReq_ok sh s x hk
  | prior x => exact front_ok (addLike_conserves (addPrior_addLike sh s x) hk) rfl
  | addAny x rp =>
    exact ⟨addAnyway_conserves (fun t => addReq_addLike sh t x) sh rp s hk, fun hc _ => addAnyway_fifo sh x rp s hk hc⟩
  | addCtrl | priorCtrl | addCtrlAny => exact refused_ok rfl rfl
  | _ => exact popLike_ok (stepPipe_popLike sh k s _ rfl) (fun _ => rfl) rfl

theorem stepMQ_ok (sh : Shape) (s : LQ) (op : Op) (hk : s.kind = .syncq → s.closed = false) :
    StepOk s op (stepMQ sh s op) := by
  cases op with
  | add x => exact addReq_ok sh s x hk
  | prior x => exact front_ok (addLike_conserves (addPrior_addLike sh s x) hk) rfl
  | addCtrl x => exact front_ok (addLike_conserves (addCtrl_addLike sh s x) hk) rfl
  | priorCtrl x => exact front_ok (addLike_conserves (addPriorCtrl_addLike sh s x) hk) rfl
  | addAny x rp =>
    exact ⟨addAnyway_conserves (fun t => addReq_addLike sh t x) sh rp s hk, fun hc _ => addAnyway_fifo sh x rp s hk hc⟩
  | addCtrlAny x rp => exact front_ok (addAnyway_conserves (fun t => addCtrl_addLike sh t x) sh rp s hk) rfl
  | _ => exact popLike_ok (stepMQ_popLike sh s _ rfl) (fun _ => rfl) rfl

/-- a closed SyncQueue answers `ok` to a push and drops the item: this is the clause of `addCount` and `acceptedOf`
    about SyncQueue, and why the shape has to guard the push -/
theorem stepSync_ok (sh : SyncShape) (hg : sh.pushGuardsClosed = true) (s : LQ) (op : Op) (hk : s.kind = .syncq) :
    StepOk s op (stepSync sh s op) := by
  cases op with
  | add x =>
    show StepOk s (.add x) (syncPush sh s x, .ok)
    rcases syncPush_cases sh hg s x with ⟨hc, e⟩ | ⟨hc, e⟩ <;> rw [e]
    · exact popLike_ok (popLike_idle rfl) (fun y => by simp [addCount, hk, hc]) (by simp [acceptedOf, hk, hc])
    · exact back_ok s x (fun _ => hc)
  | prior | addCtrl | priorCtrl | addAny | addCtrlAny => exact refused_ok rfl rfl
  | _ => exact popLike_ok (stepSync_popLike sh s _ rfl) (fun _ => rfl) rfl

theorem step_ok (c : Cfg) (hg : c.syncq.pushGuardsClosed = true) (s : LQ) (op : Op) : StepOk s op (step c s op) := by
  unfold step
  cases hk : s.kind
  · exact stepPipe_ok c.q .q s op (by simp [hk])
  · exact stepPipe_ok c.async .async s op (by simp [hk])
  · exact stepPipe_ok c.mux .mux s op (by simp [hk])
  · exact stepMQ_ok c.mq s op (by simp [hk])
  · exact stepSync_ok c.syncq hg s op hk

end Nv.C12
