import Nv.Model.C04
/-!
C04 — two facts about machines run over scripts: lockstep simulation (used for the refinement to the
ideal LRU, and by C17 for its sharded containers), and the wide cache as the product of its shards:
running a script on the array routes every operation to one shard, which sees exactly the sub-script
of the operations routed to it.
-/
namespace Nv.C04

theorem sim_outs {σ τ ι ο} (f : σ → ι → σ × ο) (g : τ → ι → τ × ο) (R : σ → τ → Prop) (Ok : ι → Prop)
    (h : ∀ s t i, R s t → Ok i → R (f s i).1 (g t i).1 ∧ (f s i).2 = (g t i).2) :
    ∀ (is : List ι) (s : σ) (t : τ), R s t → (∀ i ∈ is, Ok i) →
      outs f s is = outs g t is ∧ R (final f s is) (final g t is)
  | [], _, _, hr, _ => ⟨rfl, hr⟩
  | i :: is, s, t, hr, hok =>
    have h1 := h s t i hr (hok i List.mem_cons_self)
    have h2 := sim_outs f g R Ok h is _ _ h1.1 (fun j hj => hok j (List.mem_cons_of_mem _ hj))
    ⟨by rw [outs_cons, outs_cons, h1.2, h2.1], h2.2⟩

theorem routed_of_key (idx : Nat → Nat) (i : Nat) {op : Op} {k : Nat} (hk : op.key? = some k) :
    routed idx i op = decide (idx k = i) := by rw [routed, hk]

theorem wideStep_of_key (c : Cfg) (kd : Kind) (idx : Nat → Nat) (w : Wide) {op : Op} {k : Nat}
    (hk : op.key? = some k) (hj : idx k < w.shards.length) :
    wideStep c kd idx w op =
      some (⟨w.shards.set (idx k) (step c kd w.shards[idx k] op).1⟩, (step c kd w.shards[idx k] op).2) := by
  rw [wideStep, hk]
  simp only [List.getElem?_eq_getElem hj]

theorem wide_run_per_shard (c : Cfg) (kd : Kind) (idx : Nat → Nat) (n : Nat) (hidx : ∀ k, idx k < n)
    (ops : List Op) (hkeyed : ∀ o ∈ ops, o.key?.isSome = true) :
    ∀ (w : Wide), w.shards.length = n →
    ∃ w' os, wideRun c kd idx w ops = some (w', os) ∧ w'.shards.length = n ∧
      ∀ i s, w.shards[i]? = some s →
        w'.shards[i]? = some (final (step c kd) s (shardOps idx i ops)) ∧
        ((ops.zip os).filter (fun p => routed idx i p.1)).map (·.2) = outs (step c kd) s (shardOps idx i ops) := by
  induction ops with
  | nil =>
    intro w hlen
    exact ⟨w, [], rfl, hlen, fun i s hs => ⟨hs, rfl⟩⟩
  | cons op ops ih =>
    intro w hlen
    obtain ⟨k, hk⟩ := Option.isSome_iff_exists.1 (hkeyed op List.mem_cons_self)
    have hj : idx k < w.shards.length := hlen ▸ hidx k
    obtain ⟨w', os, hrun, hlen', hsh⟩ := ih (fun o ho => hkeyed o (List.mem_cons_of_mem _ ho))
      ⟨w.shards.set (idx k) (step c kd w.shards[idx k] op).1⟩ (by rw [List.length_set]; exact hlen)
    refine ⟨w', (step c kd w.shards[idx k] op).2 :: os, ?_, hlen', fun i s hs => ?_⟩
    · rw [wideRun, wideStep_of_key c kd idx w hk hj]
      simp only [hrun]
    -- shard `idx k` has made the step and goes on with the rest of its sub-script; the others are as before
    by_cases hi : idx k = i
    · subst hi
      obtain rfl : w.shards[idx k] = s := Option.some.inj ((List.getElem?_eq_getElem hj).symm.trans hs)
      have := hsh (idx k) _ (List.getElem?_set_self hj)
      simpa [shardOps, routed_of_key idx _ hk] using this
    · have := hsh i s (by rw [List.getElem?_set_ne hi]; exact hs)
      simpa [shardOps, routed_of_key idx _ hk, hi] using this

end Nv.C04
