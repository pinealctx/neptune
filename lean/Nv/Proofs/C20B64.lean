import Nv.Spec.C20
/-! C20 — base64.RawStdEncoding: decode ∘ encode = id. Encoding is cutting the bytes into 6-bit groups (`b64Vals`)
and writing each group in the alphabet; decoding reads the alphabet back and reassembles the groups. -/
namespace Nv.C20

def b64Vals : Bytes → List Nat
  | [] => []
  | [a] => [a / 4, a % 4 * 16]
  | [a, b] => [a / 4, a % 4 * 16 + b / 16, b % 16 * 4]
  | a :: b :: c :: rest => a / 4 :: (a % 4 * 16 + b / 16) :: (b % 16 * 4 + c / 64) :: c % 64 :: b64Vals rest

theorem b64Encode_eq_map : ∀ bs : Bytes, b64Encode bs = (b64Vals bs).map b64Char
  | [] => rfl
  | [_] => rfl
  | [_, _] => rfl
  | a :: b :: c :: rest => by simp only [b64Encode, b64Vals, List.map_cons, b64Encode_eq_map rest]

theorem b64_group_lt (a b c : Nat) (ha : a < 256) (hb : b < 256) (hc : c < 256) :
    a / 4 < 64 ∧ a % 4 * 16 < 64 ∧ a % 4 * 16 + b / 16 < 64 ∧ b % 16 * 4 < 64 ∧ b % 16 * 4 + c / 64 < 64 ∧ c % 64 < 64 := by
  omega

theorem b64Vals_lt : ∀ bs : Bytes, (∀ x ∈ bs, x < 256) → ∀ v ∈ b64Vals bs, v < 64
  | [], _ => fun _ hv => nomatch hv
  | [a], h => by
    obtain ⟨h1, h2, _⟩ := b64_group_lt a 0 0 (h a (by simp)) (by decide) (by decide)
    simp only [b64Vals, List.forall_mem_cons]
    exact ⟨h1, h2, fun _ hv => nomatch hv⟩
  | [a, b], h => by
    obtain ⟨h1, _, h2, h3, _⟩ := b64_group_lt a b 0 (h a (by simp)) (h b (by simp)) (by decide)
    simp only [b64Vals, List.forall_mem_cons]
    exact ⟨h1, h2, h3, fun _ hv => nomatch hv⟩
  | a :: b :: c :: rest, h => by
    obtain ⟨h1, _, h2, _, h3, h4⟩ := b64_group_lt a b c (h a (by simp)) (h b (by simp)) (h c (by simp))
    simp only [b64Vals, List.forall_mem_cons]
    exact ⟨h1, h2, h3, h4, b64Vals_lt rest (fun x hx => h x (by simp [hx]))⟩

theorem b64Char_table : ∀ v, v < 64 → b64Val (b64Char v) = some v ∧ b64Char v ≠ 10 ∧ b64Char v ≠ 13 := by
  decide

theorem mapVals_map : ∀ vs : List Nat, (∀ v ∈ vs, v < 64) → mapVals (vs.map b64Char) = some vs
  | [], _ => rfl
  | v :: vs, h => by
    simp only [List.map_cons, mapVals, (b64Char_table v (h v (by simp))).1,
      mapVals_map vs (fun x hx => h x (by simp [hx]))]

theorem mul_add_div_of_lt {k lo : Nat} (hi : Nat) (h : lo < k) : (hi * k + lo) / k = hi := by
  rw [Nat.mul_comm, Nat.mul_add_div (by omega), Nat.div_eq_of_lt h, Nat.add_zero]

theorem mul_add_mod_of_lt {k lo : Nat} (hi : Nat) (h : lo < k) : (hi * k + lo) % k = lo := by
  rw [Nat.mul_comm, Nat.mul_add_mod, Nat.mod_eq_of_lt h]

theorem b64Groups_vals : ∀ bs : Bytes, (∀ x ∈ bs, x < 256) → b64Groups (b64Vals bs) = some bs
  | [], _ => rfl
  | [a], _ => by
    simp only [b64Vals, b64Groups, Nat.mul_div_cancel _ (show 0 < 16 by decide), Nat.div_add_mod']
  | [a, b], h => by
    have hb : b / 16 < 16 := by have := h b (by simp); omega
    simp only [b64Vals, b64Groups, mul_add_div_of_lt _ hb, mul_add_mod_of_lt _ hb,
      Nat.mul_div_cancel _ (show 0 < 4 by decide), Nat.div_add_mod']
  | a :: b :: c :: rest, h => by
    have hb : b / 16 < 16 := by have := h b (by simp); omega
    have hc : c / 64 < 4 := by have := h c (by simp); omega
    simp only [b64Vals, b64Groups, b64Groups_vals rest (fun x hx => h x (by simp [hx])), mul_add_div_of_lt _ hb,
      mul_add_mod_of_lt _ hb, mul_add_div_of_lt _ hc, mul_add_mod_of_lt _ hc, Nat.div_add_mod']

theorem filter_encode (bs : Bytes) (h : ∀ x ∈ bs, x < 256) :
    (b64Encode bs).filter (fun c => c != 10 && c != 13) = b64Encode bs := by
  apply List.filter_eq_self.2
  intro c hc
  rw [b64Encode_eq_map] at hc
  obtain ⟨v, hv, rfl⟩ := List.mem_map.1 hc
  have := b64Char_table v (b64Vals_lt bs h v hv)
  simp [this.2.1, this.2.2]

/-- `Scan(Value(bs)) = bs` on the text level -/
theorem b64Decode_encode (bs : Bytes) (h : ∀ x ∈ bs, x < 256) : b64Decode (b64Encode bs) = .ok bs := by
  unfold b64Decode
  rw [filter_encode bs h, b64Encode_eq_map, mapVals_map _ (b64Vals_lt bs h)]
  simp only [b64Groups_vals bs h]

end Nv.C20
