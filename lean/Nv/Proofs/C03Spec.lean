import Nv.Proofs.C03Basic
/-!
C03 — the sorted-set specification (`specInsert`, `specFind`, `specDelete`, and the three removals of
`deleteItem` together as `specRemove`) on a list written as the items below a key, a middle part, and the
items above it: each operation acts on the middle part alone.
-/
namespace Nv.C03

theorem specInsert_nil (x : Item) : specInsert [] x = [x] := rfl

theorem specInsert_left (x : Item) (L M : List Item) (h : ∀ a ∈ L, a.key < x.key) :
    specInsert (L ++ M) x = L ++ specInsert M x := by
  induction L with
  | nil => rfl
  | cons a L ih =>
    have ha := h a List.mem_cons_self
    rw [List.cons_append, specInsert, if_neg (Int.not_lt.2 (Int.le_of_lt ha)), if_neg (Int.ne_of_gt ha),
      ih (fun b hb => h b (List.mem_cons_of_mem _ hb))]
    rfl

theorem specInsert_right (x : Item) (R : List Item) (h : ∀ b ∈ R, x.key < b.key) (M : List Item) :
    specInsert (M ++ R) x = specInsert M x ++ R := by
  induction M with
  | nil =>
    cases R with
    | nil => rfl
    | cons b R => simp [specInsert, h b (by simp)]
  | cons m M ih =>
    simp only [List.cons_append, specInsert]
    split
    · rfl
    · split
      · rfl
      · rw [ih]; rfl

theorem specInsert_mid (x : Item) (L M R : List Item) (hl : ∀ a ∈ L, a.key < x.key) (hr : ∀ b ∈ R, x.key < b.key) :
    specInsert (L ++ M ++ R) x = L ++ specInsert M x ++ R := by
  rw [List.append_assoc, specInsert_left x L _ hl, specInsert_right x R hr M, List.append_assoc]

theorem specInsert_at (x y : Item) (L R : List Item) (hl : ∀ a ∈ L, a.key < x.key) (hy : y.key = x.key) :
    specInsert (L ++ y :: R) x = L ++ x :: R := by
  have h1 : ¬ x.key < y.key := by omega
  rw [specInsert_left x L _ hl, specInsert, if_neg h1, if_pos hy.symm]

theorem specInsert_between (x : Item) (L R : List Item) (hl : ∀ a ∈ L, a.key < x.key) (hr : ∀ b ∈ R, x.key < b.key) :
    specInsert (L ++ R) x = L ++ x :: R := by
  rw [specInsert_left x L _ hl, ← List.nil_append R, specInsert_right x R hr []]; rfl

theorem specFind_none (k : Int) (l : List Item) (h : ∀ a ∈ l, a.key ≠ k) : specFind l k = none := by
  simp only [specFind, List.find?_eq_none]
  intro a ha; simpa using h a ha

theorem specFind_append (k : Int) (L M : List Item) (hl : ∀ a ∈ L, a.key ≠ k) :
    specFind (L ++ M) k = specFind M k := by
  have := specFind_none k L hl
  simp only [specFind] at this ⊢
  rw [List.find?_append, this, Option.none_or]

theorem specFind_mid (k : Int) (L M R : List Item) (hl : ∀ a ∈ L, a.key < k) (hr : ∀ b ∈ R, k < b.key) :
    specFind (L ++ M ++ R) k = specFind M k := by
  have := specFind_none k R (fun b hb => Int.ne_of_gt (hr b hb))
  rw [List.append_assoc, specFind_append k L _ (fun a ha => Int.ne_of_lt (hl a ha))]
  simp only [specFind] at this ⊢
  rw [List.find?_append, this, Option.or_none]

theorem specFind_at (k : Int) (y : Item) (L R : List Item) (hl : ∀ a ∈ L, a.key < k) (hy : y.key = k) :
    specFind (L ++ y :: R) k = some y := by
  rw [specFind_append k L _ (fun a ha => Int.ne_of_lt (hl a ha))]; simp [specFind, hy]

def specRemove (l : List Item) : Rm → List Item × Option Item
  | .item k => (specDelete l k, specFind l k)
  | .min => (l.drop 1, l.head?)
  | .max => (l.dropLast, l.getLast?)

theorem specDelete_append (k : Int) (a b : List Item) : specDelete (a ++ b) k = specDelete a k ++ specDelete b k := by
  simp [specDelete]

theorem specDelete_none (k : Int) (l : List Item) (h : ∀ a ∈ l, a.key ≠ k) : specDelete l k = l := by
  apply List.filter_eq_self.2
  intro a ha; simpa using h a ha

theorem specDelete_at (k : Int) (y : Item) (L R : List Item) (hl : ∀ a ∈ L, a.key < k) (hr : ∀ b ∈ R, k < b.key)
    (hy : y.key = k) : specDelete (L ++ y :: R) k = L ++ R := by
  have hR := specDelete_none k R (fun b hb => Int.ne_of_gt (hr b hb))
  have : specDelete (y :: R) k = R := by
    rw [← hR]; simp [specDelete, hy]
  rw [specDelete_append, specDelete_none k L (fun a ha => Int.ne_of_lt (hl a ha)), this]

/-- the outer parts `L`, `R` cannot be affected by the removal -/
def SideOk (typ : Rm) (L R : List Item) : Prop :=
  match typ with
  | .item k => (∀ a ∈ L, a.key < k) ∧ (∀ b ∈ R, k < b.key)
  | .min => L = []
  | .max => R = []

theorem specRemove_mid (typ : Rm) (L M R : List Item) (hM : M ≠ []) (h : SideOk typ L R) :
    specRemove (L ++ M ++ R) typ = (L ++ (specRemove M typ).1 ++ R, (specRemove M typ).2) := by
  cases typ with
  | item k =>
    simp only [specRemove, specDelete_append, specDelete_none k L (fun a ha => Int.ne_of_lt (h.1 a ha)),
      specDelete_none k R (fun b hb => Int.ne_of_gt (h.2 b hb))]
    rw [specFind_mid k L M R h.1 h.2]
  | min =>
    obtain rfl : L = [] := h
    cases M with
    | nil => exact absurd rfl hM
    | cons m M => simp [specRemove]
  | max =>
    obtain rfl : R = [] := h
    simp only [specRemove, List.append_nil]
    rw [List.dropLast_append_of_ne_nil hM, List.getLast?_append]
    cases hg : M.getLast? with
    | none => exact absurd (List.getLast?_eq_none_iff.1 hg) hM
    | some z => simp

theorem sorted_cut (k : Int) (l : List Item) (hs : Sorted l) :
    ∃ L M R, l = L ++ M ++ R ∧ (∀ a ∈ L, a.key < k) ∧ (∀ b ∈ R, k < b.key) ∧ (M = [] ∨ ∃ y, M = [y] ∧ y.key = k) := by
  induction l with
  | nil => exact ⟨[], [], [], rfl, by simp, by simp, Or.inl rfl⟩
  | cons a l ih =>
    by_cases h1 : k < a.key
    · exact ⟨[], [], a :: l, rfl, by simp, fun b hb => hs.le_of_le_head (k := k + 1) h1 hb, Or.inl rfl⟩
    · by_cases h2 : a.key = k
      · exact ⟨[], [a], l, rfl, by simp, fun b hb => h2 ▸ hs.head_lt hb, Or.inr ⟨a, rfl, h2⟩⟩
      · obtain ⟨L, M, R, rfl, hL, hR, hM⟩ := ih hs.tail
        refine ⟨a :: L, M, R, rfl, ?_, hR, hM⟩
        intro b hb
        rcases List.mem_cons.1 hb with rfl | hb
        · omega
        · exact hL b hb

theorem specInsert_sorted (x : Item) (l : List Item) (hs : Sorted l) : Sorted (specInsert l x) := by
  obtain ⟨L, M, R, rfl, hL, hR, hM⟩ := sorted_cut x.key l hs
  have e : specInsert (L ++ M ++ R) x = L ++ x :: R := by
    rcases hM with rfl | ⟨y, rfl, hy⟩
    · rw [List.append_nil, specInsert_between x L R hL hR]
    · rw [List.append_assoc, List.singleton_append, specInsert_at x y L R hL hy]
  rw [e]
  refine List.pairwise_append.2 ⟨hs.append_left.append_left, List.pairwise_cons.2 ⟨hR, hs.append_right⟩, ?_⟩
  intro a ha b hb
  rcases List.mem_cons.1 hb with rfl | hb
  · exact hL a ha
  · have := hL a ha; have := hR b hb; omega

theorem specInsert_length (x : Item) (l : List Item) (hs : Sorted l) :
    (specInsert l x).length = if (specFind l x.key).isNone then l.length + 1 else l.length := by
  obtain ⟨L, M, R, rfl, hL, hR, hM⟩ := sorted_cut x.key l hs
  rw [specFind_mid _ L M R hL hR]
  rcases hM with rfl | ⟨y, rfl, hy⟩
  · rw [List.append_nil, specInsert_between x L R hL hR]; simp [specFind, Nat.add_assoc]
  · rw [List.append_assoc, List.singleton_append, specInsert_at x y L R hL hy]; simp [specFind, hy]

theorem specDelete_length (k : Int) (l : List Item) (hs : Sorted l) :
    (specDelete l k).length = if (specFind l k).isSome then l.length - 1 else l.length := by
  obtain ⟨L, M, R, rfl, hL, hR, hM⟩ := sorted_cut k l hs
  rw [specFind_mid _ L M R hL hR]
  rcases hM with rfl | ⟨y, rfl, hy⟩
  · rw [List.append_nil, specDelete_append, specDelete_none k L (fun a ha => Int.ne_of_lt (hL a ha)),
      specDelete_none k R (fun b hb => Int.ne_of_gt (hR b hb))]
    simp [specFind]
  · rw [List.append_assoc, List.singleton_append, specDelete_at k y L R hL hR hy]; simp [specFind, hy]

theorem specRemove_length (typ : Rm) (l : List Item) (hs : Sorted l) :
    (specRemove l typ).1.length = if (specRemove l typ).2.isSome then l.length - 1 else l.length := by
  cases typ with
  | item k => exact specDelete_length k l hs
  | min => cases l <;> simp [specRemove]
  | max =>
    cases hl : l.getLast? with
    | none => rw [List.getLast?_eq_none_iff.1 hl]; rfl
    | some z => simp [specRemove, hl]

theorem specFind_specInsert (x : Item) (l : List Item) (hs : Sorted l) : specFind (specInsert l x) x.key = some x := by
  obtain ⟨L, M, R, rfl, hL, hR, hM⟩ := sorted_cut x.key l hs
  rcases hM with rfl | ⟨y, rfl, hy⟩
  · rw [List.append_nil, specInsert_between x L R hL hR, specFind_at _ x L R hL rfl]
  · rw [List.append_assoc, List.singleton_append, specInsert_at x y L R hL hy, specFind_at _ x L R hL rfl]

theorem specFind_specInsert_ne (x : Item) (k : Int) (hk : k ≠ x.key) (l : List Item) :
    specFind (specInsert l x) k = specFind l k := by
  have hx : ¬ x.key = k := fun e => hk e.symm
  fun_induction specInsert l x <;> simp_all [specFind, List.find?_cons]

end Nv.C03
