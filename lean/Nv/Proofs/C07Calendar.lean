import Nv.Model.C07
/-!
C07 — the proleptic Gregorian calendar of the model: `daysOfCivil (civilOfDays z) = z` for every day number `z`,
the month coming out in 1…12 and the day in 1…31, and the instance `shanghai` is lawful on the instants 2000-01-01 … 9999-12-31 (local time),
so that `cn_roundtrip` holds for the concrete calendar without a hypothesis.

The one step that is not routine is the year-of-era formula of `civilOfDays`. A day `doe` of the 400-year era is
written as `36524 c + 1461 q + 365 r + d`: `c` whole centuries, `q` whole four-year cycles, `r` whole years and `d`
days. Every division of the formula can be read off these parts, which gives the year `100 c + 4 q + r` and the day
of year `d`.
-/
namespace Nv.C07

/-- The parts of a day of the era. The last day of a four-year cycle and the last day of the era are leap days, which
    the plain quotients `b / 365` and `doe / 36524` would count as the start of a fifth year or century: there the part
    is capped at 3 and the remainder takes the day. So `d = 365` only on a 29 February: in the last year of a cycle,
    and not in the last cycle of a century (which is a day short) unless the century is the fourth. -/
theorem era_day_parts (doe : Int) (h0 : 0 ≤ doe) (h1 : doe < 146097) :
    ∃ c q r d : Int, doe = 36524 * c + 1461 * q + 365 * r + d ∧
      (0 ≤ c ∧ c ≤ 3) ∧ (0 ≤ q ∧ q ≤ 24) ∧ (0 ≤ r ∧ r ≤ 3) ∧ (0 ≤ d ∧ d ≤ 365) ∧
      (d = 365 → r = 3 ∧ (q < 24 ∨ c = 3)) := by
  -- one division per step: `omega` is slow on several nested divisions at once
  obtain ⟨c, a, rfl, hc, ha, hca⟩ : ∃ c a : Int, doe = 36524 * c + a ∧
      (0 ≤ c ∧ c ≤ 3) ∧ (0 ≤ a ∧ a ≤ 36524) ∧ (a = 36524 → c = 3) :=
    ⟨min (doe / 36524) 3, doe - 36524 * min (doe / 36524) 3, by omega, by omega, by omega, by omega⟩
  obtain ⟨q, b, rfl, hq, hb, hqb⟩ : ∃ q b : Int, a = 1461 * q + b ∧
      (0 ≤ q ∧ q ≤ 24) ∧ (0 ≤ b ∧ b ≤ 1460) ∧ (b = 1460 → q < 24 ∨ a = 36524) :=
    ⟨a / 1461, a % 1461, by omega, by omega, by omega, by omega⟩
  obtain ⟨r, d, rfl, hr, hd, hrd⟩ : ∃ r d : Int, b = 365 * r + d ∧
      (0 ≤ r ∧ r ≤ 3) ∧ (0 ≤ d ∧ d ≤ 365) ∧ (d = 365 → r = 3 ∧ b = 1460) :=
    ⟨min (b / 365) 3, b - 365 * min (b / 365) 3, by omega, by omega, by omega, by omega⟩
  exact ⟨c, q, r, d, by omega, hc, hq, hr, hd, by omega⟩

/-- The year of era from the parts. `doe / 1460` is the number `25 c + q` of cycles passed plus `e` = 0 or 1: it runs
    ahead at the end of a cycle, once the leap days passed and the days into the cycle together make 1460.
    What is divided by 365 is therefore `365 (100 c + 4 q + r) + (d - e)`. On the last day of the era `doe / 36524`
    and `doe / 146096` run ahead by 1 as well, and cancel. -/
theorem yoe_of_parts (doe c q r d : Int) (hdoe : doe = 36524 * c + 1461 * q + 365 * r + d)
    (hc : 0 ≤ c ∧ c ≤ 3) (hq : 0 ≤ q ∧ q ≤ 24) (hr : 0 ≤ r ∧ r ≤ 3) (hd : 0 ≤ d ∧ d ≤ 365)
    (hleap : d = 365 → r = 3 ∧ (q < 24 ∨ c = 3)) :
    (doe - doe / 1460 + doe / 36524 - doe / 146096) / 365 = 100 * c + 4 * q + r := by
  by_cases hlast : doe = 146096
  · obtain ⟨rfl, rfl, rfl, rfl⟩ : c = 3 ∧ q = 24 ∧ r = 3 ∧ d = 365 := by omega
    subst hdoe
    decide
  · rw [show doe / 36524 = c by omega, show doe / 146096 = 0 by omega]
    obtain ⟨e, he, hde⟩ : ∃ e, doe / 1460 = 25 * c + q + e ∧ (0 ≤ d - e ∧ d - e < 365) :=
      ⟨(24 * c + q + 365 * r + d) / 1460, by omega, by omega⟩
    rw [he]
    omega

/-- year of era and day of year are in range for every day of the era -/
theorem yoe_spec (doe yoe : Int) (h0 : 0 ≤ doe) (h1 : doe < 146097)
    (hyoe : yoe = (doe - doe / 1460 + doe / 36524 - doe / 146096) / 365) :
    (0 ≤ yoe ∧ yoe ≤ 399) ∧
      0 ≤ doe - (365 * yoe + yoe / 4 - yoe / 100) ∧ doe - (365 * yoe + yoe / 4 - yoe / 100) ≤ 365 := by
  obtain ⟨c, q, r, d, hdoe, hc, hq, hr, hd, hleap⟩ := era_day_parts doe h0 h1
  rw [yoe_of_parts doe c q r d hdoe hc hq hr hd hleap] at hyoe
  -- the days before year `100 c + 4 q + r` are `36524 c + 1461 q + 365 r`, so the day of year is `d`
  have e4 : yoe / 4 = 25 * c + q := by omega
  have e100 : yoe / 100 = c := by omega
  omega

/-- What `civilOfDays` computes: the day number is split into era, year of era `yoe` (years begin on 1 March) and day
    of that year `doy`; `mp` is the month counted from March, so months 10 and 11 (January, February) belong to the
    next civil year. -/
theorem civilOfDays_spec (z : Int) :
    ∃ era yoe doy mp : Int,
      z + 719468 = era * 146097 + (365 * yoe + yoe / 4 - yoe / 100) + doy ∧
      (0 ≤ yoe ∧ yoe ≤ 399) ∧ (0 ≤ doy ∧ doy ≤ 365) ∧ mp = (5 * doy + 2) / 153 ∧
      civilOfDays z = (if mp < 10 then (yoe + era * 400, mp + 3, doy - (153 * mp + 2) / 5 + 1)
        else (yoe + era * 400 + 1, mp - 9, doy - (153 * mp + 2) / 5 + 1)) := by
  have hdoe : 0 ≤ z + 719468 - (z + 719468) / 146097 * 146097 ∧
      z + 719468 - (z + 719468) / 146097 * 146097 < 146097 := by omega
  obtain ⟨hyoe, hdoy⟩ := yoe_spec _ _ hdoe.1 hdoe.2 rfl
  refine ⟨(z + 719468) / 146097, _, _, _, ?_, hyoe, hdoy, rfl, ?_⟩
  · omega
  · unfold civilOfDays
    simp only []
    split
    · rw [if_neg (by omega)]
    · rw [if_pos (by omega)]

theorem civil_round (z : Int) :
    daysOfCivil (civilOfDays z).1 (civilOfDays z).2.1 (civilOfDays z).2.2 = z ∧
    1 ≤ (civilOfDays z).2.1 ∧ (civilOfDays z).2.1 ≤ 12 ∧ 1 ≤ (civilOfDays z).2.2 ∧ (civilOfDays z).2.2 ≤ 31 := by
  obtain ⟨era, yoe, doy, mp, hz, hyoe, hdoy, hmp, h⟩ := civilOfDays_spec z
  have hera : (yoe + era * 400) / 400 = era := by omega
  rw [h]
  unfold daysOfCivil
  -- `daysOfCivil` finds the same era and year of era again; written back in, what is left is linear
  split
  · simp only []
    rw [if_neg (by omega), if_neg (by omega), hera, Int.add_sub_cancel]
    omega
  · simp only []
    rw [if_pos (by omega), if_pos (by omega), Int.add_sub_cancel, hera, Int.add_sub_cancel]
    omega

/-- the year of a day between 2000-01-01 and 9999-12-31 -/
theorem civil_year_bounds (z : Int) (h0 : 10957 ≤ z) (h1 : z ≤ 2932896) :
    0 ≤ (civilOfDays z).1 ∧ (civilOfDays z).1 ≤ 9999 := by
  obtain ⟨era, yoe, doy, mp, hz, hyoe, hdoy, hmp, h⟩ := civilOfDays_spec z
  rw [h]
  split <;> omega

theorem daysOfCivil_day (y m d : Int) : daysOfCivil y m 1 + (d - 1) = daysOfCivil y m d := by
  unfold daysOfCivil; simp only []; omega

theorem shanghaiOfCivil_eq (y mo d h mi s ms : Int) (hmo : 1 ≤ mo ∧ mo ≤ 12) :
    shanghaiOfCivil y mo d h mi s ms =
      daysOfCivil y mo d * 86400000 + h * 3600000 + mi * 60000 + s * 1000 + ms - 28800000 := by
  unfold shanghaiOfCivil shanghaiOffsetMs
  simp only []
  rw [show (mo - 1) / 12 = 0 by omega, show (mo - 1) % 12 + 1 = mo by omega, Int.add_zero, daysOfCivil_day]

theorem time_of_day (r : Int) (h0 : 0 ≤ r) (h1 : r < 86400000) :
    r / 3600000 * 3600000 + r / 60000 % 60 * 60000 + r / 1000 % 60 * 1000 + r % 1000 = r ∧
      (0 ≤ r / 3600000 ∧ r / 3600000 ≤ 23) ∧ (0 ≤ r / 60000 % 60 ∧ r / 60000 % 60 ≤ 59) ∧
      (0 ≤ r / 1000 % 60 ∧ r / 1000 % 60 ≤ 59) ∧ (0 ≤ r % 1000 ∧ r % 1000 ≤ 999) :=
  ⟨by omega, by omega, by omega, by omega, by omega⟩

/-- the instants the property speaks of: 2000-01-01T00:00:00Z … 9999-12-31T23:59:59.999+08:00 -/
def InCalendar (t : Int) : Prop := 946684800000 ≤ t ∧ t ≤ 253402271999999
instance (t : Int) : Decidable (InCalendar t) := by unfold InCalendar; exact inferInstance

theorem shanghai_civil (t : Int) (ht : InCalendar t) :
    shanghaiOfCivil (shanghaiToCivil t).year (shanghaiToCivil t).month (shanghaiToCivil t).day (shanghaiToCivil t).hour
        (shanghaiToCivil t).minute (shanghaiToCivil t).second (shanghaiToCivil t).milli = t ∧
      (0 ≤ (shanghaiToCivil t).year ∧ (shanghaiToCivil t).year ≤ 9999) ∧
      (1 ≤ (shanghaiToCivil t).month ∧ (shanghaiToCivil t).month ≤ 12) ∧
      (1 ≤ (shanghaiToCivil t).day ∧ (shanghaiToCivil t).day ≤ 31) ∧
      (shanghaiToCivil t).hour ≤ 23 ∧ (shanghaiToCivil t).minute ≤ 59 ∧ (shanghaiToCivil t).second ≤ 59 ∧
      (shanghaiToCivil t).milli ≤ 999 := by
  obtain ⟨t0, t1⟩ := ht
  simp only [shanghaiToCivil, shanghaiOffsetMs]
  obtain ⟨hround, hmo, hd⟩ := civil_round ((t + 28800000) / 86400000)
  have hy := civil_year_bounds ((t + 28800000) / 86400000) (by omega) (by omega)
  generalize civilOfDays ((t + 28800000) / 86400000) = ymd at *
  obtain ⟨hsum, hh, hmi, hs, hms⟩ := time_of_day ((t + 28800000) % 86400000) (by omega) (by omega)
  have hl : t + 28800000 = (t + 28800000) / 86400000 * 86400000 + (t + 28800000) % 86400000 := by omega
  -- the fields as variables: every division and every `toNat` left in sight doubles the work of `omega`
  generalize (t + 28800000) % 86400000 = r at *
  generalize r / 3600000 = h at *
  generalize r / 60000 % 60 = mi at *
  generalize r / 1000 % 60 = s at *
  generalize r % 1000 = ms at *
  refine ⟨?_, hy, by omega, by omega, by omega, by omega, by omega, by omega⟩
  rw [shanghaiOfCivil_eq _ _ _ _ _ _ _ (by omega), Int.toNat_of_nonneg (by omega : 0 ≤ ymd.2.1),
    Int.toNat_of_nonneg (by omega : 0 ≤ ymd.2.2), hround, Int.toNat_of_nonneg hh.1, Int.toNat_of_nonneg hmi.1,
    Int.toNat_of_nonneg hs.1, Int.toNat_of_nonneg hms.1]
  omega

theorem shanghai_lawful : shanghai.Lawful InCalendar where
  round t ht := (shanghai_civil t ht).1
  year4 t ht := (shanghai_civil t ht).2.1
  month2 t ht := Nat.le_trans (shanghai_civil t ht).2.2.1.2 (by decide)
  day2 t ht := Nat.le_trans (shanghai_civil t ht).2.2.2.1.2 (by decide)
  hour2 t ht := Nat.le_trans (shanghai_civil t ht).2.2.2.2.1 (by decide)
  minute2 t ht := Nat.le_trans (shanghai_civil t ht).2.2.2.2.2.1 (by decide)
  second2 t ht := Nat.le_trans (shanghai_civil t ht).2.2.2.2.2.2.1 (by decide)
  milli3 t ht := (shanghai_civil t ht).2.2.2.2.2.2.2

end Nv.C07
