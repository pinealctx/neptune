import Nv.Model.C16
/-!
C16 — one session under a proved configuration and an exit callback that returns: the configuration is
eliminated once (`sendStep_proved`, `recvStep_proved`); what the two loops' steps read and write (`Frame`,
`sendStepP_setRecv`, `recvStepP_setSend`, `sendLoop_cases`); then the state invariant `SInv`.
`quit` is four steps of the thread that won `exitOnce`; the other loop's `quit` blocks until it has finished.
At the end, the manager's count over a list of sessions and the steps of the accept loop's world.
-/
namespace Nv.C16

/-- `loopSend` of a proved configuration (OnExit returns) -/
def sendStepP (s : Sess) : Option Sess :=
  match s.sendPc with
  | .idle =>
    match s.q with
    | [] => if s.qClosed then some { s with sendPc := .quitting .enter } else none
    | x :: rest => if x = [] then some { s with q := rest } else some { s with q := rest, sendPc := .writing x }
  | .writing x =>
    if s.wfault || s.peerClosed || s.closes != 0 then
      some { s with sendPc := .quitting .enter, delivered := s.delivered ++ partialWrite s x }
    else if s.peerDrain then some { s with sendPc := .idle, delivered := s.delivered ++ x }
    else none
  | .quitting .enter =>
    if s.onceDone then some { s with sendPc := .done }
    else if s.onceTaken then none
    else some { s with onceTaken := true, exits := s.exits + 1, sendPc := .quitting .dec }
  | .quitting .dec => some { s with decs := s.decs + 1, sendPc := .quitting .closeQ }
  | .quitting .closeQ => some { s with qClosed := true, sendPc := .quitting .closeConn }
  | .quitting .closeConn => some { s with closes := s.closes + 1, onceDone := true, sendPc := .done }
  | .quitting .stuck => none
  | .done => none

/-- `loopReceive` of a proved configuration (OnExit returns) -/
def recvStepP (s : Sess) : Option Sess :=
  match s.recvPc with
  | .reading => if s.peerClosed || s.closes != 0 then some { s with recvPc := .quitting false .enter } else none
  | .quitting p .enter =>
    if s.onceDone then some { s with recvPc := .done }
    else if s.onceTaken then none
    else some { s with onceTaken := true, exits := s.exits + 1, recvPc := .quitting p .dec }
  | .quitting p .dec => some { s with decs := s.decs + 1, recvPc := .quitting p .closeQ }
  | .quitting p .closeQ => some { s with qClosed := true, recvPc := .quitting p .closeConn }
  | .quitting _ .closeConn => some { s with closes := s.closes + 1, onceDone := true, recvPc := .done }
  | .quitting _ .stuck => none
  | .done => none

theorem sendStep_proved {c : Cfg} (hc : Proved c) (s : Sess) (hx : s.onExit = .returns) :
    sendStep c s = sendStepP s := by
  obtain ⟨p1, p2, p3, p4, p5, p6, p7, p8, _⟩ := hc
  unfold sendStep sendStepP
  cases h1 : s.sendPc with
  | idle =>
    cases h2 : s.q with
    | nil => rfl
    | cons x rest => simp [p1, p2]
  | writing x => rfl
  | quitting st =>
    cases ho : s.onceDone <;> cases ht : s.onceTaken <;> cases st <;> simp [quitStep, p3, p4, p5, p6, p7, p8, hx, ho, ht]
  | done => rfl

theorem recvStep_proved {c : Cfg} (hc : Proved c) (s : Sess) (hx : s.onExit = .returns) (hn : s.crashed = false) :
    recvStep c s = recvStepP s := by
  obtain ⟨_, _, p3, p4, p5, p6, p7, _, p9, p10, _⟩ := hc
  unfold recvStep recvStepP
  cases h1 : s.recvPc with
  | reading => rfl
  | quitting p st =>
    cases ho : s.onceDone <;> cases ht : s.onceTaken <;> cases st <;> simp [quitStep, p3, p4, p5, p6, p7, p9, p10, hx, hn, ho, ht]
  | done => rfl

/-! ### what a loop step reads and writes

The state falls into four parts: the send loop's own (`sendPc`, `q`, `delivered`), the receive loop's own
(`recvPc`), what `quit` writes for whichever loop runs it (`qClosed`, the once, the three counters), and the
rest, which only the environment writes. -/

def sendLooping (s : Sess) : Prop := s.sendPc = .idle ∨ ∃ x, s.sendPc = .writing x

def sendLeft (s : Sess) : Prop := (∃ st, s.sendPc = .quitting st) ∨ s.sendPc = .done

/-- `t` is `s` after a step of either loop, as far as the other parties can tell: the environment's part is as it
    was, and what `quit` writes only moves forward -/
structure Frame (s t : Sess) : Prop where
  peerClosed : t.peerClosed = s.peerClosed
  peerDrain : t.peerDrain = s.peerDrain
  wfault : t.wfault = s.wfault
  wpart : t.wpart = s.wpart
  accepted : t.accepted = s.accepted
  faulted : t.faulted = s.faulted
  qClosed : s.qClosed = true → t.qClosed = true
  onceTaken : s.onceTaken = true → t.onceTaken = true
  onceDone : s.onceDone = true → t.onceDone = true
  decs : s.decs ≤ t.decs
  closes : t.closes = 0 → s.closes = 0

theorem sendStepP_frame {s a : Sess} (h : sendStepP s = some a) : Frame s a ∧ a.recvPc = s.recvPc := by
  unfold sendStepP at h
  repeat' split at h
  all_goals first
    | (cases h; exact ⟨⟨rfl, rfl, rfl, rfl, rfl, rfl, by simp, by simp, by simp, by simp, by simp⟩, rfl⟩)
    | cases h

theorem recvStepP_frame {s b : Sess} (h : recvStepP s = some b) :
    Frame s b ∧ b.sendPc = s.sendPc ∧ b.q = s.q ∧ b.delivered = s.delivered := by
  unfold recvStepP at h
  repeat' split at h
  all_goals first
    | (cases h; exact ⟨⟨rfl, rfl, rfl, rfl, rfl, rfl, by simp, by simp, by simp, by simp, by simp⟩, rfl, rfl, rfl⟩)
    | cases h

/-- the connection is down for the reader (peer closed or `conn.Close()` called): this never reverts -/
theorem Frame.connDown {s t : Sess} (f : Frame s t) (h : (s.peerClosed || s.closes != 0) = true) :
    (t.peerClosed || t.closes != 0) = true := by
  simp only [Bool.or_eq_true, bne_iff_ne, ne_eq] at h ⊢
  exact h.imp (fun hp => f.peerClosed.trans hp) (mt f.closes)

theorem Frame.partialWrite {s t : Sess} (f : Frame s t) (x : List Nat) : partialWrite t x = partialWrite s x := by
  simp only [Nv.C16.partialWrite, f.wfault, f.peerDrain, f.wpart]

theorem sendStepP_setRecv (s : Sess) (r : RecvPc) :
    sendStepP { s with recvPc := r } = (sendStepP s).map fun a => { a with recvPc := r } := by
  unfold sendStepP
  dsimp only
  repeat' split
  all_goals rfl

theorem recvStepP_setSend (s : Sess) (pc : SendPc) (q : List (List Nat)) (d : List Nat) :
    recvStepP { s with sendPc := pc, q := q, delivered := d } =
      (recvStepP s).map fun b => { b with sendPc := pc, q := q, delivered := d } := by
  unfold recvStepP
  dsimp only
  repeat' split
  all_goals rfl

inductive SendLoopStep (s : Sess) : Sess → Prop
  | close : s.sendPc = .idle → s.q = [] → s.qClosed = true → SendLoopStep s { s with sendPc := .quitting .enter }
  | skip (rest) : s.sendPc = .idle → s.q = [] :: rest → SendLoopStep s { s with q := rest }
  | take (x rest) : s.sendPc = .idle → s.q = x :: rest → x ≠ [] →
      SendLoopStep s { s with q := rest, sendPc := .writing x }
  | fail (x) : s.sendPc = .writing x → (s.wfault || s.peerClosed || s.closes != 0) = true →
      SendLoopStep s { s with sendPc := .quitting .enter, delivered := s.delivered ++ partialWrite s x }
  | wrote (x) : s.sendPc = .writing x → (s.wfault || s.peerClosed || s.closes != 0) = false → s.peerDrain = true →
      SendLoopStep s { s with sendPc := .idle, delivered := s.delivered ++ x }

theorem sendLoop_cases {s a : Sess} (hl : sendLooping s) (h : sendStepP s = some a) : SendLoopStep s a := by
  rcases hl with hp | ⟨x, hp⟩
  · simp only [sendStepP, hp] at h
    split at h
    · rename_i hq
      split at h
      · rename_i hc; cases h; exact .close hp hq hc
      · cases h
    · rename_i x rest hq
      split at h
      · rename_i hx; subst hx; cases h; exact hp ▸ .skip rest hp hq
      · rename_i hx; cases h; exact .take x rest hp hq hx
  · simp only [sendStepP, hp] at h
    split at h
    · rename_i hc; cases h; exact .fail x hp hc
    · rename_i hc
      split at h
      · rename_i hd; cases h; exact .wrote x hp (by simpa using hc) hd
      · cases h

theorem sendQuit_frame {s a : Sess} {st : QStage} (hp : s.sendPc = .quitting st) (h : sendStepP s = some a) :
    a.q = s.q ∧ a.delivered = s.delivered ∧ sendLeft a := by
  cases st <;> simp only [sendStepP, hp] at h
  · split at h
    · cases h; exact ⟨rfl, rfl, Or.inr rfl⟩
    · split at h
      · cases h
      · cases h; exact ⟨rfl, rfl, Or.inl ⟨_, rfl⟩⟩
  · cases h; exact ⟨rfl, rfl, Or.inl ⟨_, rfl⟩⟩
  · cases h; exact ⟨rfl, rfl, Or.inl ⟨_, rfl⟩⟩
  · cases h; exact ⟨rfl, rfl, Or.inr rfl⟩
  · cases h

theorem sendStepP_pc {s a : Sess} (h : sendStepP s = some a) : sendLooping s ∨ ∃ st, s.sendPc = .quitting st := by
  cases hp : s.sendPc with
  | idle => exact Or.inl (Or.inl hp)
  | writing x => exact Or.inl (Or.inr ⟨x, hp⟩)
  | quitting st => exact Or.inr ⟨st, rfl⟩
  | done => simp [sendStepP, hp] at h

theorem sendLeft.not_looping {s : Sess} (h : sendLeft s) : ¬ sendLooping s := by
  intro hl
  rcases h with ⟨st, h⟩ | h <;> rcases hl with hl | ⟨x, hl⟩ <;> rw [h] at hl <;> cases hl

/-- what the counters must be while the owner of the once is at a stage -/
def stageOk (s : Sess) : QStage → Prop
  | .enter => True
  | .dec => s.decs = 0 ∧ s.closes = 0
  | .closeQ => s.decs = 1 ∧ s.closes = 0
  | .closeConn => s.decs = 1 ∧ s.closes = 0 ∧ s.qClosed = true
  | .stuck => False

structure SInv (s : Sess) : Prop where
  exit_ret : s.onExit = .returns
  not_crashed : s.crashed = false
  send_done : s.sendPc = .done → s.onceDone = true
  recv_done : s.recvPc = .done → s.onceDone = true
  fresh : s.onceTaken = false → s.onceDone = false ∧ s.exits = 0 ∧ s.decs = 0 ∧ s.closes = 0
  fin : s.onceDone = true → s.onceTaken = true ∧ s.exits = 1 ∧ s.decs = 1 ∧ s.closes = 1 ∧ s.qClosed = true
  mid : s.onceTaken = true → s.onceDone = false → s.exits = 1 ∧
    ((∃ st, s.sendPc = .quitting st ∧ st ≠ .enter) ∨ (∃ p st, s.recvPc = .quitting p st ∧ st ≠ .enter))
  sOwner : ∀ st, s.sendPc = .quitting st → st ≠ .enter →
    s.onceTaken = true ∧ s.onceDone = false ∧ stageOk s st ∧ (∀ p st', s.recvPc = .quitting p st' → st' = .enter)
  rOwner : ∀ p st, s.recvPc = .quitting p st → st ≠ .enter →
    s.onceTaken = true ∧ s.onceDone = false ∧ stageOk s st ∧ (∀ st', s.sendPc = .quitting st' → st' = .enter)

theorem sinv_init : SInv Sess.init := by
  constructor <;> simp [Sess.init]

theorem sinv_recv_enter {s : Sess} (h : SInv s) (hr : s.recvPc = .reading) (p : Bool) (f : Bool) :
    SInv { s with recvPc := .quitting p .enter, faulted := f } := by
  obtain ⟨h1, h2, h3, h4, h5, h6, h7, h8, h9⟩ := h
  refine ⟨h1, h2, h3, by simp, h5, h6, ?_, ?_, by simp⟩
  · intro a b
    obtain ⟨e, o⟩ := h7 a b
    refine ⟨e, ?_⟩
    rcases o with o | ⟨p', st, o, _⟩
    · exact Or.inl o
    · rw [hr] at o; cases o
  · intro st a b
    obtain ⟨x1, x2, x3, _⟩ := h8 st a b
    exact ⟨x1, x2, x3, by intro p' st' e; simp at e; exact e.2.symm⟩

theorem stageOk_close {s : Sess} {st : QStage} (h : stageOk s st) : stageOk { s with qClosed := true } st := by
  cases st
  case closeConn => exact ⟨h.1, h.2.1, rfl⟩
  all_goals exact h

theorem sinv_env {s : Sess} (h : SInv s) (e : Env) : SInv (envStep s e) := by
  have h' := h
  obtain ⟨h1, h2, h3, h4, h5, h6, h7, h8, h9⟩ := h
  cases e <;> simp only [envStep]
  case close =>
    refine ⟨h1, h2, h3, h4, h5, fun a => ?_, h7, fun st a b => ?_, fun p st a b => ?_⟩
    · obtain ⟨x1, x2, x3, x4, _⟩ := h6 a; exact ⟨x1, x2, x3, x4, rfl⟩
    · obtain ⟨x1, x2, x3, x4⟩ := h8 st a b; exact ⟨x1, x2, stageOk_close x3, x4⟩
    · obtain ⟨x1, x2, x3, x4⟩ := h9 p st a b; exact ⟨x1, x2, stageOk_close x3, x4⟩
  case readFail =>
    split
    · rename_i hr; exact sinv_recv_enter h' hr false true
    · exact ⟨h1, h2, h3, h4, h5, h6, h7, h8, h9⟩
  case handlerPanic =>
    split
    · rename_i hr; exact sinv_recv_enter h' hr true true
    · exact ⟨h1, h2, h3, h4, h5, h6, h7, h8, h9⟩
  -- the other events write nothing the invariant reads
  case send bs => split <;> exact ⟨h1, h2, h3, h4, h5, h6, h7, h8, h9⟩
  case peerData => split <;> exact ⟨h1, h2, h3, h4, h5, h6, h7, h8, h9⟩
  case writeFailAfter n => split <;> exact ⟨h1, h2, h3, h4, h5, h6, h7, h8, h9⟩
  all_goals exact ⟨h1, h2, h3, h4, h5, h6, h7, h8, h9⟩

/-- the send loop moves among idle / writing / `quitting enter` (queue and delivered bytes may change) -/
theorem sinv_send_move {s : Sess} (h : SInv s) (hold : ∀ st, s.sendPc = .quitting st → st = .enter)
    (new : SendPc) (hnew : ∀ st, new = .quitting st → st = .enter) (hnn : new ≠ .done) (q' : List (List Nat)) (d' : List Nat) :
    SInv { s with sendPc := new, q := q', delivered := d' } := by
  obtain ⟨h1, h2, h3, h4, h5, h6, h7, h8, h9⟩ := h
  refine ⟨h1, h2, fun a => absurd a hnn, h4, h5, h6, ?_, ?_, ?_⟩
  · intro a b
    obtain ⟨e, o⟩ := h7 a b
    refine ⟨e, ?_⟩
    rcases o with ⟨st, o, ne⟩ | o
    · exact absurd (hold st o) ne
    · exact Or.inr o
  · intro st a b; exact absurd (hnew st a) b
  · intro p st a b
    obtain ⟨x1, x2, x3, _⟩ := h9 p st a b
    exact ⟨x1, x2, x3, fun st' e => hnew st' e⟩

theorem sinv_sendStepP {s s' : Sess} (h : SInv s) (hs : sendStepP s = some s') : SInv s' := by
  have h' := h
  obtain ⟨h1, h2, h3, h4, h5, h6, h7, h8, h9⟩ := h
  cases hp : s.sendPc with
  | idle | writing =>
    have hold : ∀ st, s.sendPc = .quitting st → st = .enter := by intro st e; rw [hp] at e; cases e
    cases sendLoop_cases (by simp [sendLooping, hp]) hs with
    | close => exact sinv_send_move h' hold _ (by intro st e; cases e; rfl) (by simp) _ _
    | skip => exact ⟨h1, h2, h3, h4, h5, h6, h7, h8, h9⟩
    | take => exact sinv_send_move h' hold _ (by intro st e; cases e) (by simp) _ _
    | fail => exact sinv_send_move h' hold _ (by intro st e; cases e; rfl) (by simp) _ _
    | wrote => exact sinv_send_move h' hold _ (by intro st e; cases e) (by simp) _ _
  | done => simp [sendStepP, hp] at hs
  | quitting st =>
    cases st with
    | stuck => simp [sendStepP, hp] at hs
    | enter =>
      simp only [sendStepP, hp] at hs
      split at hs
      · rename_i hd
        cases hs
        obtain ⟨f1, f2, f3, f4, f5⟩ := h6 hd
        refine ⟨h1, h2, fun _ => hd, h4, h5, h6, ?_, ?_, ?_⟩
        · intro _ b; simp [hd] at b
        · intro st a; cases a
        · intro p st a b; have := (h9 p st a b).2.1; simp [hd] at this
      · rename_i hd
        split at hs
        · cases hs
        · rename_i ht
          cases hs
          have ht' : s.onceTaken = false := by simpa using ht
          have hd' : s.onceDone = false := by simpa using hd
          obtain ⟨_, e0, d0, c0⟩ := h5 ht'
          refine ⟨h1, h2, by simp, ?_, by simp, by simp [hd'], ?_, ?_, ?_⟩
          · intro a; have := h4 a; simp [hd'] at this
          · intro _ _; exact ⟨by simp [e0], Or.inl ⟨.dec, rfl, by simp⟩⟩
          · intro st a _
            cases a
            refine ⟨rfl, hd', ⟨d0, c0⟩, ?_⟩
            intro p st' e
            by_cases hne : st' = .enter
            · exact hne
            · have := (h9 p st' e hne).1
              simp [ht'] at this
          · intro p st a b
            have := (h9 p st a b).1
            simp [ht'] at this
    | dec =>
      simp only [sendStepP, hp] at hs
      cases hs
      obtain ⟨o1, o2, ⟨d0, c0⟩, o4⟩ := h8 .dec hp (by simp)
      obtain ⟨e1, _⟩ := h7 o1 o2
      refine ⟨h1, h2, by simp, h4, by simp [o1], by simp [o2], ?_, ?_, ?_⟩
      · intro _ _; exact ⟨e1, Or.inl ⟨.closeQ, rfl, by simp⟩⟩
      · intro st a _; cases a; exact ⟨o1, o2, ⟨by simp [d0], c0⟩, o4⟩
      · intro p st a b; have := o4 p st a; exact absurd this b
    | closeQ =>
      simp only [sendStepP, hp] at hs
      cases hs
      obtain ⟨o1, o2, ⟨d1, c0⟩, o4⟩ := h8 .closeQ hp (by simp)
      obtain ⟨e1, _⟩ := h7 o1 o2
      refine ⟨h1, h2, by simp, h4, by simp [o1], by simp [o2], ?_, ?_, ?_⟩
      · intro _ _; exact ⟨e1, Or.inl ⟨.closeConn, rfl, by simp⟩⟩
      · intro st a _; cases a; exact ⟨o1, o2, ⟨d1, c0, rfl⟩, o4⟩
      · intro p st a b; have := o4 p st a; exact absurd this b
    | closeConn =>
      simp only [sendStepP, hp] at hs
      cases hs
      obtain ⟨o1, o2, ⟨d1, c0, qc⟩, o4⟩ := h8 .closeConn hp (by simp)
      obtain ⟨e1, _⟩ := h7 o1 o2
      refine ⟨h1, h2, by simp, by simp, by simp [o1], ?_, by simp, ?_, ?_⟩
      · intro _; exact ⟨o1, e1, d1, by simp [c0], qc⟩
      · intro st a; cases a
      · intro p st a b; have := o4 p st a; exact absurd this b

theorem sinv_recvStepP {s s' : Sess} (h : SInv s) (hs : recvStepP s = some s') : SInv s' := by
  have h' := h
  obtain ⟨h1, h2, h3, h4, h5, h6, h7, h8, h9⟩ := h
  unfold recvStepP at hs
  cases hp : s.recvPc with
  | reading =>
    simp only [hp] at hs
    split at hs
    · cases hs; exact sinv_recv_enter h' hp false s.faulted
    · cases hs
  | done => simp [hp] at hs
  | quitting p st =>
    cases st with
    | stuck => simp [hp] at hs
    | enter =>
      simp only [hp] at hs
      split at hs
      · rename_i hd
        cases hs
        refine ⟨h1, h2, h3, fun _ => hd, h5, h6, ?_, ?_, ?_⟩
        · intro _ b; simp [hd] at b
        · intro st a b; have := (h8 st a b).2.1; simp [hd] at this
        · intro p st a; cases a
      · rename_i hd
        split at hs
        · cases hs
        · rename_i ht
          cases hs
          have ht' : s.onceTaken = false := by simpa using ht
          have hd' : s.onceDone = false := by simpa using hd
          obtain ⟨_, e0, d0, c0⟩ := h5 ht'
          refine ⟨h1, h2, ?_, by simp, by simp, by simp [hd'], ?_, ?_, ?_⟩
          · intro a; have := h3 a; simp [hd'] at this
          · intro _ _; exact ⟨by simp [e0], Or.inr ⟨p, .dec, rfl, by simp⟩⟩
          · intro st a b
            have := (h8 st a b).1
            simp [ht'] at this
          · intro p' st a _
            cases a
            refine ⟨rfl, hd', ⟨d0, c0⟩, ?_⟩
            intro st' e
            by_cases hne : st' = .enter
            · exact hne
            · have := (h8 st' e hne).1
              simp [ht'] at this
    | dec =>
      simp only [hp] at hs
      cases hs
      obtain ⟨o1, o2, ⟨d0, c0⟩, o4⟩ := h9 p .dec hp (by simp)
      obtain ⟨e1, _⟩ := h7 o1 o2
      refine ⟨h1, h2, h3, by simp, by simp [o1], by simp [o2], ?_, ?_, ?_⟩
      · intro _ _; exact ⟨e1, Or.inr ⟨p, .closeQ, rfl, by simp⟩⟩
      · intro st a b; have := o4 st a; exact absurd this b
      · intro p' st a _; cases a; exact ⟨o1, o2, ⟨by simp [d0], c0⟩, o4⟩
    | closeQ =>
      simp only [hp] at hs
      cases hs
      obtain ⟨o1, o2, ⟨d1, c0⟩, o4⟩ := h9 p .closeQ hp (by simp)
      obtain ⟨e1, _⟩ := h7 o1 o2
      refine ⟨h1, h2, h3, by simp, by simp [o1], by simp [o2], ?_, ?_, ?_⟩
      · intro _ _; exact ⟨e1, Or.inr ⟨p, .closeConn, rfl, by simp⟩⟩
      · intro st a b; have := o4 st a; exact absurd this b
      · intro p' st a _; cases a; exact ⟨o1, o2, ⟨d1, c0, rfl⟩, o4⟩
    | closeConn =>
      simp only [hp] at hs
      cases hs
      obtain ⟨o1, o2, ⟨d1, c0, qc⟩, o4⟩ := h9 p .closeConn hp (by simp)
      obtain ⟨e1, _⟩ := h7 o1 o2
      refine ⟨h1, h2, by simp, by simp, by simp [o1], ?_, by simp, ?_, ?_⟩
      · intro _; exact ⟨o1, e1, d1, by simp [c0], qc⟩
      · intro st a b; have := o4 st a; exact absurd this b
      · intro p' st a; cases a

theorem step_proved {c : Cfg} (hc : Proved c) {s s' : Sess} {a : Act} (h : SInv s) (hs : step c s a = some s') :
    (∃ e, a = .env e ∧ s' = envStep s e) ∨ (a = .sendStep ∧ sendStepP s = some s') ∨
    (a = .recvStep ∧ recvStepP s = some s') := by
  cases a with
  | env e => exact Or.inl ⟨e, rfl, (Option.some.inj hs).symm⟩
  | sendStep => exact Or.inr (Or.inl ⟨rfl, (sendStep_proved hc s h.exit_ret).symm.trans hs⟩)
  | recvStep => exact Or.inr (Or.inr ⟨rfl, (recvStep_proved hc s h.exit_ret h.not_crashed).symm.trans hs⟩)

theorem sinv_step {c : Cfg} (hc : Proved c) {s s' : Sess} {a : Act} (h : SInv s) (hs : step c s a = some s') : SInv s' := by
  rcases step_proved hc h hs with ⟨e, _, rfl⟩ | ⟨_, hs⟩ | ⟨_, hs⟩
  · exact sinv_env h e
  · exact sinv_sendStepP h hs
  · exact sinv_recvStepP h hs

theorem sinv_reach {c : Cfg} (hc : Proved c) : ∀ s, (sessLTS c).Reach s → SInv s :=
  (sessLTS c).inv_of_step SInv sinv_init (fun _ _ _ h hs => sinv_step hc h hs)

/-- the three phases of the once: not taken, its body running (OnExit has been called, the connection is still
    open), finished -/
theorem SInv.phase {s : Sess} (h : SInv s) :
    (s.onceTaken = false ∧ s.onceDone = false ∧ s.exits = 0 ∧ s.decs = 0 ∧ s.closes = 0) ∨
    (s.onceTaken = true ∧ s.onceDone = false ∧ s.exits = 1 ∧ s.decs ≤ 1 ∧ s.closes = 0) ∨
    (s.onceTaken = true ∧ s.onceDone = true ∧ s.exits = 1 ∧ s.decs = 1 ∧ s.closes = 1) := by
  have body : ∀ st, st ≠ .enter → stageOk s st → s.decs ≤ 1 ∧ s.closes = 0 := by
    intro st ne ok
    cases st with
    | enter => exact absurd rfl ne
    | dec => exact ⟨ok.1 ▸ Nat.zero_le 1, ok.2⟩
    | closeQ => exact ⟨Nat.le_of_eq ok.1, ok.2⟩
    | closeConn => exact ⟨Nat.le_of_eq ok.1, ok.2.1⟩
    | stuck => exact ok.elim
  cases ht : s.onceTaken
  · exact Or.inl ⟨rfl, h.fresh ht⟩
  · cases hd : s.onceDone
    · obtain ⟨e1, o⟩ := h.mid ht hd
      rcases o with ⟨st, o, ne⟩ | ⟨p, st, o, ne⟩
      · exact Or.inr (Or.inl ⟨rfl, rfl, e1, body st ne (h.sOwner st o ne).2.2.1⟩)
      · exact Or.inr (Or.inl ⟨rfl, rfl, e1, body st ne (h.rOwner p st o ne).2.2.1⟩)
    · obtain ⟨_, e1, d1, c1, _⟩ := h.fin hd
      exact Or.inr (Or.inr ⟨rfl, rfl, e1, d1, c1⟩)

theorem counters_le_one {s : Sess} (h : SInv s) : s.exits ≤ 1 ∧ s.decs ≤ 1 ∧ s.closes ≤ 1 := by
  rcases h.phase with ⟨_, _, e, d, c⟩ | ⟨_, _, e, d, c⟩ | ⟨_, _, e, d, c⟩ <;> omega

/-- the connection is closed by the last step of the body of the once -/
theorem once_of_closes {s : Sess} (h : SInv s) (hc : s.closes ≠ 0) : s.onceTaken = true ∧ s.onceDone = true := by
  rcases h.phase with ⟨_, _, _, _, c⟩ | ⟨_, _, _, _, c⟩ | ⟨t, d, _⟩
  · exact absurd c hc
  · exact absurd c hc
  · exact ⟨t, d⟩

theorem liveCount_append (l : List Sess) (s : Sess) : liveCount (l ++ [s]) = liveCount l + (1 - (s.decs : Int)) := by
  induction l with
  | nil => simp [liveCount]
  | cons x xs ih => simp only [List.cons_append, liveCount, ih]; omega

theorem liveCount_set : ∀ (l : List Sess) (k : Nat) (s s' : Sess), l[k]? = some s →
    liveCount (l.set k s') = liveCount l + (s.decs : Int) - (s'.decs : Int)
  | [], _, _, _, h => by simp at h
  | x :: xs, 0, s, s', h => by
    simp only [List.getElem?_cons_zero, Option.some.injEq] at h
    subst h
    simp only [List.set_cons_zero, liveCount]; omega
  | x :: xs, k + 1, s, s', h => by
    simp only [List.getElem?_cons_succ] at h
    simp only [List.set_cons_succ, liveCount, liveCount_set xs k s s' h]; omega

theorem liveCount_eq_alive : ∀ (l : List Sess), (∀ s ∈ l, SInv s) → liveCount l = (aliveNum l : Int)
  | [], _ => rfl
  | x :: xs, h => by
    have hx := counters_le_one (h x (by simp))
    have ih := liveCount_eq_alive xs (fun s hs => h s (by simp [hs]))
    simp only [liveCount, aliveNum, ih]
    split <;> omega

theorem envStep_counters (s : Sess) (e : Env) : (envStep s e).decs = s.decs ∧ (envStep s e).closes = s.closes := by
  cases e <;> simp only [envStep, apply_ite Sess.decs, apply_ite Sess.closes, ite_self, and_self]

theorem decs_mono_P {c : Cfg} (hc : Proved c) {s s' : Sess} {a : Act} (hS : SInv s) (hs : step c s a = some s') :
    s.decs ≤ s'.decs := by
  rcases step_proved hc hS hs with ⟨e, _, rfl⟩ | ⟨_, hs⟩ | ⟨_, hs⟩
  · exact Nat.le_of_eq (envStep_counters s e).1.symm
  · exact (sendStepP_frame hs).1.decs
  · exact (recvStepP_frame hs).1.decs

theorem full_proved {c : Cfg} (hc : Proved c) (w : World) : full c w = decide (w.count ≥ w.max) := by
  simp only [full, hc.2.2.2.2.2.2.2.2.2.2]

theorem wstep_cases {c : Cfg} {w w' : World} {a : WAct} (h : wstep c w a = some w') :
    (a = .connect ∧ full c w = true ∧ w' = { w with rejected := w.rejected + 1 }) ∨
    (a = .connect ∧ full c w = false ∧ w' = { w with sess := w.sess ++ [Sess.initWith w.onExit] }) ∨
    (∃ k b s0 s1, a = .sess k b ∧ w.sess[k]? = some s0 ∧ step c s0 b = some s1 ∧
      w' = { w with sess := w.sess.set k s1 }) := by
  cases a with
  | connect =>
    simp only [wstep] at h
    split at h <;> cases h
    · rename_i hf; exact Or.inl ⟨rfl, hf, rfl⟩
    · rename_i hf; exact Or.inr (Or.inl ⟨rfl, by simpa using hf, rfl⟩)
  | sess k b =>
    simp only [wstep] at h
    split at h
    · cases h
    · rename_i s0 hk
      split at h <;> cases h
      rename_i s1 hst
      exact Or.inr (Or.inr ⟨k, b, s0, s1, rfl, hk, hst, rfl⟩)

end Nv.C16
