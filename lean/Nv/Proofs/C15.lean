import Nv.Model.C15
import Nv.Proofs.Int64
/-!
C15 — the association-list store and the cache facade; what a handler run may do to them (`HOk`) and the two ways a
store callback fits into such a run (`mut_then_set`, `mut_no_set`); the contract of a mutating callback (`MutSpec`) and
that the model's in-memory callbacks meet it.
-/
namespace Nv.C15

theorem sGet_sErase (s : Store) (k k' : Key) :
    sGet (sErase s k) k' = if k' = k then none else sGet s k' := by
  induction s with
  | nil => simp [sErase, sGet]
  | cons p rest ih =>
    by_cases h : p.1 = k
    · subst h
      by_cases h2 : k' = p.1
      · subst h2; simp [sErase, ih]
      · simp [sErase, sGet, ih, h2, Ne.symm h2]
    · by_cases h2 : p.1 = k'
      · subst h2; simp [sErase, sGet, h]
      · simp [sErase, sGet, ih, h, h2]

theorem sGet_sSet (s : Store) (k k' : Key) (v : Val) :
    sGet (sSet s k v) k' = if k' = k then some v else sGet s k' := by
  by_cases h : k = k' <;> simp [sSet, sGet, sGet_sErase, h, eq_comm (a := k')]

theorem mem_sErase {s : Store} {k : Key} {p : Key × Val} (h : p ∈ sErase s k) : p ∈ s ∧ p.1 ≠ k := by
  induction s with
  | nil => cases h
  | cons q rest ih =>
    by_cases hk : q.1 = k
    · simp only [sErase, hk, if_true] at h
      exact ⟨List.mem_cons_of_mem _ (ih h).1, (ih h).2⟩
    · simp only [sErase, hk, if_false, List.mem_cons] at h
      rcases h with rfl | h
      · exact ⟨List.mem_cons_self .., hk⟩
      · exact ⟨List.mem_cons_of_mem _ (ih h).1, (ih h).2⟩

theorem sGet_mem {s : Store} {k : Key} {v : Val} (h : sGet s k = some v) : (k, v) ∈ s := by
  induction s with
  | nil => cases h
  | cons q rest ih =>
    by_cases hk : q.1 = k
    · simp only [sGet, hk, if_true, Option.some.injEq] at h
      rw [← hk, ← h]; exact List.mem_cons_self ..
    · simp only [sGet, hk, if_false] at h
      exact List.mem_cons_of_mem _ (ih h)

theorem sGet_none_not_mem {s : Store} {k : Key} (h : sGet s k = none) (v : Val) : (k, v) ∉ s := by
  induction s with
  | nil => simp
  | cons q rest ih =>
    by_cases hk : q.1 = k
    · simp [sGet, hk] at h
    · simp only [sGet, hk, if_false] at h
      intro hm
      rcases List.mem_cons.1 hm with e | e
      · exact hk (by rw [← e])
      · exact ih h e

theorem getElem?_set_of_getElem? {α : Type} {l : List α} {i : Nat} {a : α} (h : l[i]? = some a) (x : α) (j : Nat) :
    (l.set i x)[j]? = if j = i then some x else l[j]? := by
  rw [List.getElem?_set, if_pos (List.getElem?_eq_some_iff.1 h).1]
  by_cases hji : j = i
  · simp [hji]
  · simp [hji, Ne.symm hji]

theorem set_of_getElem? {α : Type} {l : List α} {i : Nat} {a : α} (h : l[i]? = some a) : l.set i a = l := by
  apply List.ext_getElem?
  intro j
  rw [getElem?_set_of_getElem? h]
  split
  · rename_i hj; rw [hj, h]
  · rfl

theorem workerOf_lt {loc : Loc} {n : Nat} {k : Key} {w : Nat} (h : workerOf loc n k = some w) : w < n := by
  simp only [workerOf] at h
  split at h
  · rename_i hi; cases h; exact (Int.toNat_lt hi.1).2 hi.2
  · cases h

def CohC (st : Store) (c : Cache) : Prop := ∀ k v, (k, v) ∈ c.ents → sGet st k = some v

def NoKey (c : Cache) (k : Key) : Prop := ∀ v, (k, v) ∉ c.ents

def Frame (k : Key) (st st' : Store) : Prop := ∀ k', k' ≠ k → sGet st' k' = sGet st k'

theorem Frame.refl (k : Key) (st : Store) : Frame k st st := fun _ _ => rfl
theorem Frame.trans {k : Key} {a b c : Store} (h1 : Frame k a b) (h2 : Frame k b c) : Frame k a c :=
  fun k' hk => (h2 k' hk).trans (h1 k' hk)
theorem frame_sSet (k : Key) (st : Store) (v : Val) : Frame k st (sSet st k v) := by
  intro k' hk; simp [sGet_sSet, hk]
theorem frame_sErase (k : Key) (st : Store) : Frame k st (sErase st k) := by
  intro k' hk; simp [sGet_sErase, hk]

theorem mem_of_mem_fit (sized : Bool) (cap : Nat) : ∀ (acc : Nat) (l : List (Key × Val)) {p : Key × Val},
    p ∈ fit sized cap acc l → p ∈ l
  | _, [], _, h => by cases h
  | acc, e :: es, p, h => by
    simp only [fit] at h
    split at h
    · rcases List.mem_cons.1 h with rfl | h
      · exact List.mem_cons_self ..
      · exact List.mem_cons_of_mem _ (mem_of_mem_fit sized cap _ es h)
    · cases h

theorem mem_cSet {c : Cache} {k : Key} {v : Val} {p : Key × Val} (h : p ∈ (cSet c k v).ents) :
    p = (k, v) ∨ (p ∈ c.ents ∧ p.1 ≠ k) := by
  have h' : p ∈ (k, v) :: sErase c.ents k := by
    simp only [cSet] at h
    split at h
    · exact mem_of_mem_fit _ _ _ _ h
    · exact h
  rcases List.mem_cons.1 h' with e | e
  · exact Or.inl e
  · exact Or.inr (mem_sErase e)

theorem cohC_frame {st st' : Store} {c : Cache} {k : Key} (h : CohC st c) (hf : Frame k st st')
    (hn : NoKey c k) : CohC st' c := by
  intro k' v hm
  by_cases hk : k' = k
  · subst hk; exact absurd hm (hn v)
  · rw [hf k' hk]; exact h k' v hm

theorem cohC_cSet {st st' : Store} {c : Cache} {k : Key} {v : Val} (h : CohC st c) (hf : Frame k st st')
    (hv : sGet st' k = some v) : CohC st' (cSet c k v) := by
  intro k' v' hm
  rcases mem_cSet hm with e | ⟨hin, hne⟩
  · cases e; exact hv
  · rw [hf k' hne]; exact h k' v' hin

theorem cohC_cDelete {st st' : Store} {c : Cache} {k : Key} (h : CohC st c) (hf : Frame k st st') :
    CohC st' (cDelete c k) := by
  intro k' v' hm
  have := mem_sErase (show (k', v') ∈ sErase c.ents k from hm)
  rw [hf k' this.2]; exact h k' v' this.1

theorem cPeek_cDelete (c : Cache) (k : Key) : cPeek (cDelete c k) k = none := by
  simp [cPeek, cDelete, sGet_sErase]

theorem noKey_of_cPeek_none {c : Cache} {k : Key} (h : cPeek c k = none) : NoKey c k :=
  fun v => sGet_none_not_mem h v

theorem cGet_fst (c : Cache) (k : Key) : (cGet c k).1 = cPeek c k := by
  unfold cGet cPeek; split <;> simp_all

theorem mem_cGet {c : Cache} {k : Key} {p : Key × Val} (h : p ∈ (cGet c k).2.ents) : p ∈ c.ents := by
  unfold cGet at h
  split at h
  · exact h
  · rename_i v hv
    simp only at h
    split at h
    · rcases List.mem_cons.1 h with rfl | e
      · exact sGet_mem hv
      · exact (mem_sErase e).1
    · exact h

theorem noKey_cGet {c : Cache} {k : Key} (h : cPeek c k = none) : (cGet c k).2 = c := by
  unfold cGet; unfold cPeek at h; simp [h]

/-- guarantee of a handler run from context `c` to `c'` on key `k` -/
structure HOk (k : Key) (c c' : Ctx) : Prop where
  coh : CohC c.store c.cache → CohC c'.store c'.cache
  frame : Frame k c.store c'.store
  ents : ∀ p, p ∈ c'.cache.ents → p ∈ c.cache.ents ∨ p.1 = k

theorem HOk.refl (k : Key) (c : Ctx) : HOk k c c := ⟨id, Frame.refl _ _, fun _ h => Or.inl h⟩

theorem HOk.trans {k : Key} {a b c : Ctx} (h1 : HOk k a b) (h2 : HOk k b c) : HOk k a c :=
  ⟨fun h => h2.coh (h1.coh h), h1.frame.trans h2.frame, fun p hp => by
    rcases h2.ents p hp with e | e
    · exact h1.ents p e
    · exact Or.inr e⟩

/-- only `faults` and `trace` moved -/
theorem HOk.of_eq {k : Key} {c c' : Ctx} (hs : c'.store = c.store) (hc : c'.cache = c.cache) : HOk k c c' :=
  ⟨fun h => by rw [hs, hc]; exact h, by rw [hs]; exact Frame.refl _ _, fun p hp => by rw [hc] at hp; exact Or.inl hp⟩

theorem HOk.of_cGet (k : Key) (c : Ctx) : HOk k c { c with cache := (cGet c.cache k).2 } :=
  ⟨fun h k' v hm => h k' v (mem_cGet hm), Frame.refl _ _, fun _ hp => Or.inl (mem_cGet hp)⟩

/-- a delete: whichever of `ca.Delete` and the store callback came first, the store moved at `k` only and the cache is
the old one without `k` -/
theorem HOk.delete {k : Key} {c c' : Ctx} (hf : Frame k c.store c'.store) (hc : c'.cache = cDelete c.cache k) :
    HOk k c c' :=
  ⟨fun h => by rw [hc]; exact cohC_cDelete h hf, hf, fun p hp => by rw [hc] at hp; exact Or.inl (mem_sErase hp).1⟩

def MutSpec (k : Key) (c c1 : Ctx) (r : Except Err Val) : Prop :=
  c1.cache = c.cache ∧ Frame k c.store c1.store ∧
    (∀ v', r = .ok v' → sGet c1.store k = some v') ∧ (∀ e, r = .error e → c1.store = c.store)

/-- the common tail of the handlers — a callback that meets `MutSpec`, then `ca.Set` of what it returned, on success
only. (Not two `HOk` runs in a row: between the store write and `ca.Set` the cache may hold the old row.) -/
theorem mut_then_set {k : Key} {c : Ctx} {p : Except Err Val × Ctx} (hs : MutSpec k c p.2 p.1) :
    HOk k c (match p with
      | (.error e, c1) => ((c1, Res.err e) : Ctx × Res)
      | (.ok nv, c1) => (setCache c1 k nv, .ok nv)).1 := by
  obtain ⟨r, c1⟩ := p
  obtain ⟨hca, hfr, hok, herr⟩ := hs
  cases r with
  | error e => exact HOk.of_eq (herr e rfl) hca
  | ok nv =>
    refine ⟨fun h => ?_, hfr, fun p hp => ?_⟩
    · exact cohC_cSet (by rw [hca]; exact h) hfr (hok nv rfl)
    · rcases mem_cSet (show p ∈ (cSet c1.cache k nv).ents from hp) with e | e
      · exact Or.inr (by rw [e])
      · exact Or.inl (by rw [← hca]; exact e.1)

theorem mut_no_set {k : Key} {c c1 : Ctx} (hs : c1.cache = c.cache ∧ Frame k c.store c1.store) (hn : NoKey c.cache k) :
    HOk k c c1 := by
  obtain ⟨hca, hfr⟩ := hs
  refine ⟨fun h => ?_, hfr, fun p hp => ?_⟩
  · rw [hca]; exact cohC_frame h hfr hn
  · rw [hca] at hp; exact Or.inl hp

theorem call_store (c : Ctx) (cb : Cb) : (c.call cb).2.store = c.store ∧ (c.call cb).2.cache = c.cache := by
  unfold Ctx.call; split <;> simp

theorem mutSpec_fail {k : Key} {c c1 : Ctx} {e : Err} (h1 : c1.store = c.store) (h2 : c1.cache = c.cache) :
    MutSpec k c c1 (.error e) :=
  ⟨h2, by rw [h1]; exact Frame.refl _ _, nofun, fun _ _ => h1⟩

theorem mutSpec_set {k : Key} {c c0 c1 : Ctx} {v : Val} (h0s : c0.store = c.store) (h0c : c0.cache = c.cache)
    (h1 : c1 = { c0 with store := sSet c0.store k v }) : MutSpec k c c1 (.ok v) := by
  subst h1
  refine ⟨h0c, ?_, ?_, nofun⟩
  · simp only [h0s]; exact frame_sSet _ _ _
  · intro v' e; cases e; simp [sGet_sSet]

theorem callLoad_spec {c c1 : Ctx} {k : Key} {r : Except Err Val} (h : callLoad c k = (r, c1)) :
    c1.store = c.store ∧ c1.cache = c.cache ∧ (∀ v, r = .ok v → sGet c.store k = some v) ∧
    (r = .error .notFound → sGet c.store k = none) := by
  have hc := call_store c .load
  unfold callLoad at h
  simp only at h
  split at h
  · cases h
    exact ⟨hc.1, hc.2, nofun, nofun⟩
  · rw [hc.1] at h
    split at h
    · rename_i v hv
      cases h
      exact ⟨hc.1, hc.2, fun _ e => by cases e; exact hv, nofun⟩
    · rename_i hv
      cases h
      exact ⟨hc.1, hc.2, nofun, fun _ => hv⟩

theorem callAdd_spec {c c1 : Ctx} {k : Key} {v : Val} {r : Except Err Val} (h : callAdd c k v = (r, c1)) :
    MutSpec k c c1 r := by
  have hc := call_store c .add
  unfold callAdd at h
  simp only at h
  split at h
  · cases h; exact mutSpec_fail hc.1 hc.2
  · split at h
    · cases h; exact mutSpec_fail hc.1 hc.2
    · cases h; exact mutSpec_set hc.1 hc.2 rfl

theorem callUpd_spec {c c1 : Ctx} {k : Key} {v e0 : Val} {r : Except Err Val} (h : callUpd c k v e0 = (r, c1)) :
    MutSpec k c c1 r := by
  have hc := call_store c .upd
  unfold callUpd at h
  simp only at h
  split at h
  · cases h; exact mutSpec_fail hc.1 hc.2
  · split at h
    · cases h; exact mutSpec_fail hc.1 hc.2
    · cases h; exact mutSpec_set hc.1 hc.2 rfl

/-- upsert handed the existing item: the full contract -/
theorem callUpsert_spec {c c1 : Ctx} {k : Key} {v e0 : Val} {r : Except Err Val}
    (h : callUpsert c k v (some e0) = (r, c1)) : MutSpec k c c1 r := by
  have hc := call_store c .upsert
  unfold callUpsert at h
  simp only at h
  split at h
  · cases h; exact mutSpec_fail hc.1 hc.2
  · cases h; exact mutSpec_set hc.1 hc.2 rfl

/-- upsert without the existing item may return a partial row: only the frame is guaranteed -/
theorem callUpsert_frame {c c1 : Ctx} {k : Key} {v : Val} {e0 : Option Val} {r : Except Err Val}
    (h : callUpsert c k v e0 = (r, c1)) : c1.cache = c.cache ∧ Frame k c.store c1.store := by
  have hc := call_store c .upsert
  unfold callUpsert at h
  simp only at h
  split at h
  · cases h; exact ⟨hc.2, by rw [hc.1]; exact Frame.refl _ _⟩
  · split at h <;> cases h <;> exact ⟨hc.2, by simp only [hc.1]; exact frame_sSet _ _ _⟩

theorem callDel_spec {c c1 : Ctx} {k : Key} {r : Except Err Unit} (h : callDel c k = (r, c1)) :
    c1.cache = c.cache ∧ Frame k c.store c1.store ∧
    (r = .ok () → sGet c1.store k = none) ∧ (∀ e, r = .error e → c1.store = c.store) := by
  have hc := call_store c .del
  unfold callDel at h
  simp only at h
  split at h
  · cases h
    exact ⟨hc.2, by rw [hc.1]; exact Frame.refl _ _, nofun, fun _ _ => hc.1⟩
  · cases h
    exact ⟨hc.2, by simp only [hc.1]; exact frame_sErase _ _, fun _ => by simp [sGet_sErase], nofun⟩

end Nv.C15
