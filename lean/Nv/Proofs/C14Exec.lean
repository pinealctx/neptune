import Nv.Proofs.C14
/-! C14 — the executor: every lane of a reachable executor is a reachable lane, and a call is accepted in the lane of
its hash. -/
namespace Nv.C14

theorem mkLanes_eq_map (k : Kind) (cap : Nat) : ∀ n, mkLanes k cap n = (List.range n).map (Lane.init k cap)
  | 0 => rfl
  | n + 1 => by rw [mkLanes, mkLanes_eq_map k cap n, List.range_succ, List.map_append]; rfl

theorem getElem?_mkLanes {k : Kind} {cap n i : Nat} {l : Lane} (h : (mkLanes k cap n)[i]? = some l) :
    l = Lane.init k cap i := by
  rw [mkLanes_eq_map, List.getElem?_map] at h
  obtain ⟨j, hj, rfl⟩ := Option.map_eq_some_iff.1 h
  rw [(List.getElem?_eq_some_iff.1 hj).2.symm, List.getElem_range]

theorem stop_enabled (cfg : Cfg) (l : Lane) : (l.step cfg .stop).isSome := rfl

theorem run_enabled (cfg : Cfg) (l : Lane) : (l.step cfg .run).isSome := by
  rw [Lane.step]
  cases l.started
  · rfl
  · cases l.kind == .mline && cfg.mlineRun != .once && l.cons2 == none <;> rfl

theorem allLanes_eq_map (cfg : Cfg) (a : LAct) : ∀ ls, allLanes cfg a ls = ls.map fun l => (l.step cfg a).getD l
  | [] => rfl
  | l :: ls => by rw [allLanes, allLanes_eq_map cfg a ls, List.map_cons]; cases l.step cfg a <;> rfl

theorem getElem?_allLanes {cfg : Cfg} {a : LAct} (ha : ∀ l : Lane, (l.step cfg a).isSome) {ls : List Lane} {i : Nat}
    {l' : Lane} (h : (allLanes cfg a ls)[i]? = some l') : ∃ l, ls[i]? = some l ∧ l.step cfg a = some l' := by
  rw [allLanes_eq_map, List.getElem?_map] at h
  obtain ⟨l, hl, rfl⟩ := Option.map_eq_some_iff.1 h
  obtain ⟨l1, h1⟩ := Option.isSome_iff_exists.1 (ha l)
  exact ⟨l, hl, by rw [h1]; rfl⟩

theorem forall_getElem?_set {α : Type} {P : Nat → α → Prop} {xs : List α} {i : Nat} {y : α}
    (hold : ∀ j x, xs[j]? = some x → P j x) (hnew : P i y) : ∀ j x, (xs.set i y)[j]? = some x → P j x := by
  intro j x hj
  rw [List.getElem?_set] at hj
  by_cases hij : i = j
  · rw [if_pos hij] at hj
    by_cases hi : i < xs.length
    · rw [if_pos hi] at hj; cases hj; exact hij ▸ hnew
    · rw [if_neg hi] at hj; cases hj
  · rw [if_neg hij] at hj; exact hold j x hj

variable {cfg : Cfg} {slot : Slot} {k : Kind} {nlanes cap : Nat}

def LaneOk (cfg : Cfg) (slot : Slot) (k : Kind) (nlanes cap : Nat) (hashes : List (Nat × BitVec 64)) (i : Nat)
    (l : Lane) : Prop :=
  (laneLTS cfg k cap i).Reach l ∧ ∀ id ∈ l.accepted, ∃ h, (id, h) ∈ hashes ∧ laneOf slot k nlanes h = some i

structure XInv (cfg : Cfg) (slot : Slot) (k : Kind) (nlanes cap : Nat) (x : Exec) : Prop where
  kind_eq : x.kind = k
  nlanes_eq : x.nlanes = nlanes
  lanes : ∀ i l, x.lanes[i]? = some l → LaneOk cfg slot k nlanes cap x.hashes i l
  hash_lt : ∀ p ∈ x.hashes, p.1 < x.next
  hash_fun : ∀ id h h', (id, h) ∈ x.hashes → (id, h') ∈ x.hashes → h = h'

theorem xinv_init : XInv cfg slot k nlanes cap (Exec.init k nlanes cap) where
  kind_eq := rfl
  nlanes_eq := rfl
  lanes := fun _ _ h => getElem?_mkLanes h ▸ ⟨LTS.Reach.init, nofun⟩
  hash_lt := nofun
  hash_fun := nofun

theorem xinv_step {x : Exec} (h : XInv cfg slot k nlanes cap x) (a : XAct) :
    ∀ x' ∈ Exec.step cfg slot x a, XInv cfg slot k nlanes cap x' := by
  have keep : ∀ {i l l' b}, x.lanes[i]? = some l → l.step cfg b = some l' → (∀ id enq, b ≠ .submit id enq) →
      LaneOk cfg slot k nlanes cap x.hashes i l' := by
    intro i l l' b hl hs hb
    refine ⟨reach_step (h.lanes i l hl).1 hs, ?_⟩
    rcases (step_sound l' hs).accepted with e | ⟨id, enq, e, _⟩
    · exact e ▸ (h.lanes i l hl).2
    · exact absurd e (hb id enq)
  have all : ∀ b, (∀ l : Lane, (l.step cfg b).isSome) → (∀ id enq, b ≠ .submit id enq) →
      ∀ x' ∈ some { x with lanes := allLanes cfg b x.lanes }, XInv cfg slot k nlanes cap x' := fun b hen hb =>
    forall_mem_some { h with lanes := fun i l' hl' => (getElem?_allLanes hen hl').elim fun l w => keep w.1 w.2 hb }
  cases a with
  | submit hash enq =>
    rw [Exec.step]
    -- whether the call reaches a lane or not, the hash of a fresh id is recorded
    have hlt : ∀ p ∈ x.hashes ++ [(x.next, hash)], p.1 < x.next + 1 :=
      forall_mem_push (fun p hp => Nat.lt_succ_of_lt (h.hash_lt p hp)) (Nat.lt_succ_self _)
    have hfun : ∀ id h1 h2, (id, h1) ∈ x.hashes ++ [(x.next, hash)] → (id, h2) ∈ x.hashes ++ [(x.next, hash)] →
        h1 = h2 := by
      intro id h1 h2 m1 m2
      rcases mem_push m1 with m1 | m1 <;> rcases mem_push m2 with m2 | m2
      · exact h.hash_fun id h1 h2 m1 m2
      · cases m2; exact absurd (h.hash_lt _ m1) (Nat.lt_irrefl _)
      · cases m1; exact absurd (h.hash_lt _ m2) (Nat.lt_irrefl _)
      · cases m1; cases m2; rfl
    have grow : ∀ i l, x.lanes[i]? = some l → LaneOk cfg slot k nlanes cap (x.hashes ++ [(x.next, hash)]) i l :=
      fun i l hl => ⟨(h.lanes i l hl).1, fun id hid =>
        ((h.lanes i l hl).2 id hid).imp fun _ w => ⟨List.mem_append_left _ w.1, w.2⟩⟩
    cases hi : laneOf slot x.kind x.nlanes hash with
    | none => exact forall_mem_some { h with hash_lt := hlt, hash_fun := hfun, lanes := grow }
    | some i =>
      dsimp only
      cases hl : x.lanes[i]? with
      | none => exact forall_mem_none
      | some l =>
        dsimp only
        cases hs : l.step cfg (.submit x.next enq) with
        | none => exact forall_mem_none
        | some l' =>
          refine forall_mem_some { h with hash_lt := hlt, hash_fun := hfun, lanes := forall_getElem?_set grow ?_ }
          refine ⟨reach_step (h.lanes i l hl).1 hs, fun id hid => ?_⟩
          rcases (step_sound l' hs).accepted with e | ⟨_, _, e, _, e'⟩
          · exact (grow i l hl).2 id (e ▸ hid)
          · cases e
            rw [e'] at hid
            refine (mem_push hid).elim ((grow i l hl).2 id) fun e => ⟨hash, ?_, ?_⟩
            · rw [e]; exact List.mem_append_right _ (List.mem_singleton_self _)
            · rw [← h.kind_eq, ← h.nlanes_eq]; exact hi
  | lane i b =>
    rw [Exec.step]
    refine forall_mem_ite (fun _ => forall_mem_none) fun hloc => ?_
    cases hl : x.lanes[i]? with
    | none => exact forall_mem_none
    | some l =>
      dsimp only
      cases hs : l.step cfg b with
      | none => exact forall_mem_none
      | some l' =>
        have hb : ∀ id enq, b ≠ .submit id enq := fun id enq e => by rw [e] at hloc; exact hloc rfl
        exact forall_mem_some { h with lanes := forall_getElem?_set h.lanes (keep hl hs hb) }
  | stop => exact all .stop (stop_enabled cfg) nofun
  | run => exact all .run (run_enabled cfg) nofun

theorem xinv_reach {x : Exec} (hr : (execLTS cfg slot k nlanes cap).Reach x) : XInv cfg slot k nlanes cap x :=
  LTS.inv_of_step (execLTS cfg slot k nlanes cap) _ xinv_init (fun _ a s' h hs => xinv_step h a s' hs) x hr

end Nv.C14
