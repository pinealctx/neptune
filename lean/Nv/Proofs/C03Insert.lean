import Nv.Proofs.C03Spec
/-!
C03 — `insert` refines `specInsert` and keeps the structural invariant. The code's top-down discipline
is the key: `insert` is only ever called on a node with fewer than `maxItems` items (root split,
`maybeSplitChild`), so a separator pushed up by a child split always fits.
-/
namespace Nv.C03

structure InsertPost (mn : Nat) (x : Item) (h : Nat) (n : Node) (r : Node × Option Item) : Prop where
  inorder : r.1.inorder = specInsert n.inorder x
  ret : r.2 = specFind n.inorder x.key
  kids : KidsOk mn (2 * mn + 1) h r.1
  lo : n.items.length ≤ r.1.items.length
  hi : r.1.items.length ≤ n.items.length + 1

/-! ### one level of a sorted node

A key either is among the node's items, or belongs into the one child between the items below it (`A`) and
the items above it (`is`). -/

/-- an item of a node sits at a fixed place of the in-order list, whatever the children are -/
theorem interleave_item (B A : List Item) (cs : List Node) : ∃ L R, ∀ z, interleave (A ++ z :: B) cs = L ++ z :: R := by
  induction A generalizing cs with
  | nil =>
    cases cs with
    | nil => exact ⟨[], B, fun z => by simp⟩
    | cons c cs => exact ⟨c.inorder, interleave B cs, fun z => by simp⟩
  | cons a A ih =>
    cases cs with
    | nil => exact ⟨a :: A, B, fun z => by simp⟩
    | cons c cs =>
      obtain ⟨L, R, e⟩ := ih cs
      exact ⟨c.inorder ++ a :: L, R, fun z => by simp [e z]⟩

theorem specFind_item {is : List Item} {cs : List Node} {i : Nat} {y : Item} (hs : Sorted (interleave is cs))
    (hy : is[i]? = some y) : specFind (interleave is cs) y.key = some y := by
  rw [split_of_getElem? hy] at hs ⊢
  obtain ⟨L, R, e⟩ := interleave_item (is.drop (i + 1)) (is.take i) cs
  rw [e y] at hs ⊢
  exact specFind_at y.key y L R hs.lt_mid.1 rfl

theorem specInsert_item {is : List Item} {cs : List Node} {i : Nat} {x y : Item} (hs : Sorted (interleave is cs))
    (hy : is[i]? = some y) (hk : y.key = x.key) : interleave (setAt is i x) cs = specInsert (interleave is cs) x := by
  rw [split_of_getElem? hy] at hs
  conv => rhs; rw [split_of_getElem? hy]
  obtain ⟨L, R, e⟩ := interleave_item (is.drop (i + 1)) (is.take i) cs
  rw [e y] at hs ⊢
  rw [setAt, e x, specInsert_at x y L R (hk ▸ hs.lt_mid.1) hk]

theorem specFind_descend (k : Int) (A : List Item) (Ac : List Node) (is : List Item) (c : Node) (cs : List Node)
    (h : Ac.length = A.length) (hs : Sorted (interleave (A ++ is) (Ac ++ c :: cs)))
    (hlt : ∀ a ∈ A, a.key < k) (hgt : ∀ b ∈ is, k < b.key) :
    specFind (interleave (A ++ is) (Ac ++ c :: cs)) k = specFind c.inorder k := by
  obtain ⟨hL, hR⟩ := sides_of_sorted k A Ac is c cs h hs hlt hgt
  rw [interleave_decomp A Ac is c cs h]
  exact specFind_mid k _ _ _ hL hR

theorem specInsert_descend (x : Item) (A : List Item) (Ac : List Node) (is : List Item) (c c' : Node) (cs : List Node)
    (h : Ac.length = A.length) (hs : Sorted (interleave (A ++ is) (Ac ++ c :: cs)))
    (hlt : ∀ a ∈ A, a.key < x.key) (hgt : ∀ b ∈ is, x.key < b.key) (hc' : c'.inorder = specInsert c.inorder x) :
    interleave (A ++ is) (Ac ++ c' :: cs) = specInsert (interleave (A ++ is) (Ac ++ c :: cs)) x := by
  obtain ⟨hL, hR⟩ := sides_of_sorted x.key A Ac is c cs h hs hlt hgt
  rw [interleave_decomp A Ac is c cs h, interleave_decomp A Ac is c' cs h, hc', specInsert_mid x _ _ _ hL hR]

theorem kidsOk_splice {mn mx h : Nat} {is is' : List Item} {Ac C C' Bc : List Node}
    (hk : KidsOk mn mx (h + 1) (.mk is (Ac ++ (C ++ Bc))))
    (hlen : is'.length + C.length = is.length + C'.length) (hC' : ∀ c ∈ C', nodeOk mn mx h c = true) :
    KidsOk mn mx (h + 1) (.mk is' (Ac ++ (C' ++ Bc))) := by
  simp only [KidsOk, children_mk, items_mk, List.length_append, List.mem_append] at hk ⊢
  refine ⟨by omega, fun c hc => ?_⟩
  rcases hc with hc | hc | hc
  · exact hk.2 c (Or.inl hc)
  · exact hC' c hc
  · exact hk.2 c (Or.inr (Or.inr hc))

theorem insertPost_found {mn : Nat} {x y : Item} {h i : Nat} {is : List Item} {cs : List Node}
    (hk : KidsOk mn (2 * mn + 1) h (.mk is cs)) (hs : Sorted (interleave is cs)) (hy : is[i]? = some y)
    (hky : y.key = x.key) : InsertPost mn x h (.mk is cs) (.mk (setAt is i x) cs, some y) := by
  have hl := setAt_length is i x (List.getElem?_eq_some_iff.1 hy).1
  refine ⟨specInsert_item hs hy hky, (hky ▸ specFind_item hs hy).symm, ?_, Nat.le_of_eq hl.symm,
    Nat.le_succ_of_le (Nat.le_of_eq hl)⟩
  cases h with
  | zero => exact hk
  | succ h => exact ⟨hl ▸ hk.1, hk.2⟩

theorem insertPost_descend {mn : Nat} {x : Item} {h : Nat} {A is : List Item} {Ac cs : List Node} {c : Node}
    {r : Node × Option Item} (hAc : Ac.length = A.length)
    (hk : KidsOk mn (2 * mn + 1) (h + 1) (.mk (A ++ is) (Ac ++ c :: cs)))
    (hs : Sorted (interleave (A ++ is) (Ac ++ c :: cs)))
    (hlt : ∀ a ∈ A, a.key < x.key) (hgt : ∀ b ∈ is, x.key < b.key) (hroom : c.items.length < 2 * mn + 1)
    (P : InsertPost mn x h c r) :
    InsertPost mn x (h + 1) (.mk (A ++ is) (Ac ++ c :: cs)) (.mk (A ++ is) (Ac ++ r.1 :: cs), r.2) := by
  have hc := (nodeOk_iff _ _ _ _).1 (hk.2 c (by simp))
  refine ⟨specInsert_descend x A Ac is c r.1 cs hAc hs hlt hgt P.inorder,
    P.ret.trans (specFind_descend x.key A Ac is c cs hAc hs hlt hgt).symm, ?_, Nat.le_refl _, Nat.le_succ _⟩
  refine kidsOk_splice (C := [c]) (C' := [r.1]) hk rfl ?_
  intro d hd
  obtain rfl := List.mem_singleton.1 hd
  exact (nodeOk_iff _ _ _ _).2 ⟨Nat.le_trans hc.1 P.lo, Nat.le_trans P.hi hroom, P.kids⟩

theorem insertPost_transfer {mn : Nat} {x : Item} {h : Nat} {is is' : List Item} {cs cs' : List Node}
    {r : Node × Option Item} (hin : interleave is' cs' = interleave is cs) (hlo : is.length ≤ is'.length)
    (hhi : r.1.items.length ≤ is.length + 1) (D : InsertPost mn x h (.mk is' cs') r) :
    InsertPost mn x h (.mk is cs) r :=
  ⟨by rw [D.inorder, inorder_mk, inorder_mk, hin], by rw [D.ret, inorder_mk, inorder_mk, hin], D.kids,
    Nat.le_trans hlo D.lo, hhi⟩

theorem split_spec (mn : Nat) (h : Nat) (c : Node) (hk : KidsOk mn (2 * mn + 1) h c) (hlen : c.items.length = 2 * mn + 1) :
    c.inorder = (c.split mn).1.inorder ++ (c.split mn).2.1 :: (c.split mn).2.2.inorder ∧
    (c.split mn).1.items.length = mn ∧ (c.split mn).2.2.items.length = mn ∧
    KidsOk mn (2 * mn + 1) h (c.split mn).1 ∧ KidsOk mn (2 * mn + 1) h (c.split mn).2.2 ∧
    height (c.split mn).1 = height c := by
  cases c with
  | mk ci cc =>
    have hlen : ci.length = 2 * mn + 1 := hlen
    have hmid : mn < ci.length := hlen ▸ lt_full mn
    have hcut := list_split_at ci mn default hmid
    have hl1 : (ci.take mn).length = mn := length_take_le _ _ (Nat.le_of_lt hmid)
    have hl2 : (ci.drop (mn + 1)).length = mn := by
      rw [List.length_drop, hlen, Nat.two_mul, Nat.add_assoc, Nat.add_sub_cancel]
    cases h with
    | zero =>
      obtain rfl : cc = [] := hk
      exact ⟨by simpa [Node.split] using hcut, hl1, hl2, rfl, rfl, rfl⟩
    | succ h =>
      have hl : cc.length = ci.length + 1 := hk.1
      have hc1 : (cc.take (mn + 1)).length = (ci.take mn).length + 1 := by
        rw [hl1, length_take_le _ _ (hl ▸ Nat.le_succ_of_le hmid)]
      have hc2 : (cc.drop (mn + 1)).length = (ci.drop (mn + 1)).length + 1 := by
        rw [List.length_drop, List.length_drop, hl, Nat.succ_sub hmid]
      have hdec := interleave_append (ci.take mn) (cc.take (mn + 1)) (ci.getD mn default) (ci.drop (mn + 1))
        (cc.drop (mn + 1)) hc1
      rw [← hcut, List.take_append_drop] at hdec
      refine ⟨hdec, hl1, hl2, ⟨hc1, fun d hd => hk.2 d (List.mem_of_mem_take hd)⟩,
        ⟨hc2, fun d hd => hk.2 d (List.mem_of_mem_drop hd)⟩, ?_⟩
      cases cc with
      | nil => simp at hl
      | cons d ds => rfl

theorem split_child_spec (mn : Nat) (h : Nat) (is : List Item) (cs : List Node) (i : Nat)
    (hk : KidsOk mn (2 * mn + 1) (h + 1) (.mk is cs)) (hi : i ≤ is.length)
    (hfull : (cs.getD i default).items.length = 2 * mn + 1) :
    interleave (insertAt is i ((cs.getD i default).split mn).2.1)
      (cs.take i ++ ((cs.getD i default).split mn).1 :: ((cs.getD i default).split mn).2.2 :: cs.drop (i + 1)) =
        interleave is cs ∧
    KidsOk mn (2 * mn + 1) (h + 1) (.mk (insertAt is i ((cs.getD i default).split mn).2.1)
      (cs.take i ++ ((cs.getD i default).split mn).1 :: ((cs.getD i default).split mn).2.2 :: cs.drop (i + 1))) := by
  have hl : cs.length = is.length + 1 := hk.1
  have hic : i < cs.length := hl ▸ Nat.lt_succ_of_le hi
  have hcut := list_split_at cs i default hic
  have hAc := length_take_eq hl hi
  have hCk := ((nodeOk_iff _ _ _ _).1 (hk.2 _ (getD_mem cs i default hic))).2.2
  obtain ⟨hin, hl1, hl2, hk1, hk2, _⟩ := split_spec mn h _ hCk hfull
  generalize cs.getD i default = c at hcut hin hl1 hl2 hk1 hk2 ⊢
  constructor
  · have hold := interleave_decomp (is.take i) (cs.take i) (is.drop i) c (cs.drop (i + 1)) hAc
    rw [List.take_append_drop, ← hcut] at hold
    rw [hold, hin]
    exact interleave_decomp2 (is.take i) (cs.take i) _ (is.drop i) _ _ (cs.drop (i + 1)) hAc
  · rw [hcut] at hk
    refine kidsOk_splice (C := [c]) (C' := [(c.split mn).1, (c.split mn).2.2]) hk
      (by rw [insertAt_length _ _ _ hi]; rfl) ?_
    intro d hd
    simp only [List.mem_cons, List.not_mem_nil, or_false] at hd
    rcases hd with rfl | rfl
    · exact nodeOk_of_length_eq hl1 hk1
    · exact nodeOk_of_length_eq hl2 hk2

theorem setAt_splice2 (cs : List Node) (i : Nat) (a b c' : Node) (hi : i ≤ cs.length) :
    setAt (cs.take i ++ a :: b :: cs.drop (i + 1)) i c' = cs.take i ++ c' :: b :: cs.drop (i + 1) :=
  setAt_pre _ _ _ _ _ (length_take_le cs i hi)

theorem setAt_splice2' (cs : List Node) (i : Nat) (a b c' : Node) (hi : i ≤ cs.length) :
    setAt (cs.take i ++ a :: b :: cs.drop (i + 1)) (i + 1) c' = cs.take i ++ a :: c' :: cs.drop (i + 1) := by
  rw [List.append_cons, setAt_pre _ _ _ _ _ (by rw [List.length_append, length_take_le cs i hi]; rfl),
    List.append_assoc]; rfl

theorem setAt_insertAt (is : List Item) (i : Nat) (m x : Item) (hi : i ≤ is.length) :
    setAt (insertAt is i m) i x = insertAt is i x :=
  setAt_pre _ _ _ _ _ (length_take_le is i hi)

theorem half_full (mn : Nat) : (2 * mn + 1) / 2 = mn := by omega

theorem insertH_spec (mn : Nat) (x : Item) : ∀ (h : Nat) (n : Node),
    KidsOk mn (2 * mn + 1) h n → n.items.length < 2 * mn + 1 → Sorted n.inorder →
    InsertPost mn x h n (insertH (2 * mn + 1) x h n) := by
  intro h
  induction h with
  | zero =>
    rintro ⟨is, cs⟩ hk hlt hs
    obtain rfl : cs = [] := hk
    rw [inorder_mk] at hs
    cases hf : (findIdx is x.key).2 with
    | true =>
      obtain ⟨y, hy, hky⟩ := (findIdx_found is x.key).1 hf
      simp only [insertH, hf, if_true, hy]
      exact insertPost_found rfl hs hy hky
    | false =>
      rw [interleave_nil_right] at hs
      have hlt' := findIdx_take_lt is x.key
      have hgt' := findIdx_not_found_gt is x.key hs hf
      simp only [insertH, hf, Bool.false_eq_true, if_false]
      refine ⟨?_, ?_, rfl, ?_, ?_⟩
      · simp only [inorder_mk, interleave_nil_right, insertAt]
        conv => rhs; rw [← List.take_append_drop (findIdx is x.key).1 is]
        rw [specInsert_between x _ _ hlt' hgt']
      · rw [inorder_mk, interleave_nil_right, specFind_none _ _ (findIdx_not_found_ne is x.key hs hf)]
      · rw [items_mk, items_mk, insertAt_length _ _ _ (findIdx_le is x.key)]; exact Nat.le_succ _
      · rw [items_mk, items_mk, insertAt_length _ _ _ (findIdx_le is x.key)]; exact Nat.le_refl _
  | succ h ih =>
    rintro ⟨is, cs⟩ hk hlt hs
    rw [inorder_mk] at hs
    have hl : cs.length = is.length + 1 := hk.1
    obtain ⟨c0, cs0, rfl⟩ : ∃ c0 cs0, cs = c0 :: cs0 := by
      cases cs with
      | nil => simp at hl
      | cons c0 cs0 => exact ⟨c0, cs0, rfl⟩
    cases hf : (findIdx is x.key).2 with
    | true =>
      obtain ⟨y, hy, hky⟩ := (findIdx_found is x.key).1 hf
      simp only [insertH, hf, if_true, hy]
      exact insertPost_found hk hs hy hky
    | false =>
      have hi := findIdx_le is x.key
      have hlt' := findIdx_take_lt is x.key
      have hgt' := findIdx_not_found_gt is x.key (sorted_items _ _ hs) hf
      simp only [insertH, hf, Bool.false_eq_true, if_false]
      generalize (findIdx is x.key).1 = i at hi hlt' hgt' ⊢
      generalize c0 :: cs0 = cs at hk hs hl ⊢
      obtain ⟨hcut, hAc, hCok, hCs⟩ := child_at hk hs hi
      have hCok := (nodeOk_iff _ _ _ _).1 hCok
      by_cases hroom : (cs.getD i default).items.length < 2 * mn + 1
      · rw [if_pos hroom]
        have D := insertPost_descend (A := is.take i) (is := is.drop i) hAc
          (by rwa [List.take_append_drop, ← hcut]) (by rwa [List.take_append_drop, ← hcut]) hlt' hgt' hroom
          (ih _ hCok.2.2 hroom hCs)
        rwa [List.take_append_drop, ← hcut] at D
      · -- the child is full: split it, then descend into the proper half (or replace the separator)
        rw [if_neg hroom]
        have hfull : (cs.getD i default).items.length = 2 * mn + 1 :=
          Nat.le_antisymm hCok.2.1 (Nat.le_of_not_lt hroom)
        have hhalf := lt_full mn
        rw [half_full]
        obtain ⟨hin, hl1, hl2, hk1, hk2, _⟩ := split_spec mn h _ hCok.2.2 hfull
        obtain ⟨hsame, hkN⟩ := split_child_spec mn h is cs i hk hi hfull
        generalize ((cs.getD i default).split mn).1 = c1 at hin hl1 hk1 hsame hkN ⊢
        generalize ((cs.getD i default).split mn).2.1 = m at hin hsame hkN ⊢
        generalize ((cs.getD i default).split mn).2.2 = c2 at hin hl2 hk2 hsame hkN ⊢
        rw [hin] at hCs
        have hsN := hs
        rw [← hsame] at hsN
        have hlen : (insertAt is i m).length = is.length + 1 := insertAt_length _ _ _ hi
        have hlo : is.length ≤ (insertAt is i m).length := hlen ▸ Nat.le_succ _
        by_cases hxm : x.key < m.key
        · simp only [hxm, if_true]
          refine insertPost_transfer hsame hlo (Nat.le_of_eq hlen) ?_
          refine insertPost_descend (is := m :: is.drop i) hAc hkN hsN hlt' ?_ (hl1 ▸ hhalf)
            (ih c1 hk1 (hl1 ▸ hhalf) hCs.append_left)
          intro b hb
          rcases List.mem_cons.1 hb with rfl | hb
          · exact hxm
          · exact hgt' b hb
        · simp only [hxm, if_false]
          by_cases hmx : m.key < x.key
          · simp only [hmx, if_true]
            have hlt'' : ∀ a ∈ is.take i ++ [m], a.key < x.key := by
              intro a ha
              rcases List.mem_append.1 ha with ha | ha
              · exact hlt' a ha
              · obtain rfl := List.mem_singleton.1 ha; exact hmx
            -- the separator goes with the items below the key, the left half with the children before `c2`
            have D := insertPost_descend (A := is.take i ++ [m]) (is := is.drop i) (Ac := cs.take i ++ [c1])
              (by simp [hAc]) (by rw [List.append_assoc, List.append_assoc]; exact hkN)
              (by rw [List.append_assoc, List.append_assoc]; exact hsN) hlt'' hgt' (hl2 ▸ hhalf)
              (ih c2 hk2 (hl2 ▸ hhalf) hCs.append_right.tail)
            simp only [List.append_assoc] at D
            exact insertPost_transfer hsame hlo (Nat.le_of_eq hlen) D
          · simp only [hmx, if_false]
            have hget : (insertAt is i m)[i]? = some m := by
              rw [insertAt, List.getElem?_append_right (Nat.le_of_eq (length_take_le _ _ hi)), length_take_le _ _ hi]
              simp
            refine insertPost_transfer hsame hlo (Nat.le_of_eq ?_)
              (insertPost_found hkN hsN hget (Int.le_antisymm (Int.not_lt.1 hxm) (Int.not_lt.1 hmx)))
            rw [items_mk, setAt_length _ _ _ (hlen ▸ Nat.lt_succ_of_le hi), hlen]

theorem max_of_min (d : Nat) (hd : 2 ≤ d) : d * 2 - 1 = 2 * (d - 1) + 1 := by omega

theorem tree_bounds (t : Tree) (hd : 2 ≤ t.degree) :
    t.maxItems = 2 * (t.degree - 1) + 1 ∧ t.minItems = t.degree - 1 ∧ 1 ≤ t.degree - 1 :=
  ⟨max_of_min _ hd, rfl, Nat.le_sub_of_add_le hd⟩

theorem ok_root (t : Tree) (r : Node) (hr : t.root = some r) (h : t.ok = true) :
    2 ≤ t.degree ∧ rootOk t.minItems t.maxItems r = true ∧ Sorted r.inorder ∧ t.length = r.inorder.length := by
  unfold Tree.ok at h
  simp only [hr, Bool.and_eq_true, decide_eq_true_eq, beq_iff_eq] at h
  exact ⟨h.1, h.2.1.1, sorted_of_sortedKeys _ h.2.1.2, h.2.2⟩

theorem ok_of_fields (d : Nat) (r : Node) (len : Nat) (hd : 2 ≤ d)
    (h1 : rootOk (d - 1) (2 * (d - 1) + 1) r = true) (h2 : Sorted r.inorder) (h3 : len = r.inorder.length) :
    (Tree.mk d (some r) len).ok = true := by
  unfold Tree.ok
  have e1 : (Tree.mk d (some r) len).minItems = d - 1 := rfl
  have e2 : (Tree.mk d (some r) len).maxItems = 2 * (d - 1) + 1 := max_of_min d hd
  simp only [e1, e2, Bool.and_eq_true, decide_eq_true_eq, beq_iff_eq]
  exact ⟨hd, ⟨h1, sortedKeys_of_sorted _ h2⟩, h3⟩

/-- the node `ReplaceOrInsert` calls `insert` on: the root, or a new root above the two halves of a full one -/
theorem root_prepared (mn : Nat) (hmn : 1 ≤ mn) (r : Node) (hroot : rootOk mn (2 * mn + 1) r = true) :
    ∃ r1 : Node, r1 = (if 2 * mn + 1 ≤ r.items.length then
        .mk [(r.split mn).2.1] [(r.split mn).1, (r.split mn).2.2] else r) ∧
      KidsOk mn (2 * mn + 1) (height r1) r1 ∧ r1.items.length < 2 * mn + 1 ∧ r1.inorder = r.inorder ∧
      (r1.children ≠ [] → 1 ≤ r1.items.length) := by
  obtain ⟨hrlen, hrk, hrne⟩ := (rootOk_iff _ _ _).1 hroot
  by_cases hfull : 2 * mn + 1 ≤ r.items.length
  · obtain ⟨hin, hl1, hl2, hk1, hk2, hh⟩ := split_spec mn (height r) r hrk (Nat.le_antisymm hrlen hfull)
    refine ⟨_, rfl, ?_, ?_, ?_, ?_⟩
    · rw [if_pos hfull]
      refine ⟨rfl, fun c hc => ?_⟩
      simp only [children_mk, List.mem_cons, List.not_mem_nil, or_false] at hc
      simp only [hh]
      rcases hc with rfl | rfl
      · exact nodeOk_of_length_eq hl1 hk1
      · exact nodeOk_of_length_eq hl2 hk2
    · rw [if_pos hfull]; exact Nat.lt_of_le_of_lt hmn (lt_full mn)
    · rw [if_pos hfull]; simp [hin]
    · rw [if_pos hfull]; intro _; exact Nat.le_refl 1
  · exact ⟨r, (if_neg hfull).symm, hrk, Nat.lt_of_not_le hfull, rfl, hrne⟩

theorem tree_insert_spec (t : Tree) (x : Item) (h : t.ok = true) :
    (t.replaceOrInsert x).1.inorder = specInsert t.inorder x ∧
    (t.replaceOrInsert x).2 = specFind t.inorder x.key ∧
    (t.replaceOrInsert x).1.ok = true ∧ (t.replaceOrInsert x).1.degree = t.degree := by
  cases hr : t.root with
  | none =>
    have hd : 2 ≤ t.degree := by
      unfold Tree.ok at h; simp only [Bool.and_eq_true, decide_eq_true_eq] at h; exact h.1
    have hlen : t.length = 0 := by
      unfold Tree.ok at h; simp only [hr, Bool.and_eq_true, beq_iff_eq] at h; exact h.2
    simp only [Tree.replaceOrInsert, hr, Tree.inorder, specInsert, specFind, List.find?_nil]
    refine ⟨by simp, trivial, ?_, trivial⟩
    apply ok_of_fields t.degree (.mk [x] []) (t.length + 1) hd
    · simp only [rootOk, List.length_singleton, decide_eq_true_eq]; exact Nat.le_add_left 1 _
    · simp [Sorted]
    · simp [hlen]
  | some r =>
    obtain ⟨hd, hroot, hsr, hlen⟩ := ok_root t r hr h
    obtain ⟨hmx, hmn, h1⟩ := tree_bounds t hd
    rw [hmx, hmn] at hroot
    obtain ⟨r1, hr1, hk1, hlt1, hin1, hne1⟩ := root_prepared (t.degree - 1) h1 r hroot
    have hdiv := half_full (t.degree - 1)
    have P := insertH_spec (t.degree - 1) x (height r1) r1 hk1 hlt1 (by rw [hin1]; exact hsr)
    simp only [Tree.replaceOrInsert, hr, Tree.inorder, hmx, hdiv, ← hr1]
    generalize insertH (2 * (t.degree - 1) + 1) x (height r1) r1 = res at P ⊢
    refine ⟨by rw [P.inorder, hin1], by rw [P.ret, hin1], ?_, trivial⟩
    apply ok_of_fields t.degree _ _ hd
    · apply (rootOk_iff _ _ _).2
      refine ⟨Nat.le_trans P.hi hlt1, by rw [height_of_kidsOk _ _ _ _ P.kids]; exact P.kids, fun hne => ?_⟩
      -- the result has children only if `r1` had, and then `r1` had an item already
      have hne' : r1.children ≠ [] := by
        intro e
        cases hh : height r1 with
        | zero => have := P.kids; rw [hh] at this; exact hne this
        | succ k => rw [hh] at hk1; have := hk1.1; rw [e] at this; simp at this
      exact Nat.le_trans (hne1 hne') P.lo
    · rw [P.inorder, hin1]; exact specInsert_sorted x _ hsr
    · rw [P.inorder, P.ret, hin1, specInsert_length x _ hsr, hlen]

end Nv.C03
