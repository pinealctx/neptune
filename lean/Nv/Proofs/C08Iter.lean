import Nv.Proofs.C08Bits
/-!
C08 — the 64-bit iterators. The dense scan and the find-first-set loop are both the loop `emit` run over the set
bits of the word in scan order (`denseLoop_eq_emit`, `sparseLoop_eq_emit`), so `iter64` does not depend on its
threshold (`iter64_eq_emit`); `emit_spec` says what that loop writes, and `iter64_eq_spec` follows. Core only.
-/
namespace Nv.C08

theorem writeAt_nil {α} (s : List α) (p : Nat) (_h : p ≤ s.length) : writeAt s p [] = s := by
  simp [writeAt]

theorem writeAt_length {α} (s : List α) (p : Nat) (xs : List α) (h : p + xs.length ≤ s.length) :
    (writeAt s p xs).length = s.length := by
  simp only [writeAt, List.length_append, List.length_take, List.length_drop]
  omega

theorem writeAt_append {α} (s : List α) (p : Nat) (xs ys : List α) (h : p + xs.length + ys.length ≤ s.length) :
    writeAt (writeAt s p xs) (p + xs.length) ys = writeAt s p (xs ++ ys) := by
  have hl : (s.take p ++ xs).length = p + xs.length := by
    rw [List.length_append, List.length_take, Nat.min_eq_left (by omega)]
  unfold writeAt
  rw [List.take_left' hl, ← hl, List.drop_length_add_append, List.drop_drop, hl, List.length_append,
    Nat.add_assoc, List.append_assoc _ xs ys]

theorem writeAt_singleton {α} (s : List α) (p : Nat) (v : α) (h : p < s.length) : writeAt s p [v] = s.set p v := by
  rw [List.set_eq_take_append_cons_drop, if_pos h]
  simp [writeAt]

theorem writeAt_cons {α} (s : List α) (p : Nat) (v : α) (xs : List α) (h : p + xs.length < s.length) :
    writeAt (s.set p v) (p + 1) xs = writeAt s p (v :: xs) := by
  rw [← writeAt_singleton s p v (by omega)]
  exact writeAt_append s p [v] xs (by rw [List.length_singleton]; omega)

theorem put_ok {α} (s : List α) (p : Nat) (v : α) (h : p < s.length) : put s (p : Int) v = some (s.set p v) := by
  simp [put, h]

def emit {w : Nat} (add : BitVec w) (n : Int) (l : Nat) : List Nat → St w → Option (St w)
  | [], st => some st
  | i :: is, st =>
    if (st.c : Int) ≥ n ∨ st.c ≥ l then some st
    else match put st.s st.cursor (BitVec.ofNat w i + add) with
      | none => none
      | some s' => emit add n l is ⟨s', st.cursor + 1, st.c + 1, st.word &&& ~~~(bit i)⟩

theorem emit_stop {w : Nat} (add : BitVec w) (n : Int) (l : Nat) (L : List Nat) (st : St w)
    (h : (st.c : Int) ≥ n ∨ st.c ≥ l) : emit add n l L st = some st := by
  cases L with
  | nil => rfl
  | cons i is => rw [emit, if_pos h]

theorem denseLoop_eq_emit {w : Nat} (add : BitVec w) (n : Int) (l : Nat) :
    ∀ (idxs : List Nat), idxs.Nodup → (∀ i ∈ idxs, i < 64) → ∀ st : St w,
      denseLoop add n l idxs st = emit add n l (idxs.filter st.word.getLsbD) st := by
  intro idxs
  induction idxs with
  | nil => intro _ _ st; rfl
  | cons i is ih =>
    intro hnd hlt st
    have hnd' := List.nodup_cons.1 hnd
    have hlt' : ∀ j ∈ is, j < 64 := fun j hj => hlt j (List.mem_cons_of_mem i hj)
    rw [denseLoop, test_bit st.word (hlt i List.mem_cons_self), List.filter_cons]
    cases hb : st.word.getLsbD i
    · exact ih hnd'.2 hlt' st
    · rw [if_pos rfl, if_pos rfl, emit]
      by_cases hstop : (st.c : Int) ≥ n ∨ st.c ≥ l
      · rw [if_pos hstop, if_pos hstop]
      · rw [if_neg hstop, if_neg hstop]
        cases put st.s st.cursor (BitVec.ofNat w i + add) with
        | none => rfl
        | some s' =>
          dsimp only
          -- the cleared bit does not occur further on, so the rest of the scan sees the same set bits
          rw [← filter_clear_not_mem st.word hnd'.1]
          by_cases hz : st.word &&& ~~~(bit i) = 0#64
          · rw [if_pos (beq_iff_eq.2 hz), hz, filter_zero]
            rfl
          · rw [if_neg (fun h => hz (eq_of_beq h))]
            exact ih hnd'.2 hlt' _

theorem order_length (rev : Bool) : (order rev).length = 64 := by
  cases rev <;> simp [order]

theorem sparseLoop_succ {w : Nat} (rev : Bool) (add : BitVec w) (n : Int) (l fuel : Nat) (st : St w) :
    sparseLoop rev add n l (fuel + 1) st =
      if st.word == 0#64 then some st
      else if (st.c : Int) ≥ n ∨ st.c ≥ l then some st
      else match put st.s st.cursor (BitVec.ofNat w (firstIdx rev st.word) + add) with
        | none => none
        | some s' =>
          sparseLoop rev add n l fuel ⟨s', st.cursor + 1, st.c + 1, st.word &&& ~~~(bit (firstIdx rev st.word))⟩ :=
  rfl

/-- the find-first-set loop visits the set bits in scan order; every round clears one, so as much fuel as
    there are set bits is enough -/
theorem sparseLoop_eq_emit {w : Nat} (rev : Bool) (add : BitVec w) (n : Int) (l : Nat) :
    ∀ (fuel : Nat) (st : St w), ((order rev).filter st.word.getLsbD).length ≤ fuel →
      sparseLoop rev add n l fuel st = emit add n l ((order rev).filter st.word.getLsbD) st := by
  intro fuel
  induction fuel with
  | zero =>
    intro st hf
    rw [List.length_eq_zero_iff.1 (Nat.le_zero.1 hf)]
    rfl
  | succ fuel ih =>
    intro st hf
    rw [sparseLoop_succ]
    by_cases hz : st.word = 0#64
    · rw [if_pos (beq_iff_eq.2 hz), hz, filter_zero]
      rfl
    · have hfil := filter_of_find (order_nodup rev) (firstIdx_spec rev hz)
      rw [← filter_clear] at hfil
      rw [hfil] at hf
      rw [if_neg (fun h => hz (eq_of_beq h)), hfil, emit]
      by_cases hstop : (st.c : Int) ≥ n ∨ st.c ≥ l
      · rw [if_pos hstop, if_pos hstop]
      · rw [if_neg hstop, if_neg hstop]
        cases put st.s st.cursor (BitVec.ofNat w (firstIdx rev st.word) + add) with
        | none => rfl
        | some s' => exact ih _ (Nat.le_of_succ_le_succ hf)

theorem stop_iff (n : Int) (l c : Nat) : ((c : Int) ≥ n ∨ c ≥ l) ↔ min n.toNat l ≤ c := by
  omega

theorem emit_spec {w : Nat} (add : BitVec w) (n : Int) (l : Nat) :
    ∀ (L : List Nat) (s : List (BitVec w)) (p c : Nat) (word : Bit64) (k : Nat), min n.toNat l - c = k →
      p + ((L.take k).map (fun i => BitVec.ofNat w i + add)).length ≤ s.length →
      (emit add n l L ⟨s, p, c, word⟩).map (fun st => (st.s, st.c)) =
        some (writeAt s p ((L.take k).map (fun i => BitVec.ofNat w i + add)),
              c + ((L.take k).map (fun i => BitVec.ofNat w i + add)).length) := by
  intro L
  have hM := stop_iff n l
  generalize min n.toNat l = M at hM ⊢
  induction L with
  | nil => intro s p c word k _ _; simp [emit, writeAt]
  | cons i L ih =>
    intro s p c word k hk hroom
    by_cases hstop : (c : Int) ≥ n ∨ c ≥ l
    · have hk0 : k = 0 := by rw [← hk]; exact Nat.sub_eq_zero_of_le ((hM c).1 hstop)
      rw [emit_stop add n l _ _ hstop, hk0]
      simp [writeAt]
    · have hlt : c < M := Nat.lt_of_not_le (mt (hM c).2 hstop)
      obtain ⟨k', rfl⟩ : ∃ k', k = k' + 1 := ⟨k - 1, by omega⟩
      rw [List.take_succ_cons, List.map_cons, List.length_cons] at hroom ⊢
      rw [emit, if_neg hstop, put_ok s p _ (by omega)]
      have h := ih (s.set p (BitVec.ofNat w i + add)) (p + 1) (c + 1) (word &&& ~~~(bit i)) k' (by omega)
        (by rw [List.length_set]; omega)
      rw [writeAt_cons s p _ _ (by omega), Nat.add_right_comm] at h
      exact h

theorem iter64_eq_emit {w : Nat} (magic : Int) (rev : Bool) (b : Bit64) (s : List (BitVec w)) (pos : Int)
    (add : BitVec w) (n : Int) :
    iter64 magic rev b s pos add n =
      if len64 b = 0 then some (s, 0)
      else (emit add n (len64 b) ((order rev).filter b.getLsbD) ⟨s, pos, 0, b⟩).map (fun st => (st.s, st.c)) := by
  unfold iter64
  simp only
  split
  · rfl
  · split
    · rw [denseLoop_eq_emit add n _ _ (order_nodup rev) order_lt]
    · rw [sparseLoop_eq_emit rev add n _ 64 _ (Nat.le_trans (List.length_filter_le _ _) (Nat.le_of_eq (order_length rev)))]

/-- **iter64 = spec**, for every threshold: the first `min n (popcount b)` members in the direction's order,
    offset by `add`, are written from `pos`; nothing else changes; that count is returned. -/
theorem iter64_eq_spec {w : Nat} (magic : Int) (rev : Bool) (b : Bit64) (s : List (BitVec w)) (pos : Int)
    (add : BitVec w) (n : Int) (h0 : 0 ≤ pos)
    (hroom : pos.toNat + (expected rev (members b) add n).length ≤ s.length) :
    iter64 magic rev b s pos add n =
      some (writeAt s pos.toNat (expected rev (members b) add n), (expected rev (members b) add n).length) := by
  obtain ⟨p, rfl⟩ := Int.eq_ofNat_of_zero_le h0
  have hE : expected rev (members b) add n =
      (((order rev).filter b.getLsbD).take (min n.toNat (len64 b))).map (fun i => BitVec.ofNat w i + add) := by
    have hl : len64 b = ((order rev).filter b.getLsbD).length := by
      rw [len64_eq, filter_order]; cases rev <;> simp
    rw [hl, ← List.take_eq_take_min, filter_order]
    rfl
  rw [Int.toNat_natCast] at hroom ⊢
  rw [iter64_eq_emit]
  split
  · rename_i hl
    have hnil : members b = [] := List.length_eq_zero_iff.1 (by rw [← len64_eq]; exact hl)
    simp [hnil, expected, writeAt]
  · rw [hE] at hroom ⊢
    rw [emit_spec add n _ _ s p 0 b _ (Nat.sub_zero _) hroom, Nat.zero_add]

end Nv.C08
