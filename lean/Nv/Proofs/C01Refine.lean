import Nv.Proofs.C01Inv
import Nv.Spec.C01
/-!
C01 — the model of the code (repaired guard) and the token-free reader/writer lock `Nv.C01.S` accept the same
action sequences and stay related: holders = inside, waiters = queue (a caller `(t, write)` of the lock is the
model's `(t, weight)`).

A lock state `r` stands for one object, `semOf rw r`; every step of the lock is that step of the object
(`semOf_step`: the token test is `compatible`, `notifyWaiters` is `handOff`). The sound object with the callers
of a related key is exactly that one (`eq_semOf`), and a step of the key is the step of its object (`kstep_lists`).
-/
namespace Nv.C01

def wt (rw : Nat) (c : C) : W := (c.1, weight rw c.2)
def tok (rw : Nat) (l : List C) : Nat := wsum (l.map (wt rw))

theorem tok_nil (rw : Nat) : tok rw [] = 0 := rfl
theorem tok_cons (rw : Nat) (c : C) (l : List C) : tok rw (c :: l) = weight rw c.2 + tok rw l := rfl
theorem tok_append (rw : Nat) (a b : List C) : tok rw (a ++ b) = tok rw a + tok rw b := by
  rw [tok, List.map_append, wsum_append]
  rfl

theorem tok_ge_length (rw : Nat) (hrw : 1 ≤ rw) (l : List C) : l.length ≤ tok rw l := by
  induction l with
  | nil => exact Nat.le_refl 0
  | cons c l ih =>
    rw [tok_cons, List.length_cons, Nat.add_comm]
    exact Nat.add_le_add (weight_bounds rw hrw c.2).1 ih

theorem tok_readers (rw : Nat) (l : List C) (h : l.all (fun c => !c.2) = true) : tok rw l = l.length := by
  induction l with
  | nil => rfl
  | cons c l ih =>
    rw [List.all_cons, Bool.and_eq_true, Bool.not_eq_true'] at h
    rw [tok_cons, ih h.2, h.1, List.length_cons]
    exact Nat.add_comm 1 _

theorem tok_lt_all_readers (rw : Nat) (l : List C) (h : tok rw l < rw) : l.all (fun c => !c.2) = true := by
  induction l with
  | nil => rfl
  | cons c l ih =>
    rw [tok_cons] at h
    cases hc : c.2 with
    | true =>
      rw [hc] at h
      exact absurd h (Nat.not_lt.2 (Nat.le_add_right rw _))
    | false =>
      rw [List.all_cons, hc, ih (Nat.lt_of_le_of_lt (Nat.le_add_left _ _) h)]
      rfl

/-- the code's token test is the lock's compatibility test -/
theorem fits_iff (rw : Nat) (hrw : 1 ≤ rw) (ins : List C) (wr : Bool) :
    weight rw wr ≤ rw - tok rw ins ↔ compatible rw ins wr = true := by
  have hlen := tok_ge_length rw hrw ins
  cases wr with
  | true =>
    show rw ≤ rw - tok rw ins ↔ ins.isEmpty = true
    rw [List.isEmpty_iff]
    constructor
    · intro h
      exact List.length_eq_zero_iff.1 (by omega)
    · intro h
      rw [h, tok_nil]
      exact Nat.le_refl _
  | false =>
    show 0 < rw - tok rw ins ↔ (ins.all (fun c => !c.2) && decide (ins.length < rw)) = true
    rw [Nat.sub_pos_iff_lt, Bool.and_eq_true, decide_eq_true_eq]
    constructor
    · intro h
      have hall := tok_lt_all_readers rw ins h
      exact ⟨hall, tok_readers rw ins hall ▸ h⟩
    · intro ⟨hall, hl⟩
      exact (tok_readers rw ins hall).symm ▸ hl

def semOf (rw : Nat) (r : RW) : Sem := ⟨tok rw r.inside, r.inside.map (wt rw), r.queue.map (wt rw)⟩

/-- `notifyWaiters` is `handOff` -/
theorem notify_handOff (rw : Nat) (hrw : 1 ≤ rw) (q ins : List C) :
    notify rw (tok rw ins) (ins.map (wt rw)) (q.map (wt rw)) = semOf rw (handOff rw ins q) := by
  induction q generalizing ins with
  | nil => rfl
  | cons c q ih =>
    have hfit := fits_iff rw hrw ins c.2
    rw [List.map_cons, notify, handOff]
    by_cases hc : compatible rw ins c.2 = true
    · rw [if_pos hc, if_neg (show ¬ rw - tok rw ins < (wt rw c).2 from Nat.not_lt.2 (hfit.2 hc)), ← ih, tok_append,
        List.map_append]
      rfl
    · rw [if_neg hc, if_pos (show rw - tok rw ins < (wt rw c).2 from Nat.lt_of_not_le (mt hfit.1 hc))]
      rfl

theorem filter_map_wt (rw : Nat) (l : List C) (t : Tid) :
    (l.map (wt rw)).filter (·.1 ≠ t) = (l.filter (·.1 ≠ t)).map (wt rw) := by
  rw [List.filter_map]
  rfl

theorem semOf_step (rw : Nat) (hrw : 1 ≤ rw) (r : RW) (a : Act) (hok : SemOk rw (semOf rw r)) :
    (semOf rw r).step rw a = semOf rw (r.step rw a) := by
  cases a with
  | acquire t k wr =>
    -- the fast-path test of the code is the admission test of the lock
    have hcond : ((semOf rw r).waiters = [] ∧ weight rw wr ≤ rw - (semOf rw r).cur) ↔
        (r.queue = [] ∧ compatible rw r.inside wr = true) :=
      and_congr List.map_eq_nil_iff (fits_iff rw hrw r.inside wr)
    show (semOf rw r).acquire rw t (weight rw wr) = semOf rw (r.arrive rw t wr)
    unfold RW.arrive
    by_cases hq : r.queue = [] ∧ compatible rw r.inside wr = true
    · rw [if_pos hq, acquire_granted rw (semOf rw r) t (weight rw wr) (hcond.2 hq)]
      unfold semOf
      rw [tok_append, List.map_append, hq.1]
      rfl
    · rw [if_neg hq, acquire_queued rw (semOf rw r) t (weight rw wr) (weight_bounds rw hrw wr).2 (mt hcond.1 hq)]
      unfold semOf
      rw [List.map_append]
      rfl
  | release t k =>
    show (semOf rw r).release rw t = semOf rw (handOff rw _ r.queue)
    rw [release_eq_notify rw _ t rfl]
    show notify rw (wsum ((r.inside.map (wt rw)).filter _)) ((r.inside.map (wt rw)).filter _) _ = _
    rw [filter_map_wt]
    exact notify_handOff rw hrw r.queue _
  | cancel t k =>
    show (semOf rw r).cancel rw t = semOf rw (handOff rw r.inside _)
    rw [cancel_eq_notify rw _ t hok]
    show notify rw _ _ ((r.queue.map (wt rw)).filter _) = _
    rw [filter_map_wt]
    exact notify_handOff rw hrw _ r.inside

def Rel (rw : Nat) (s : KS) (r : RW) : Prop :=
  s.holders = r.inside.map (wt rw) ∧ s.waiters = r.queue.map (wt rw)

theorem Rel.init (rw : Nat) : Rel rw KS.init RW.init := ⟨rfl, rfl⟩

theorem eq_semOf (rw : Nat) (o : Sem) (r : RW) (hok : SemOk rw o) (hh : o.holders = r.inside.map (wt rw))
    (hw : o.waiters = r.queue.map (wt rw)) : o = semOf rw r := by
  obtain ⟨cur, hs, ws⟩ := o
  obtain rfl : cur = wsum hs := hok.cur_eq
  obtain rfl : hs = _ := hh
  obtain rfl : ws = _ := hw
  rfl

theorem any_map_wt (rw : Nat) (l : List C) (t : Tid) :
    (l.map (wt rw)).any (·.1 == t) = l.any (·.1 == t) := by
  rw [List.any_map]
  rfl

theorem enabled_rel (rw : Nat) (s : KS) (r : RW) (a : Act) (h : Rel rw s r) : s.enabled a = r.enabled a := by
  obtain ⟨h1, h2⟩ := h
  cases a <;>
    simp only [KS.enabled, RW.enabled, KS.listed, KS.holds, KS.waits, RW.isInside, RW.isQueued, h1, h2, any_map_wt]

theorem kstep_rel (c : Cfg) (hc : Proved c) (rw : Nat) (hrw : 1 ≤ rw) (s : KS) (r : RW) (a : Act)
    (hinv : KInv rw s) (hrel : Rel rw s r) (hen : s.enabled a = true) :
    Rel rw (s.step c rw a) (r.step rw a) := by
  obtain ⟨o, hok, e1, e2, e3, e4⟩ := kstep_lists c hc rw hrw s a hinv hen
  have ho : o = semOf rw r := eq_semOf rw o r hok (e1 ▸ hrel.1) (e2 ▸ hrel.2)
  rw [Rel, e3, e4, ho, semOf_step rw hrw r a (ho ▸ hok)]
  exact ⟨rfl, rfl⟩

def Agree (rw : Nat) : Option State → Option SState → Prop
  | some s, some sp => ∀ k, Rel rw (s k) (sp k)
  | none, none => True
  | _, _ => False

theorem run_agree (c : Cfg) (hc : Proved c) (rw : Nat) (hrw : 1 ≤ rw) (as : List Act) (s : State) (sp : SState)
    (hreach : (M c rw).Reach s) (hrel : ∀ k, Rel rw (s k) (sp k)) :
    Agree rw ((M c rw).run s as) ((S rw).run sp as) := by
  induction as generalizing s sp with
  | nil => exact hrel
  | cons a as ih =>
    have hen := enabled_rel rw (s a.key) (sp a.key) a (hrel a.key)
    cases he : (s a.key).enabled a with
    | false =>
      have h1 : (M c rw).step s a = none := if_neg (he ▸ Bool.false_ne_true)
      have h2 : (S rw).step sp a = none := if_neg (hen ▸ he ▸ Bool.false_ne_true)
      rw [LTS.run, LTS.run, h1, h2]
      exact trivial
    | true =>
      have h1 : (M c rw).step s a = some (upd s a.key ((s a.key).step c rw a)) := if_pos he
      have h2 : (S rw).step sp a = some (supd sp a.key ((sp a.key).step rw a)) := if_pos (hen ▸ he)
      rw [LTS.run, LTS.run, h1, h2]
      refine ih _ _ (LTS.Reach.step hreach h1) fun k => ?_
      unfold upd supd
      by_cases hk : k = a.key
      · rw [if_pos hk, if_pos hk]
        exact kstep_rel c hc rw hrw _ _ a (reach_inv c hc rw hrw s hreach _).1 (hrel _) he
      · rw [if_neg hk, if_neg hk]
        exact hrel k

/-! ### the reference machine itself excludes (independent of the model) -/

def SExcl (rw : Nat) (ins : List C) : Prop :=
  (∃ t, ins = [(t, true)]) ∨ (ins.all (fun c => !c.2) = true ∧ ins.length ≤ rw)

theorem sexcl_nil (rw : Nat) : SExcl rw [] := Or.inr ⟨rfl, Nat.zero_le _⟩

theorem sexcl_snoc (rw : Nat) (ins : List C) (c : C) (h : SExcl rw ins) (hc : compatible rw ins c.2 = true) :
    SExcl rw (ins ++ [c]) := by
  obtain ⟨t, wr⟩ := c
  cases wr with
  | true =>
    have : ins = [] := by simpa [compatible] using hc
    subst this
    exact Or.inl ⟨t, rfl⟩
  | false =>
    simp only [compatible, Bool.false_eq_true, if_false, Bool.and_eq_true, decide_eq_true_eq] at hc
    exact Or.inr ⟨by simp [List.all_append, hc.1], by simp; omega⟩

theorem sexcl_filter (rw : Nat) (ins : List C) (t : Tid) (h : SExcl rw ins) : SExcl rw (ins.filter (·.1 ≠ t)) := by
  rcases h with ⟨u, rfl⟩ | ⟨hall, hlen⟩
  · by_cases hu : u = t
    · simp [hu, sexcl_nil]
    · exact Or.inl ⟨u, by simp [hu]⟩
  · refine Or.inr ⟨?_, Nat.le_trans (List.length_filter_le _ _) hlen⟩
    rw [List.all_eq_true] at hall ⊢
    intro x hx
    exact hall x (List.mem_filter.1 hx).1

theorem sexcl_handOff (rw : Nat) (q ins : List C) (h : SExcl rw ins) : SExcl rw (handOff rw ins q).inside := by
  induction q generalizing ins with
  | nil => exact h
  | cons c q ih =>
    rw [handOff]
    split
    · next hc => exact ih _ (sexcl_snoc rw ins c h hc)
    · exact h

theorem sstep_some (rw : Nat) (s s' : SState) (a : Act) (h : sstep rw s a = some s') :
    s' = supd s a.key ((s a.key).step rw a) := by
  unfold sstep at h
  split at h
  · cases h; rfl
  · cases h

theorem spec_excl (rw : Nat) : ∀ sp, (S rw).Reach sp → ∀ k, SExcl rw (sp k).inside := by
  apply LTS.inv_of_step (S rw) (fun sp => ∀ k, SExcl rw (sp k).inside)
  · exact fun _ => sexcl_nil rw
  · intro sp a sp' hinv hstep k
    obtain rfl := sstep_some rw sp sp' a hstep
    unfold supd
    split
    · cases a with
      | acquire t k' wr =>
        show SExcl rw (RW.arrive rw _ t wr).inside
        unfold RW.arrive
        split
        · next hc => exact sexcl_snoc rw _ (t, wr) (hinv _) hc.2
        · exact hinv _
      | release t k' => exact sexcl_handOff rw _ _ (sexcl_filter rw _ t (hinv _))
      | cancel t k' => exact sexcl_handOff rw _ _ (hinv _)
    · exact hinv k

end Nv.C01
