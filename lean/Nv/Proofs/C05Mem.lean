import Nv.Proofs.C05Basic
import Nv.Spec.C05
/-!
C05 — the calls of the in-memory cache. First what `get` and `set` do on each form of input, as equations; then the
induction principle `step_ind` (what the index primitives keep, every call keeps), through which the invariants
`WF` and `Bounded` and the constancy of `size` / `dttl` are obtained; then the calls seen from one key.
-/
namespace Nv.C05

theorem expired_deadline (now t : Int) : expired now (deadline now t) = false := by
  unfold deadline
  split
  · rfl
  · simp only [expired, decide_eq_false_iff_not]; omega

theorem get_absent {m : Mem} {now : Int} {k : Key} (o : GetOpt) (hl : m.lookup k = none) :
    m.get now k o = (m, .notFound) := by
  simp [Mem.get, hl]

theorem get_expired {m : Mem} {now : Int} {k : Key} {n : Node} (o : GetOpt) (hl : m.lookup k = some n)
    (he : expired now n.dl = true) : m.get now k o = (m.removeKey k, .notFound) := by
  simp [Mem.get, hl, he]

theorem get_consume {m : Mem} {now : Int} {k : Key} {n : Node} {o : GetOpt} (hl : m.lookup k = some n)
    (he : expired now n.dl = false) (hr : o.remove = true) : m.get now k o = (m.removeKey k, .value n.val) := by
  simp [Mem.get, hl, he, hr]

theorem get_hit {m : Mem} {now : Int} {k : Key} {n : Node} {o : GetOpt} (hl : m.lookup k = some n)
    (he : expired now n.dl = false) (hr : o.remove = false) :
    m.get now k o = (m.touch ⟨k, n.val, match o.update with
      | some t => deadline now (getTtl m.dttl t)
      | none => n.dl⟩, .value n.val) := by
  have hk := lookup_key hl
  subst hk
  cases hu : o.update <;> simp [Mem.get, hl, he, hr, hu]

/-- the result of a Get depends on the node and the clock only, not on the options -/
theorem get_out (m : Mem) (now : Int) (k : Key) (o : GetOpt) :
    (m.get now k o).2 = match m.lookup k with
      | none => .notFound
      | some n => if expired now n.dl then .notFound else .value n.val := by
  cases hl : m.lookup k with
  | none => rw [get_absent o hl]
  | some n =>
    cases he : expired now n.dl with
    | true => rw [get_expired o hl he]; simp [he]
    | false =>
      cases hr : o.remove with
      | true => rw [get_consume hl he hr]; simp [he]
      | false => rw [get_hit hl he hr]; simp [he]

theorem get_value_iff {m : Mem} {now : Int} {k : Key} {o : GetOpt} {v : Val} :
    (m.get now k o).2 = .value v ↔ ∃ n, m.lookup k = some n ∧ expired now n.dl = false ∧ n.val = v := by
  rw [get_out]
  cases m.lookup k with
  | none => simp
  | some n => cases he : expired now n.dl <;> simp [he]

theorem get_notFound_iff {m : Mem} {now : Int} {k : Key} {o : GetOpt} :
    (m.get now k o).2 = .notFound ↔ (m.lookup k = none ∨ ∃ n, m.lookup k = some n ∧ expired now n.dl = true) := by
  rw [get_out]
  cases m.lookup k with
  | none => simp
  | some n => cases he : expired now n.dl <;> simp [he]

theorem purge_expired {m : Mem} {now : Int} {k : Key} {n : Node} (hl : m.lookup k = some n)
    (he : expired now n.dl = true) : m.purgeIfExpired now k = m.removeKey k := by
  simp [Mem.purgeIfExpired, hl, he]

theorem purge_live {m : Mem} {now : Int} {k : Key} (h : ∀ n, m.lookup k = some n → expired now n.dl = false) :
    m.purgeIfExpired now k = m := by
  unfold Mem.purgeIfExpired
  cases hl : m.lookup k with
  | none => rfl
  | some n => simp [h n hl]

theorem preSet_expired {c : Cfg} (hc : c.setExpiry = .purge) {m : Mem} {now : Int} {k : Key} {n : Node}
    (hl : m.lookup k = some n) (he : expired now n.dl = true) : m.preSet c now k = m.removeKey k := by
  simp only [Mem.preSet, hc, purge_expired hl he]

theorem preSet_live (c : Cfg) {m : Mem} {now : Int} {k : Key}
    (h : ∀ n, m.lookup k = some n → expired now n.dl = false) : m.preSet c now k = m := by
  unfold Mem.preSet
  split
  · exact purge_live h
  · rfl

theorem preSet_cases (c : Cfg) (m : Mem) (now : Int) (k : Key) :
    m.preSet c now k = m ∨ m.preSet c now k = m.removeKey k := by
  cases hl : m.lookup k with
  | none => exact Or.inl (preSet_live c (fun n hn => by rw [hl] at hn; cases hn))
  | some n =>
    cases he : expired now n.dl with
    | false => exact Or.inl (preSet_live c (fun n' hn' => by rw [hl] at hn'; cases hn'; exact he))
    | true =>
      unfold Mem.preSet
      split
      · exact Or.inr (purge_expired hl he)
      · exact Or.inl rfl

theorem size_preSet (c : Cfg) (m : Mem) (now : Int) (k : Key) : (m.preSet c now k).size = m.size := by
  rcases preSet_cases c m now k with e | e <;> rw [e] <;> rfl

theorem dttl_preSet (c : Cfg) (m : Mem) (now : Int) (k : Key) : (m.preSet c now k).dttl = m.dttl := by
  rcases preSet_cases c m now k with e | e <;> rw [e] <;> rfl

theorem setCore_absent (c : Cfg) {m : Mem} (now : Int) {k : Key} (v : Val) (o : SetOpt) (hl : m.lookup k = none) :
    m.setCore c now k v o = (m.insertNew c ⟨k, v, deadline now (setTtl m o)⟩, .ok) := by
  simp [Mem.setCore, hl]

theorem setCore_exists (c : Cfg) {m : Mem} (now : Int) {k : Key} (v : Val) {o : SetOpt} {n : Node}
    (hl : m.lookup k = some n) (hm : o.mustNotExist = true) : m.setCore c now k v o = (m, .exists_) := by
  simp [Mem.setCore, hl, hm]

theorem setCore_overwrite (c : Cfg) {m : Mem} (now : Int) {k : Key} (v : Val) {o : SetOpt} {n : Node}
    (hl : m.lookup k = some n) (hm : o.mustNotExist = false) :
    m.setCore c now k v o = (m.touch ⟨k, v, if o.keepTTL then n.dl else deadline now (setTtl m o)⟩, .ok) := by
  have hk := lookup_key hl
  subst hk
  simp [Mem.setCore, hl, hm]

/-! ### what the index primitives keep, every call keeps -/

theorem step_ind {c : Cfg} {op : Op} (P : Mem → Prop)
    (hrem : ∀ m k, opKey op = some k → P m → P (m.removeKey k))
    (htouch : ∀ m n x, opKey op = some n.key → m.lookup n.key = some x → P m → P (m.touch n))
    (hins : ∀ m n, opKey op = some n.key → m.lookup n.key = none → P m → P (m.insertNew c n))
    (hclear : op = .clear → ∀ m, P m → P m.clear)
    {m : Mem} (h : P m) (now : Int) : P (m.step c now op).1 := by
  cases op with
  | tick _ => exact h
  | clear => exact hclear rfl m h
  | remove k => exact hrem m k rfl h
  | get k o =>
    show P (m.get now k o).1
    cases hl : m.lookup k with
    | none => rw [get_absent o hl]; exact h
    | some n =>
      cases he : expired now n.dl with
      | true => rw [get_expired o hl he]; exact hrem m k rfl h
      | false =>
        cases hr : o.remove with
        | true => rw [get_consume hl he hr]; exact hrem m k rfl h
        | false => rw [get_hit hl he hr]; exact htouch m _ n rfl hl h
  | set k v o =>
    show P ((m.preSet c now k).setCore c now k v o).1
    have hp : P (m.preSet c now k) := by
      rcases preSet_cases c m now k with e | e <;> rw [e]
      · exact h
      · exact hrem m k rfl h
    generalize m.preSet c now k = m' at hp
    cases hl : m'.lookup k with
    | none => rw [setCore_absent c now v o hl]; exact hins m' _ rfl hl hp
    | some n =>
      cases hm : o.mustNotExist with
      | true => rw [setCore_exists c now v hl hm]; exact hp
      | false => rw [setCore_overwrite c now v hl hm]; exact htouch m' _ n rfl hl hp

theorem wf_new (size : Nat) (dttl : Int) : WF (Mem.new size dttl) := List.nodup_nil

theorem wf_clear (m : Mem) : WF m.clear := List.nodup_nil

theorem wf_removeKey {m : Mem} (h : WF m) (k : Key) : WF (m.removeKey k) :=
  ((keys_eraseKey_sublist k _).append (keys_eraseKey_sublist k _)).nodup h

theorem wf_touch {m : Mem} (h : WF m) (n : Node) : WF (m.touch n) := by
  rw [wf_iff] at h ⊢
  obtain ⟨h1, h2, h3⟩ := h
  have hnot : ∀ l, n.key ∉ keys (eraseKey n.key l) := fun l hm => (mem_keys_eraseKey.1 hm).2 rfl
  unfold Mem.touch
  split
  · rename_i x hx
    refine ⟨List.nodup_cons.2 ⟨hnot _, (keys_eraseKey_sublist _ _).nodup h1⟩, h2, ?_⟩
    intro a ha
    rcases List.mem_cons.1 ha with e | e
    · rw [e]; exact h3 _ (mem_keys_of_findKey hx)
    · exact h3 a (mem_keys_eraseKey.1 e).1
  · rename_i hx
    refine ⟨h1, List.nodup_cons.2 ⟨hnot _, (keys_eraseKey_sublist _ _).nodup h2⟩, ?_⟩
    intro a ha hb
    rcases List.mem_cons.1 hb with e | e
    · rw [e] at ha; exact findKey_none_iff.1 hx ha
    · exact h3 a ha (mem_keys_eraseKey.1 e).1

/-- whichever way the insertion goes, the new index is part of `n.key :: m.indexed` -/
theorem wf_insertNew {c : Cfg} {m : Mem} (h : WF m) {n : Node} (hnew : m.lookup n.key = none) :
    WF (m.insertNew c n) := by
  have hcons : (n.key :: m.indexed).Nodup := List.nodup_cons.2 ⟨lookup_none_iff.1 hnew, h⟩
  rcases insertNew_cases c m n with ⟨_, e⟩ | ⟨hl, _, e⟩ | ⟨_, e⟩ <;> rw [e]
  · exact (((List.dropLast_sublist (n :: m.live)).map _).append (List.Sublist.refl _)).nodup hcons
  · rw [Mem.indexed, hl] at hcons; exact hcons
  · exact hcons

theorem wf_step {c : Cfg} {m : Mem} (h : WF m) (now : Int) (op : Op) : WF (m.step c now op).1 :=
  step_ind WF (fun _ k _ h => wf_removeKey h k) (fun _ n _ _ _ h => wf_touch h n) (fun _ _ _ hn h => wf_insertNew h hn)
    (fun _ m _ => wf_clear m) h now

/-! ### the size bound (index written before the eviction) -/

def Bounded (m : Mem) : Prop := m.ghost = [] ∧ m.live.length ≤ m.size

theorem lookup_of_bounded {m : Mem} (h : Bounded m) (k : Key) : m.lookup k = findKey k m.live := by
  unfold Mem.lookup
  rw [h.1]
  cases findKey k m.live <;> rfl

theorem bounded_new (size : Nat) (dttl : Int) : Bounded (Mem.new size dttl) := ⟨rfl, Nat.zero_le _⟩

theorem bounded_clear (m : Mem) : Bounded m.clear := ⟨rfl, Nat.zero_le _⟩

theorem bounded_removeKey {m : Mem} (h : Bounded m) (k : Key) : Bounded (m.removeKey k) :=
  ⟨by simp [Mem.removeKey, h.1, eraseKey], Nat.le_trans (eraseKey_length_le k m.live) h.2⟩

theorem bounded_touch {m : Mem} (h : Bounded m) {n x : Node} (hx : m.lookup n.key = some x) : Bounded (m.touch n) := by
  rw [lookup_of_bounded h] at hx
  unfold Mem.touch
  rw [hx]
  exact ⟨h.1, Nat.le_trans (eraseKey_length_lt hx) h.2⟩

theorem bounded_insertNew {c : Cfg} (hc : c.indexOrder = .beforeEvict) {m : Mem} (h : Bounded m) (n : Node) :
    Bounded (m.insertNew c n) := by
  rcases insertNew_cases c m n with ⟨_, e⟩ | ⟨_, hne, _⟩ | ⟨hle, e⟩
  · rw [e]; exact ⟨h.1, by simpa using h.2⟩
  · exact absurd hc hne
  · rw [e]; exact ⟨h.1, hle⟩

theorem bounded_step {c : Cfg} (hc : c.indexOrder = .beforeEvict) {m : Mem} (h : Bounded m) (now : Int) (op : Op) :
    Bounded (m.step c now op).1 :=
  step_ind Bounded (fun _ k _ h => bounded_removeKey h k) (fun _ _ _ _ hx h => bounded_touch h hx)
    (fun _ n _ _ h => bounded_insertNew hc h n) (fun _ m _ => bounded_clear m) h now

theorem size_removeKey (m : Mem) (k : Key) : (m.removeKey k).size = m.size := rfl

theorem size_touch (m : Mem) (n : Node) : (m.touch n).size = m.size := by unfold Mem.touch; split <;> rfl

theorem dttl_touch (m : Mem) (n : Node) : (m.touch n).dttl = m.dttl := by unfold Mem.touch; split <;> rfl

theorem size_insertNew (c : Cfg) (m : Mem) (n : Node) : (m.insertNew c n).size = m.size := by
  rcases insertNew_cases c m n with ⟨_, e⟩ | ⟨_, _, e⟩ | ⟨_, e⟩ <;> rw [e]

theorem dttl_insertNew (c : Cfg) (m : Mem) (n : Node) : (m.insertNew c n).dttl = m.dttl := by
  rcases insertNew_cases c m n with ⟨_, e⟩ | ⟨_, _, e⟩ | ⟨_, e⟩ <;> rw [e]

theorem step_size (c : Cfg) (m : Mem) (now : Int) (op : Op) : (m.step c now op).1.size = m.size :=
  step_ind (fun m' => m'.size = m.size) (fun _ _ _ h => h) (fun m' n _ _ _ h => (size_touch m' n).trans h)
    (fun m' n _ _ h => (size_insertNew c m' n).trans h) (fun _ _ h => h) rfl now

theorem step_dttl (c : Cfg) (m : Mem) (now : Int) (op : Op) : (m.step c now op).1.dttl = m.dttl :=
  step_ind (fun m' => m'.dttl = m.dttl) (fun _ _ _ h => h) (fun m' n _ _ _ h => (dttl_touch m' n).trans h)
    (fun m' n _ _ h => (dttl_insertNew c m' n).trans h) (fun _ _ h => h) rfl now

/-- a call addressing another key can only leave the index entry of `k` as it is, or drop it -/
theorem lookup_step_other {c : Cfg} {m : Mem} (hwf : WF m) {now : Int} {op : Op} {k : Key} {n : Node}
    (hop : opKey op ≠ some k) (h : (m.step c now op).1.lookup k = some n) : m.lookup k = some n := by
  have hne : ∀ {k'}, opKey op = some k' → k ≠ k' := fun e e' => hop (e' ▸ e)
  refine (step_ind (c := c) (fun m' => WF m' ∧ ∀ n, m'.lookup k = some n → m.lookup k = some n)
    ?_ ?_ ?_ ?_ ⟨hwf, fun _ h => h⟩ now).2 n h
  · intro m' k' hk ⟨hw, hm⟩
    exact ⟨wf_removeKey hw k', fun n hn => hm n (by rwa [lookup_removeKey, if_neg (hne hk)] at hn)⟩
  · intro m' x _ hk _ ⟨hw, hm⟩
    exact ⟨wf_touch hw x, fun n hn => hm n (by rwa [lookup_touch, if_neg (hne hk)] at hn)⟩
  · intro m' x hk hnew ⟨hw, hm⟩
    exact ⟨wf_insertNew hw hnew, fun n hn => hm n (lookup_insertNew_ne hw (hne hk) hn)⟩
  · intro _ m' _
    exact ⟨wf_clear m', fun n hn => by rw [lookup_clear] at hn; cases hn⟩

theorem absent_stays_absent {c : Cfg} {m : Mem} {now : Int} {k : Key} (h : m.lookup k = none) (hwf : WF m) {op : Op}
    (hop : setsKey k op = false) : (m.step c now op).1.lookup k = none := by
  by_cases hk : opKey op = some k
  · cases op with
    | set k' v o => rw [Option.some.inj hk] at hop; simp [setsKey] at hop
    | get k' o => rw [Option.some.inj hk, Mem.step, get_absent o h]; exact h
    | remove k' => rw [Option.some.inj hk, Mem.step, lookup_removeKey_self]
    | clear => cases hk
    | tick _ => cases hk
  · cases hr : (m.step c now op).1.lookup k with
    | none => rfl
    | some n => rw [← h]; exact (lookup_step_other hwf hk hr).symm

theorem lookup_step_keeps {c : Cfg} {m : Mem} (hwf : WF m) {now : Int} {op : Op} {k : Key} {n : Node}
    (hop : writesTtl k op = false) (h : (m.step c now op).1.lookup k = some n) : m.lookup k = some n := by
  by_cases hk : opKey op = some k
  · cases op with
    | set k' v o => simp [opKey] at hk; simp [writesTtl, hk] at hop
    | get k' o =>
      simp only [opKey, Option.some.injEq] at hk
      subst hk
      have hu : o.update = none := by simpa [writesTtl] using hop
      change (m.get now k' o).1.lookup k' = some n at h
      cases hl : m.lookup k' with
      | none => rwa [get_absent o hl, hl] at h
      | some x =>
        cases he : expired now x.dl with
        | true => rw [get_expired o hl he, lookup_removeKey_self] at h; cases h
        | false =>
          cases hr : o.remove with
          | true => rw [get_consume hl he hr, lookup_removeKey_self] at h; cases h
          | false =>
            rw [get_hit hl he hr, hu, lookup_touch_self] at h
            rw [← h, ← lookup_key hl]
    | remove k' =>
      simp only [opKey, Option.some.injEq] at hk
      subst hk
      rw [Mem.step, lookup_removeKey_self] at h; cases h
    | clear => simp [opKey] at hk
    | tick _ => simp [opKey] at hk
  · exact lookup_step_other hwf hk h

theorem set_ok_lookup {c : Cfg} {m : Mem} {now : Int} {k : Key} {v : Val} {o : SetOpt} (hk : o.keepTTL = false)
    (hok : (m.set c now k v o).2 = .ok) :
    (m.set c now k v o).1.lookup k = some ⟨k, v, deadline now (o.ttl.getD m.dttl)⟩ ∨
    (m.size = 0 ∧ (m.set c now k v o).1.lookup k = none) := by
  have hd := dttl_preSet c m now k
  have hs := size_preSet c m now k
  rw [Mem.set] at hok ⊢
  generalize m.preSet c now k = m' at hok hd hs
  rw [← hd, ← hs]
  cases hl : m'.lookup k with
  | none =>
    rw [setCore_absent c now v o hl]
    rcases lookup_insertNew_self c m' ⟨k, v, deadline now (setTtl m' o)⟩ with e | ⟨e0, e⟩
    · exact Or.inl e
    · exact Or.inr ⟨e0, e.trans hl⟩
  | some n =>
    cases hm : o.mustNotExist with
    | true => rw [setCore_exists c now v hl hm] at hok; cases hok
    | false => rw [setCore_overwrite c now v hl hm, lookup_touch_self, hk]; exact Or.inl rfl

theorem get_remove_absent (m : Mem) (now : Int) (k : Key) {o : GetOpt} (hr : o.remove = true) :
    (m.get now k o).1.lookup k = none := by
  cases hl : m.lookup k with
  | none => rw [get_absent o hl]; exact hl
  | some n =>
    cases he : expired now n.dl with
    | true => rw [get_expired o hl he, lookup_removeKey_self]
    | false => rw [get_consume hl he hr, lookup_removeKey_self]

theorem indexed_length_le {m : Mem} (h : Bounded m) : m.indexed.length ≤ m.size := by
  simpa [Mem.indexed, h.1, keys] using h.2

theorem retrievable_length_le {m : Mem} (h : Bounded m) (now : Int) : (m.retrievable now).length ≤ m.size :=
  Nat.le_trans (List.length_filter_le _ _) (indexed_length_le h)

theorem msys_step_mem (c : Cfg) (s : MSys) (op : Op) :
    (MSys.step c s op).1.mem = (s.mem.step c (secOf s.clock) op).1 ∧
    (MSys.step c s op).2 = (s.mem.step c (secOf s.clock) op).2 := by
  cases op <;> exact ⟨rfl, rfl⟩

theorem msys_mem_inv (c : Cfg) (Inv : Mem → Prop) (hstep : ∀ m now op, Inv m → Inv (m.step c now op).1)
    (ops : List Op) (s : MSys) (h : Inv s.mem) : Inv (final (MSys.step c) s ops).mem :=
  final_inv (MSys.step c) (fun s => Inv s.mem) (fun _ => True)
    (fun s op h _ => (msys_step_mem c s op).1 ▸ hstep _ _ _ h) ops s h (fun _ _ => trivial)

theorem msys_size (c : Cfg) (ops : List Op) (s : MSys) : (final (MSys.step c) s ops).mem.size = s.mem.size :=
  msys_mem_inv c (fun m => m.size = s.mem.size) (fun m now op h => (step_size c m now op).trans h) ops s rfl

theorem msys_dttl (c : Cfg) (ops : List Op) (s : MSys) : (final (MSys.step c) s ops).mem.dttl = s.mem.dttl :=
  msys_mem_inv c (fun m => m.dttl = s.mem.dttl) (fun m now op h => (step_dttl c m now op).trans h) ops s rfl

end Nv.C05
