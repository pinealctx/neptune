import Nv.Model.C05
/-!
C05 — the key index of the in-memory cache. `findKey` / `eraseKey` are `List.find?` / `List.filter`, so the list
library applies; on top of that, what each primitive of the index (`removeKey`, `touch`, `insertNew`, `clear`) does to
`lookup`.
-/
namespace Nv.C05

theorem findKey_eq_find (k : Key) (l : List Node) : findKey k l = l.find? (fun n => n.key = k) := by
  induction l with
  | nil => rfl
  | cons a l ih => simp only [findKey, List.find?_cons, ih]; split <;> simp [*]

theorem eraseKey_eq_filter (k : Key) (l : List Node) : eraseKey k l = l.filter (fun n => n.key ≠ k) := by
  induction l with
  | nil => rfl
  | cons a l ih => simp only [eraseKey, List.filter_cons, ih]; split <;> simp [*]

theorem findKey_some {k : Key} {l : List Node} {n : Node} (h : findKey k l = some n) : n.key = k ∧ n ∈ l := by
  rw [findKey_eq_find] at h
  exact ⟨by simpa using List.find?_some h, List.mem_of_find?_eq_some h⟩

theorem mem_keys_of_findKey {k : Key} {l : List Node} {n : Node} (h : findKey k l = some n) : k ∈ keys l :=
  List.mem_map.2 ⟨n, (findKey_some h).2, (findKey_some h).1⟩

theorem findKey_none_iff {k : Key} {l : List Node} : findKey k l = none ↔ k ∉ keys l := by
  simp [findKey_eq_find, keys]

/-- finding `k'` after filtering out `k`, for lists of anything that carries a key (nodes here, redis entries later) -/
theorem find?_filter_key {α : Type} (f : α → Key) (k k' : Key) (l : List α) :
    (l.filter (fun a => f a ≠ k)).find? (fun a => f a = k') =
      if k' = k then none else l.find? (fun a => f a = k') := by
  rw [List.find?_filter]
  split
  · simp [*]
  · -- a key equal to `k'` is not `k` anyway
    congr 1; funext a
    by_cases h : f a = k' <;> simp [*]

theorem findKey_eraseKey (k k' : Key) (l : List Node) :
    findKey k' (eraseKey k l) = if k' = k then none else findKey k' l := by
  simp only [findKey_eq_find, eraseKey_eq_filter]
  exact find?_filter_key _ k k' l

theorem findKey_append (k : Key) (a b : List Node) : findKey k (a ++ b) = (findKey k a).or (findKey k b) := by
  simp only [findKey_eq_find, List.find?_append]

theorem findKey_dropLast {k : Key} {l : List Node} {n : Node} (h : findKey k l.dropLast = some n) :
    findKey k l = some n := by
  rw [findKey_eq_find] at h ⊢
  exact (List.dropLast_prefix l).find?_eq_some h

theorem mem_eraseKey {k : Key} {l : List Node} {n : Node} : n ∈ eraseKey k l ↔ n ∈ l ∧ n.key ≠ k := by
  simp [eraseKey_eq_filter]

theorem eraseKey_sublist (k : Key) (l : List Node) : (eraseKey k l).Sublist l := by
  rw [eraseKey_eq_filter]; exact List.filter_sublist

theorem eraseKey_length_le (k : Key) (l : List Node) : (eraseKey k l).length ≤ l.length :=
  (eraseKey_sublist k l).length_le

theorem eraseKey_length_lt {k : Key} {l : List Node} {n : Node} (h : findKey k l = some n) :
    (eraseKey k l).length < l.length := by
  rw [eraseKey_eq_filter]
  exact List.length_filter_lt_length_iff_exists.2 ⟨n, (findKey_some h).2, by simp [(findKey_some h).1]⟩

theorem eraseKey_append (k : Key) (a b : List Node) : eraseKey k (a ++ b) = eraseKey k a ++ eraseKey k b := by
  simp only [eraseKey_eq_filter, List.filter_append]

theorem eraseKey_of_not_mem {k : Key} {l : List Node} (h : k ∉ keys l) : eraseKey k l = l := by
  rw [eraseKey_eq_filter, List.filter_eq_self]
  intro a ha
  have : a.key ≠ k := fun e => h (List.mem_map.2 ⟨a, ha, e⟩)
  simpa using this

theorem eraseKey_idem (k : Key) (l : List Node) : eraseKey k (eraseKey k l) = eraseKey k l :=
  eraseKey_of_not_mem (fun h => by
    obtain ⟨a, ha, e⟩ := List.mem_map.1 h
    exact (mem_eraseKey.1 ha).2 e)

theorem mem_keys_eraseKey {k k' : Key} {l : List Node} : k' ∈ keys (eraseKey k l) ↔ k' ∈ keys l ∧ k' ≠ k := by
  simp only [keys, List.mem_map, mem_eraseKey]
  constructor
  · rintro ⟨a, ⟨ha, hk⟩, rfl⟩; exact ⟨⟨a, ha, rfl⟩, hk⟩
  · rintro ⟨⟨a, ha, rfl⟩, hk⟩; exact ⟨a, ⟨ha, hk⟩, rfl⟩

theorem keys_eraseKey_sublist (k : Key) (l : List Node) : (keys (eraseKey k l)).Sublist (keys l) :=
  (eraseKey_sublist k l).map _

theorem lookup_key {m : Mem} {k : Key} {n : Node} (h : m.lookup k = some n) : n.key = k := by
  unfold Mem.lookup at h
  split at h
  · rename_i x hx; cases h; exact (findKey_some hx).1
  · exact (findKey_some h).1

theorem lookup_none_iff {m : Mem} {k : Key} : m.lookup k = none ↔ k ∉ m.indexed := by
  unfold Mem.lookup Mem.indexed
  simp only [List.mem_append, not_or, ← findKey_none_iff]
  split
  · rename_i x hx; simp [hx]
  · rename_i hx; simp [hx]

theorem mem_indexed_iff {m : Mem} {k : Key} : k ∈ m.indexed ↔ ∃ n, m.lookup k = some n := by
  rw [← Option.ne_none_iff_exists', ne_eq, lookup_none_iff, Classical.not_not]

theorem lookup_removeKey (m : Mem) (k k' : Key) :
    (m.removeKey k).lookup k' = if k' = k then none else m.lookup k' := by
  by_cases h : k' = k <;> simp [Mem.lookup, Mem.removeKey, findKey_eraseKey, h]

theorem lookup_removeKey_self (m : Mem) (k : Key) : (m.removeKey k).lookup k = none := by
  rw [lookup_removeKey, if_pos rfl]

theorem removeKey_idem (m : Mem) (k : Key) : (m.removeKey k).removeKey k = m.removeKey k := by
  simp [Mem.removeKey, eraseKey_idem]

theorem lookup_clear (m : Mem) (k : Key) : m.clear.lookup k = none := rfl

theorem lookup_touch (m : Mem) (n : Node) (k' : Key) :
    (m.touch n).lookup k' = if k' = n.key then some n else m.lookup k' := by
  unfold Mem.touch
  by_cases h : k' = n.key
  · subst h; split <;> simp [Mem.lookup, findKey, *]
  · have h' : ¬ n.key = k' := fun e => h e.symm
    split <;> simp [Mem.lookup, findKey, findKey_eraseKey, h, h']

theorem lookup_touch_self (m : Mem) (n : Node) : (m.touch n).lookup n.key = some n := by
  rw [lookup_touch, if_pos rfl]

theorem insertNew_cases (c : Cfg) (m : Mem) (n : Node) :
    (m.live.length + 1 > m.size ∧ m.insertNew c n = { m with live := (n :: m.live).dropLast }) ∨
    (m.live = [] ∧ c.indexOrder ≠ .beforeEvict ∧ m.insertNew c n = { m with live := [], ghost := n :: m.ghost }) ∨
    (m.live.length + 1 ≤ m.size ∧ m.insertNew c n = { m with live := n :: m.live }) := by
  unfold Mem.insertNew
  by_cases hgt : (n :: m.live).length > m.size
  · rw [if_pos hgt]
    split
    · exact Or.inl ⟨hgt, rfl⟩
    · rename_i hc
      split
      · rename_i hl; exact Or.inr (Or.inl ⟨hl, fun e => hc e, rfl⟩)
      · exact Or.inl ⟨hgt, rfl⟩
  · rw [if_neg hgt]
    exact Or.inr (Or.inr ⟨Nat.le_of_not_gt hgt, rfl⟩)

/-- the new node is indexed, except that a cache of size 0 drops it at once (index written before the eviction) -/
theorem lookup_insertNew_self (c : Cfg) (m : Mem) (n : Node) :
    (m.insertNew c n).lookup n.key = some n ∨ (m.size = 0 ∧ (m.insertNew c n).lookup n.key = m.lookup n.key) := by
  rcases insertNew_cases c m n with ⟨hgt, e⟩ | ⟨_, _, e⟩ | ⟨_, e⟩ <;> rw [e]
  · cases hl : m.live with
    | nil => right; rw [hl] at hgt; exact ⟨by simpa using hgt, by simp [Mem.lookup, hl, findKey]⟩
    | cons b l => left; simp [Mem.lookup, findKey]
  · left; simp [Mem.lookup, findKey]
  · left; simp [Mem.lookup, findKey]

/-- while the list is not full the node is just pushed to the front, whatever the source does when it is -/
theorem lookup_insertNew_room (c : Cfg) {m : Mem} (h : m.live.length < m.size) (n : Node) (k' : Key) :
    (m.insertNew c n).lookup k' = if k' = n.key then some n else m.lookup k' := by
  have hnot : ¬ (m.live.length + 1 > m.size) := by omega
  by_cases hk : k' = n.key
  · simp [Mem.insertNew, hnot, Mem.lookup, findKey, hk]
  · have hk' : ¬ n.key = k' := fun e => hk e.symm
    simp [Mem.insertNew, hnot, Mem.lookup, findKey, hk, hk']

/-- the key index never lists a key twice (list and ghosts together) -/
def WF (m : Mem) : Prop := (keys m.live ++ keys m.ghost).Nodup

theorem wf_iff {m : Mem} : WF m ↔ (keys m.live).Nodup ∧ (keys m.ghost).Nodup ∧
    ∀ a, a ∈ keys m.live → a ∉ keys m.ghost := by
  unfold WF
  rw [List.nodup_append]
  constructor
  · rintro ⟨h1, h2, h3⟩; exact ⟨h1, h2, fun a ha hb => h3 a ha a hb rfl⟩
  · rintro ⟨h1, h2, h3⟩; exact ⟨h1, h2, fun a ha b hb e => h3 a ha (e ▸ hb)⟩

/-- a node under another key is not put there by the insertion: it was indexed before. The evicted tail cannot
    uncover a ghost of the same key, since no key is indexed twice. -/
theorem lookup_insertNew_ne {c : Cfg} {m : Mem} (hwf : WF m) {n x : Node} {k' : Key} (hk : k' ≠ n.key)
    (h : (m.insertNew c n).lookup k' = some x) : m.lookup k' = some x := by
  have hk' : ¬ n.key = k' := fun e => hk e.symm
  rcases insertNew_cases c m n with ⟨_, e⟩ | ⟨hl, _, e⟩ | ⟨_, e⟩ <;> rw [e] at h
  · unfold Mem.lookup at h ⊢
    simp only at h
    split at h
    · rename_i y hy
      have := findKey_dropLast hy
      simp only [findKey, hk', if_false] at this
      rw [this]; exact h
    · cases hl : findKey k' m.live with
      | none => exact h
      | some z => exact absurd (mem_keys_of_findKey h) ((wf_iff.1 hwf).2.2 k' (mem_keys_of_findKey hl))
  · simpa [Mem.lookup, findKey, hk', hl] using h
  · simpa [Mem.lookup, findKey, hk'] using h

end Nv.C05
