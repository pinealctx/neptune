import Nv.Proofs.C05Rds
/-! C05 — Clear over a paged SCAN: consuming every page deletes every key, whatever the paging. -/
namespace Nv.C05
theorem mem_delPage {pg : List Key} {st : List REntry} {e : REntry}
    (h : e ∈ pg.foldl (fun st k => rErase k st) st) : e ∈ st ∧ e.key ∉ pg := by
  induction pg generalizing st with
  | nil => exact ⟨h, by simp⟩
  | cons k pg ih =>
    simp only [List.foldl_cons] at h
    have h1 := ih h
    have h2 := mem_rErase.1 h1.1
    refine ⟨h2.1, ?_⟩
    simp only [List.mem_cons, not_or]
    exact ⟨h2.2, h1.2⟩

theorem mem_clearPages {pages : List (List Key)} {st : List REntry} {e : REntry}
    (h : e ∈ clearPages pages st) : e ∈ st ∧ ∀ pg ∈ pages, e.key ∉ pg := by
  induction pages generalizing st with
  | nil => exact ⟨h, by simp⟩
  | cons pg pages ih =>
    simp only [clearPages, List.foldl_cons] at h
    have h1 := ih (st := pg.foldl (fun st k => rErase k st) st) h
    have h2 := mem_delPage h1.1
    refine ⟨h2.1, ?_⟩
    intro q hq
    rcases List.mem_cons.1 hq with e1 | e1
    · subst e1; exact h2.2
    · exact h1.2 q e1

/-- whatever the page sizes (short and empty pages included): if every stored key is returned by some page — the
    guarantee of a SCAN iteration followed to cursor 0 — the iterator loop leaves nothing -/
theorem clearPages_covering (pages : List (List Key)) (st : List REntry)
    (hcov : ∀ e ∈ st, ∃ pg ∈ pages, e.key ∈ pg) : clearPages pages st = [] := by
  cases hr : clearPages pages st with
  | nil => rfl
  | cons e rest =>
    have hm : e ∈ clearPages pages st := by rw [hr]; exact List.mem_cons_self
    obtain ⟨h1, h2⟩ := mem_clearPages hm
    obtain ⟨pg, hpg, hk⟩ := hcov e h1
    exact absurd hk (h2 pg hpg)

end Nv.C05
