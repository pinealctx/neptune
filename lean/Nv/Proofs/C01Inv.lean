import Nv.Proofs.C01Sem
/-!
C01 — one key under the repaired delete guard, then the map (`Key → KS`) and the sharded maps.

Under that guard a key never has orphaned objects, so its callers share one object, `KS.sem` (the empty one
while the map has no entry), and every step of the key is the corresponding operation on that object
(`acquire_eq`, `release_eq`, `cancel_eq`, summed up in `kstep_sem`). The invariants `KInv` (numeric) and `KInv2`
(weights and caller ids) are proved on it, once for all reachable states of the map (`reach_inv`).
-/
namespace Nv.C01

/-- the object the callers of a key share: the one in the map, the empty one while there is no entry -/
def KS.sem (s : KS) : Sem := s.live.getD ⟨0, [], []⟩

def Sem.step (rw : Nat) (o : Sem) : Act → Sem
  | .acquire t _ wr => o.acquire rw t (weight rw wr)
  | .release t _ => o.release rw t
  | .cancel t _ => o.cancel rw t

theorem holders_sem {s : KS} (h : s.orphans = []) : s.holders = s.sem.holders := by
  obtain ⟨live, orphans⟩ := s
  obtain rfl : orphans = [] := h
  cases live <;> simp [KS.holders, KS.objs, KS.sem]

theorem waiters_sem {s : KS} (h : s.orphans = []) : s.waiters = s.sem.waiters := by
  obtain ⟨live, orphans⟩ := s
  obtain rfl : orphans = [] := h
  cases live <;> simp [KS.waiters, KS.objs, KS.sem]

structure KInv (size : Nat) (s : KS) : Prop where
  orphans : s.orphans = []
  ok : SemOk size s.sem
  held : s.present = true → 0 < s.sem.cur

theorem KInv.init (size : Nat) : KInv size KS.init := ⟨rfl, empty_ok size, nofun⟩

theorem KInv.holders_ne_nil {size : Nat} {s : KS} (h : KInv size s) (hpos : 0 < s.sem.cur) : s.holders ≠ [] := by
  intro hnil
  rw [h.ok.cur_eq, ← holders_sem h.orphans, hnil] at hpos
  exact Nat.lt_irrefl 0 hpos

theorem weight_bounds (rw : Nat) (hrw : 1 ≤ rw) (wr : Bool) : 1 ≤ weight rw wr ∧ weight rw wr ≤ rw := by
  cases wr
  · exact ⟨Nat.le_refl 1, hrw⟩
  · exact ⟨hrw, Nat.le_refl rw⟩

theorem weight_cases (rw : Nat) (wr : Bool) : weight rw wr = 1 ∨ weight rw wr = rw := by
  cases wr
  · exact Or.inl rfl
  · exact Or.inr rfl

theorem acquire_eq (size : Nat) (s : KS) (t : Tid) (n : Nat) :
    s.acquire size t n = { s with live := some (s.sem.acquire size t n) } := by
  obtain ⟨live, orphans⟩ := s
  cases live <;> rfl

/-- release by a holder: the entry disappears exactly when nobody is left on its object -/
theorem release_eq (size : Nat) (s : KS) (t : Tid) (h : KInv size s) (hen : s.holds t = true) :
    s.release size .emptyAndIdle t =
      ⟨if (s.sem.release size t).cur = 0 then none else some (s.sem.release size t), []⟩ := by
  have hh := holders_sem h.orphans
  obtain ⟨live, orphans⟩ := s
  obtain rfl : orphans = [] := h.orphans
  cases live with
  | none => rw [KS.holds, hh] at hen; cases hen
  | some o =>
    have hin : holdsIn t o = true := by rw [KS.holds, hh] at hen; exact hen
    have hok : SemOk size (o.release size t) := release_ok size o t h.ok
    simp only [KS.release, hin, if_true]
    show _ = (⟨if (o.release size t).cur = 0 then none else some (o.release size t), []⟩ : KS)
    by_cases hz : (o.release size t).cur = 0
    · -- everybody left: the guard holds, and the deleted object is referenced by nobody
      rw [if_pos hz, SemOk.eq_empty hok hz]
      rfl
    · have hg : guardOk .emptyAndIdle (o.release size t) = false := by simp [guardOk, hz]
      rw [if_neg hz, hg]
      rfl

theorem cancel_eq (size : Nat) (s : KS) (t : Tid) (h : s.orphans = []) :
    s.cancel size t = if s.waits t = true then ⟨some (s.sem.cancel size t), []⟩ else s := by
  have hw := waiters_sem h
  obtain ⟨live, orphans⟩ := s
  obtain rfl : orphans = [] := h
  cases live with
  | none => rfl
  | some o =>
    rw [KS.waits, hw]
    show (if waitsIn t o = true then _ else _) = if waitsIn t o = true then _ else _
    cases waitsIn t o <;> rfl

theorem kstep_sem (c : Cfg) (hc : Proved c) (rw : Nat) (hrw : 1 ≤ rw) (s : KS) (a : Act)
    (h : KInv rw s) (hen : s.enabled a = true) :
    KInv rw (s.step c rw a) ∧ (s.step c rw a).sem = s.sem.step rw a := by
  cases a with
  | acquire t k wr =>
    have hb := weight_bounds rw hrw wr
    show KInv rw (s.acquire rw t _) ∧ (s.acquire rw t _).sem = s.sem.acquire rw t _
    rw [acquire_eq]
    exact ⟨⟨h.orphans, acquire_ok rw _ t _ hb.1 hb.2 h.ok, fun _ => acquire_cur_pos rw _ t _ hb.1 hb.2 h.ok⟩, rfl⟩
  | release t k =>
    have hok := release_ok rw s.sem t h.ok
    show KInv rw (s.release rw c.guard t) ∧ (s.release rw c.guard t).sem = s.sem.release rw t
    rw [show c.guard = .emptyAndIdle from hc, release_eq rw s t h hen]
    by_cases hz : (s.sem.release rw t).cur = 0
    · rw [if_pos hz]
      exact ⟨KInv.init rw, (hok.eq_empty hz).symm⟩
    · rw [if_neg hz]
      exact ⟨⟨rfl, hok, fun _ => Nat.pos_of_ne_zero hz⟩, rfl⟩
  | cancel t k =>
    show KInv rw (s.cancel rw t) ∧ (s.cancel rw t).sem = s.sem.cancel rw t
    rw [cancel_eq rw s t h.orphans]
    cases hw : s.waits t with
    | true =>
      rw [KS.waits, waiters_sem h.orphans] at hw
      have hpos : 0 < s.sem.cur := h.ok.cur_pos_of_waiters (fun hnil => by rw [hnil] at hw; cases hw)
      exact ⟨⟨rfl, cancel_ok rw _ t h.ok, fun _ => Nat.lt_of_lt_of_le hpos (cancel_cur_ge rw _ t h.ok)⟩, rfl⟩
    | false =>
      rw [KS.waits, waiters_sem h.orphans] at hw
      exact ⟨h, (cancel_not_waiting rw _ t h.ok hw).symm⟩

/-- `kstep_sem` told through the lists alone: some sound object has the key's holders and queue, and its step has
    the key's holders and queue afterwards -/
theorem kstep_lists (c : Cfg) (hc : Proved c) (rw : Nat) (hrw : 1 ≤ rw) (s : KS) (a : Act)
    (h : KInv rw s) (hen : s.enabled a = true) :
    ∃ o, SemOk rw o ∧ s.holders = o.holders ∧ s.waiters = o.waiters ∧
      (s.step c rw a).holders = (o.step rw a).holders ∧ (s.step c rw a).waiters = (o.step rw a).waiters := by
  obtain ⟨h', hs⟩ := kstep_sem c hc rw hrw s a h hen
  exact ⟨s.sem, h.ok, holders_sem h.orphans, waiters_sem h.orphans, hs ▸ holders_sem h'.orphans,
    hs ▸ waiters_sem h'.orphans⟩

def KS.all (s : KS) : List W := s.holders ++ s.waiters

/-- an acquire appends its caller to that list (to the holders if nobody waits, else to the queue); release and
    cancel remove callers and hand a prefix of the queue over to the holders: nobody joins, the order stays -/
theorem kstep_all (c : Cfg) (hc : Proved c) (rw : Nat) (hrw : 1 ≤ rw) (s : KS) (a : Act)
    (h : KInv rw s) (hen : s.enabled a = true) :
    match a with
    | .acquire t _ wr => (s.step c rw a).all = s.all ++ [(t, weight rw wr)]
    | _ => (s.step c rw a).all.Sublist s.all := by
  obtain ⟨o, hok, e1, e2, e3, e4⟩ := kstep_lists c hc rw hrw s a h hen
  unfold KS.all
  rw [e1, e2, e3, e4]
  cases a with
  | acquire t k wr => exact acquire_all rw o t _ (weight_bounds rw hrw wr).2
  | release t k => exact release_sublist rw o t
  | cancel t k => exact cancel_sublist rw o t hok

def KInv2 (rw : Nat) (s : KS) : Prop :=
  (∀ x ∈ s.all, x.2 = 1 ∨ x.2 = rw) ∧ (s.all.map (·.1)).Nodup

theorem KInv2.init (rw : Nat) : KInv2 rw KS.init := ⟨nofun, List.nodup_nil⟩

theorem any_fst_iff (l : List W) (t : Tid) : l.any (·.1 == t) = true ↔ t ∈ l.map (·.1) := by
  rw [List.any_eq_true, List.mem_map]
  exact exists_congr fun x => and_congr_right fun _ => beq_iff_eq

theorem not_listed_not_mem (s : KS) (t : Tid) (h : s.listed t = false) : t ∉ s.all.map (·.1) :=
  fun hm => Bool.false_ne_true (h.symm.trans (List.any_append.symm.trans ((any_fst_iff s.all t).2 hm)))

theorem kstep_inv2 (c : Cfg) (hc : Proved c) (rw : Nat) (hrw : 1 ≤ rw) (s : KS) (a : Act)
    (hen : s.enabled a = true) (h : KInv rw s) (h2 : KInv2 rw s) : KInv2 rw (s.step c rw a) := by
  obtain ⟨hwt, hnd⟩ := h2
  cases a with
  | acquire t k wr =>
    have hall : (s.step c rw (.acquire t k wr)).all = s.all ++ [(t, weight rw wr)] :=
      kstep_all c hc rw hrw s _ h hen
    have hfresh : t ∉ s.all.map (·.1) := not_listed_not_mem s t (by simpa [KS.enabled] using hen)
    rw [KInv2, hall, List.map_append, List.nodup_append]
    exact ⟨List.forall_mem_append.2 ⟨hwt, List.forall_mem_singleton.2 (weight_cases rw wr)⟩, hnd,
      List.pairwise_singleton _ _, fun a ha b hb hab => hfresh ((List.mem_singleton.1 hb : b = t) ▸ hab ▸ ha)⟩
  | _ =>
    have hall := kstep_all c hc rw hrw s _ h hen
    exact ⟨fun x hx => hwt x (hall.subset hx), (hall.map _).nodup hnd⟩

theorem upd_same (s : State) (k : Key) (v : KS) : upd s k v k = v := if_pos rfl
theorem upd_other (s : State) (k k' : Key) (v : KS) (h : k' ≠ k) : upd s k v k' = s k' := if_neg h

theorem step_some (c : Cfg) (rw : Nat) (s s' : State) (a : Act) (h : step c rw s a = some s') :
    (s a.key).enabled a = true ∧ s' = upd s a.key ((s a.key).step c rw a) := by
  unfold step at h
  split at h
  · next he => cases h; exact ⟨he, rfl⟩
  · cases h

theorem step_other_key (c : Cfg) (rw : Nat) (s s' : State) (a : Act) (h : step c rw s a = some s')
    (k : Key) (hk : k ≠ a.key) : s' k = s k := by
  obtain ⟨_, rfl⟩ := step_some c rw s s' a h
  exact upd_other _ _ _ _ hk

theorem step_this_key (c : Cfg) (rw : Nat) (s s' : State) (a : Act) (h : step c rw s a = some s') :
    s' a.key = (s a.key).step c rw a := by
  obtain ⟨_, rfl⟩ := step_some c rw s s' a h
  exact upd_same _ _ _

theorem reach_inv (c : Cfg) (hc : Proved c) (rw : Nat) (hrw : 1 ≤ rw) :
    ∀ s, (M c rw).Reach s → ∀ k, KInv rw (s k) ∧ KInv2 rw (s k) := by
  apply LTS.inv_of_step (M c rw) (fun s => ∀ k, KInv rw (s k) ∧ KInv2 rw (s k))
  · exact fun _ => ⟨KInv.init rw, KInv2.init rw⟩
  · intro s a s' hinv hstep k
    obtain ⟨hen, rfl⟩ := step_some c rw s s' a hstep
    by_cases hk : k = a.key
    · subst hk
      rw [upd_same]
      exact ⟨(kstep_sem c hc rw hrw _ a (hinv _).1 hen).1, kstep_inv2 c hc rw hrw _ a hen (hinv _).1 (hinv _).2⟩
    · rw [upd_other _ _ _ _ hk]
      exact hinv k

theorem step_lists (c : Cfg) (hc : Proved c) (rw : Nat) (hrw : 1 ≤ rw) (s : State) (hr : (M c rw).Reach s)
    (a : Act) (s' : State) (hstep : step c rw s a = some s') (k : Key) (hk : a.key = k) :
    ∃ o, SemOk rw o ∧ (s k).holders = o.holders ∧ (s k).waiters = o.waiters ∧
      (s' k).holders = (o.step rw a).holders ∧ (s' k).waiters = (o.step rw a).waiters := by
  obtain ⟨hen, rfl⟩ := step_some c rw s s' a hstep
  subst hk
  rw [upd_same]
  exact kstep_lists c hc rw hrw _ a (reach_inv c hc rw hrw s hr _).1 hen

theorem reach_map {σ α τ β : Type} (m : LTS σ α) (n : LTS τ β) (f : σ → τ) (h0 : f m.init = n.init)
    (hs : ∀ s a s', m.step s a = some s' → f s' = f s ∨ ∃ b, n.step (f s) b = some (f s')) :
    ∀ s, m.Reach s → n.Reach (f s) := by
  apply LTS.inv_of_step m (fun s => n.Reach (f s))
  · exact h0 ▸ LTS.Reach.init
  · intro s a s' hinv hstep
    rcases hs s a s' hstep with h | ⟨b, h⟩
    · exact h ▸ hinv
    · exact LTS.Reach.step hinv h

theorem wstep_some (c : Cfg) (rw : Nat) (idx : Key → Nat) (ws ws' : WState) (a : Act)
    (h : wstep c rw idx ws a = some ws') :
    ∃ s', step c rw (ws (idx a.key)) a = some s' ∧ ws' = wupd ws (idx a.key) s' := by
  unfold wstep at h
  split at h
  · cases h
  · next s' hs => cases h; exact ⟨s', hs, rfl⟩

/-- a step of the sharded map touches one key in one shard -/
theorem wstep_frame (c : Cfg) (rw : Nat) (idx : Key → Nat) (ws ws' : WState) (a : Act)
    (h : wstep c rw idx ws a = some ws') (i : Nat) (k : Key) (hne : i = idx a.key → k ≠ a.key) :
    ws' i k = ws i k := by
  obtain ⟨s', hs, rfl⟩ := wstep_some c rw idx ws ws' a h
  unfold wupd
  split
  · next hi => rw [hi, step_other_key c rw _ s' a hs k (hne hi)]
  · rfl

theorem wide_other_shard_untouched (c : Cfg) (rw : Nat) (idx : Key → Nat) :
    ∀ ws, (MW c rw idx).Reach ws → ∀ i k, i ≠ idx k → ws i k = KS.init := by
  apply LTS.inv_of_step (MW c rw idx) (fun ws => ∀ i k, i ≠ idx k → ws i k = KS.init)
  · exact fun _ _ _ => rfl
  · intro ws a ws' hinv hstep i k hik
    rw [wstep_frame c rw idx ws ws' a hstep i k (fun hi hk => hik (hk ▸ hi))]
    exact hinv i k hik

theorem wstepR_some (c : Cfg) (rw : Nat) (idx : Key → Nat) (routable : Key → Bool) (ws ws' : WState) (a : Act)
    (h : wstepR c rw idx routable ws a = some ws') : routable a.key = true ∧ wstep c rw idx ws a = some ws' := by
  unfold wstepR at h
  split at h
  · next hr => exact ⟨hr, h⟩
  · cases h

theorem wideR_reach (c : Cfg) (rw : Nat) (idx : Key → Nat) (routable : Key → Bool) :
    ∀ ws, (MWR c rw idx routable).Reach ws → (MW c rw idx).Reach ws :=
  reach_map (MWR c rw idx routable) (MW c rw idx) id rfl
    fun ws a ws' hstep => Or.inr ⟨a, (wstepR_some c rw idx routable ws ws' a hstep).2⟩

theorem wideR_unroutable_untouched (c : Cfg) (rw : Nat) (idx : Key → Nat) (routable : Key → Bool) :
    ∀ ws, (MWR c rw idx routable).Reach ws → ∀ k, routable k = false → ∀ i, ws i k = KS.init := by
  apply LTS.inv_of_step (MWR c rw idx routable) (fun ws => ∀ k, routable k = false → ∀ i, ws i k = KS.init)
  · exact fun _ _ _ => rfl
  · intro ws a ws' hinv hstep k hk i
    obtain ⟨hr, hw⟩ := wstepR_some c rw idx routable ws ws' a hstep
    rw [wstep_frame c rw idx ws ws' a hw i k (fun _ hka => by rw [hka, hr] at hk; cases hk)]
    exact hinv k hk i

theorem pure_router_reach {ρ : Type} (c : Cfg) (rw : Nat) (R : Router ρ) (r0 : ρ) (idx : Key → Nat)
    (hp : R.Pure idx) : ∀ s, (MWH c rw R r0).Reach s → (MW c rw idx).Reach s.1 := by
  refine reach_map (MWH c rw R r0) (MW c rw idx) Prod.fst rfl fun s a s' hst => ?_
  have h : hstep c rw R s a = some s' := hst
  cases a with
  | other => cases h; exact Or.inl rfl
  | act a =>
    -- the shard the router names is the one `idx` names, so the shards move as `wstep` moves them
    have hw : (hstep c rw R s (.act a)).map Prod.fst = wstep c rw idx s.1 a := by
      rw [Nv.C01.hstep, wstep, hp s.2 a.key]
      cases step c rw (s.1 (idx a.key)) a <;> rfl
    exact Or.inr ⟨a, hw.symm.trans (congrArg (Option.map Prod.fst) h)⟩

theorem wide_step_proj (c : Cfg) (rw : Nat) (idx : Key → Nat) (ws ws' : WState) (a : Act)
    (h : wstep c rw idx ws a = some ws') : step c rw (wproj idx ws) a = some (wproj idx ws') := by
  obtain ⟨s', hs, hws⟩ := wstep_some c rw idx ws ws' a h
  have hen : ((wproj idx ws) a.key).enabled a = true := (step_some c rw _ s' a hs).1
  rw [step, if_pos hen]
  congr 1
  funext k
  by_cases hk : k = a.key
  · -- the key of the step: its shard holds what the step made of it
    rw [hk, upd_same]
    show _ = ws' (idx a.key) a.key
    rw [hws, wupd, if_pos rfl, step_this_key c rw _ s' a hs]
    rfl
  · rw [upd_other _ _ _ _ hk]
    exact (wstep_frame c rw idx ws ws' a h (idx k) k (fun _ => hk)).symm

theorem wide_refines_single (c : Cfg) (rw : Nat) (idx : Key → Nat) :
    ∀ ws, (MW c rw idx).Reach ws → (M c rw).Reach (wproj idx ws) :=
  reach_map (MW c rw idx) (M c rw) (wproj idx) rfl
    fun ws a ws' hstep => Or.inr ⟨a, wide_step_proj c rw idx ws ws' a hstep⟩

end Nv.C01
