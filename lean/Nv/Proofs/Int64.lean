/-!
Go's `int64` as `BitVec 64`, as far as the slot computations of C14, C15 and C17 need it: the remainder `%`
(`BitVec.srem`) of a positive divisor lies strictly between `-s` and `s`, so negating it cannot overflow; and
`int64(n)` is `n` for `n < 2^63`.
-/
namespace Nv

theorem srem_bounds (i s : BitVec 64) (hs : 0 < s.toInt) :
    -s.toInt < (i.srem s).toInt ∧ (i.srem s).toInt < s.toInt := by
  rw [BitVec.toInt_srem]
  have h2 := Int.tmod_lt_of_pos (-i.toInt) hs
  rw [Int.neg_tmod] at h2
  exact ⟨Int.neg_lt_of_neg_lt h2, Int.tmod_lt_of_pos _ hs⟩

theorem neg_toInt_of_srem_neg (i s : BitVec 64) (hs : 0 < s.toInt) :
    (-(i.srem s)).toInt = -(i.srem s).toInt := by
  -- the remainder is not the minimum integer, the one value whose negation wraps
  refine BitVec.toInt_neg_of_ne_intMin fun h => ?_
  have hb := srem_bounds i s hs
  have hsb := BitVec.toInt_lt (x := s)
  rw [h, BitVec.toInt_intMin] at hb
  omega

theorem toInt_ofNat_small (n : Nat) (h : n < 2^63) : (BitVec.ofNat 64 n).toInt = (n : Int) := by
  have h1 : (BitVec.ofNat 64 n).toNat = n := Nat.mod_eq_of_lt (by omega)
  rw [BitVec.toInt_eq_toNat_of_lt (by omega), h1]

end Nv
