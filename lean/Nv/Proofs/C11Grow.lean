import Nv.Model.C11
import Nv.Spec.C11
/-! C11 — storage invariant of the implementation model and what the growth paths preserve. -/
namespace Nv.C11

structure Inv (s : St) : Prop where
  off_le : s.off ≤ s.buf.length
  len_le : s.buf.length ≤ s.cap
  cap_le : s.cap ≤ allocLimit
  nil_cap : s.isNil = true → s.cap = 0

theorem inv_reset {s : St} (h : Inv s) : Inv (reset s) :=
  ⟨Nat.le_refl 0, Nat.zero_le _, h.cap_le, h.nil_cap⟩

theorem inv_lastRead {s : St} (h : Inv s) (x : Int) : Inv { s with lastRead := x } :=
  ⟨h.off_le, h.len_le, h.cap_le, h.nil_cap⟩

@[simp] theorem zeros_length (n : Nat) : (zeros n).length = n := by simp [zeros]

/-- what a successful growth step guarantees: the unread bytes sit in front of index `m`, `n` fresh bytes follow -/
structure Grown (s s' : St) (n m : Nat) : Prop where
  inv : Inv s'
  off_le : s'.off ≤ m
  len : s'.buf.length = m + n
  data : (s'.buf.take m).drop s'.off = s.buf.drop s.off
  last : s'.lastRead = s.lastRead ∨ s'.lastRead = 0

structure Kept (s s' : St) : Prop where
  inv : Inv s'
  data : s'.buf.drop s'.off = s.buf.drop s.off
  last : s'.lastRead = s.lastRead ∨ s'.lastRead = 0

theorem last_trans {a b c : Int} (h : b = a ∨ b = 0) (h' : c = b ∨ c = 0) : c = a ∨ c = 0 := by
  rcases h' with l | l
  · rw [l]; exact h
  · exact Or.inr l

theorem kept_trans {s s1 s' : St} (k : Kept s s1) (k' : Kept s1 s') : Kept s s' :=
  ⟨k'.inv, k'.data.trans k.data, last_trans k.last k'.last⟩

def GrowsTo (s s' : St) (n : Nat) : Option Nat → Prop
  | some m => Grown s s' n m
  | none => Kept s s'

theorem growsTo_of_kept {s s1 s' : St} {n : Nat} {r : Option Nat} (k : Kept s s1) (g : GrowsTo s1 s' n r) :
    GrowsTo s s' n r := by
  cases r with
  | none => exact kept_trans k g
  | some m =>
    have g : Grown s1 s' n m := g
    exact ⟨g.inv, g.off_le, g.len, g.data.trans k.data, last_trans k.last g.last⟩

theorem reslice_grown {s s' : St} {n m : Nat} (h : Inv s) (hr : tryGrowByReslice s n = some (s', m)) :
    Grown s s' n m := by
  unfold tryGrowByReslice at hr
  split at hr
  · rename_i hle
    obtain ⟨rfl, rfl⟩ := Prod.mk.inj (Option.some.inj hr)
    have hl : (s.buf ++ zeros n).length = s.buf.length + n := by rw [List.length_append, zeros_length]
    refine ⟨⟨?_, ?_, h.cap_le, h.nil_cap⟩, h.off_le, hl, ?_, Or.inl rfl⟩
    · show s.off ≤ (s.buf ++ zeros n).length
      rw [hl]
      exact Nat.le_trans h.off_le (Nat.le_add_right _ _)
    · show (s.buf ++ zeros n).length ≤ s.cap
      rw [hl]
      exact Nat.add_le_of_le_sub' h.len_le hle
    · show ((s.buf ++ zeros n).take s.buf.length).drop s.off = s.buf.drop s.off
      rw [List.take_left]
  · cases hr

theorem slideOk_le {c : Cfg} {n cp m : Nat} (h : slideOk c n cp m = true) : n + m ≤ cp := by
  unfold slideOk at h
  split at h <;> simp at h <;> omega

theorem moved_grown {s : St} {n cp : Nat} {nl : Bool} (hfit : s.buf.length - s.off + n ≤ cp)
    (hcp : cp ≤ allocLimit) (hnl : nl = true → cp = 0) :
    Grown s ⟨s.buf.drop s.off ++ zeros n, 0, cp, s.lastRead, nl⟩ n (s.buf.length - s.off) := by
  have hlen : (s.buf.drop s.off ++ zeros n).length = s.buf.length - s.off + n := by simp
  refine ⟨⟨Nat.zero_le _, hlen ▸ hfit, hcp, hnl⟩, Nat.zero_le _, hlen, ?_, Or.inl rfl⟩
  show ((s.buf.drop s.off ++ zeros n).take (s.buf.length - s.off)).drop 0 = s.buf.drop s.off
  rw [List.drop_zero, ← List.length_drop, List.take_left]

/-- `hs` is conditional: the bound on `smallBufferSize` is needed only where growth succeeds -/
theorem grow_spec {c : Cfg} {s s' : St} {n : Nat} {r : Option Nat} (hs : r ≠ none → c.small ≤ allocLimit) (h : Inv s)
    (hg : grow c s n = (s', r)) : GrowsTo s s' n r := by
  unfold grow at hg
  simp only at hg
  -- `s1` is the state after the reset-if-empty prologue; it has as many unread bytes as `s`
  generalize hs1 : (if s.buf.length - s.off = 0 ∧ s.off ≠ 0 then reset s else s) = s1 at hg
  have k : Kept s s1 ∧ s.buf.length - s.off = s1.buf.length - s1.off := by
    subst hs1
    split
    · rename_i he
      exact ⟨⟨inv_reset h, (List.drop_eq_nil_of_le (Nat.le_of_sub_eq_zero he.1)).symm, Or.inr rfl⟩, he.1⟩
    · exact ⟨⟨h, rfl, Or.inl rfl⟩, rfl⟩
  rw [k.2] at hg
  have h1 := k.1.inv.off_le; have h2 := k.1.inv.len_le; have h3 := k.1.inv.cap_le
  apply growsTo_of_kept k.1
  by_cases hfit : n ≤ s1.cap - s1.buf.length
  · rw [show tryGrowByReslice s1 n = some _ from if_pos hfit] at hg
    obtain ⟨rfl, rfl⟩ := Prod.mk.inj hg
    exact reslice_grown k.1.inv (if_pos hfit)
  rw [show tryGrowByReslice s1 n = none from if_neg hfit] at hg
  simp only at hg
  by_cases hnil : s1.isNil = true ∧ n ≤ c.small
  · rw [if_pos hnil] at hg
    obtain ⟨rfl, rfl⟩ := Prod.mk.inj hg
    -- a nil slice is empty and nothing of it has been read
    have hb : s1.buf = [] := List.eq_nil_of_length_eq_zero (Nat.le_zero.1 (k.1.inv.nil_cap hnil.1 ▸ h2))
    have ho : s1.off = 0 := by rw [hb] at h1; exact Nat.le_zero.1 h1
    refine ⟨⟨?_, ?_, hs (Option.some_ne_none 0), fun hf => nomatch hf⟩, Nat.le_of_eq ho, ?_, ?_, Or.inl rfl⟩
    · show s1.off ≤ (zeros n).length
      rw [ho]
      exact Nat.zero_le _
    · show (zeros n).length ≤ c.small
      rw [zeros_length]
      exact hnil.2
    · show (zeros n).length = 0 + n
      rw [zeros_length, Nat.zero_add]
    · show ((zeros n).take 0).drop s1.off = s1.buf.drop s1.off
      rw [hb, List.take_zero, List.drop_nil]
  rw [if_neg hnil] at hg
  by_cases hsl : slideOk c n s1.cap (s1.buf.length - s1.off) = true
  · rw [if_pos hsl] at hg
    obtain ⟨rfl, rfl⟩ := Prod.mk.inj hg
    exact moved_grown (Nat.add_comm _ _ ▸ slideOk_le hsl) h3 k.1.inv.nil_cap
  rw [if_neg hsl] at hg
  by_cases hmax : s1.cap + s1.cap + n > maxInt
  · rw [if_pos hmax] at hg
    obtain ⟨rfl, rfl⟩ := Prod.mk.inj hg
    exact ⟨k.1.inv, rfl, Or.inl rfl⟩
  rw [if_neg hmax] at hg
  by_cases hlim : 2 * s1.cap + n > allocLimit
  · rw [if_pos hlim] at hg
    obtain ⟨rfl, rfl⟩ := Prod.mk.inj hg
    exact ⟨k.1.inv, rfl, Or.inl rfl⟩
  rw [if_neg hlim] at hg
  obtain ⟨rfl, rfl⟩ := Prod.mk.inj hg
  exact moved_grown (by omega) (Nat.le_of_not_gt hlim) (fun hf => nomatch hf)

theorem growFor_spec {c : Cfg} {s s' : St} {n : Nat} {r : Option Nat} (hs : r ≠ none → c.small ≤ allocLimit)
    (h : Inv s) (hg : growFor c s n = (s', r)) : GrowsTo s s' n r := by
  unfold growFor at hg
  split at hg
  · rename_i s2 i hr
    obtain ⟨rfl, rfl⟩ := Prod.mk.inj hg
    exact reslice_grown h hr
  · exact grow_spec hs h hg

theorem growFor_none {c : Cfg} {s s' : St} {n : Nat} (h : Inv s) (hg : growFor c s n = (s', none)) : Kept s s' :=
  growFor_spec (fun h => absurd rfl h) h hg

theorem grow_tooLarge {c : Cfg} (hs : c.small ≤ allocLimit) {s : St} {n : Nat} (h : Inv s) (hn : n > allocLimit) :
    (grow c s n).2 = none := by
  cases hg : grow c s n with
  | mk s' r =>
    cases r with
    | none => rfl
    | some m =>
      have g : Grown s s' n m := grow_spec (fun _ => hs) h hg
      have := g.len; have := g.inv.len_le; have := g.inv.cap_le
      omega

theorem store_grown {s s' : St} {n m : Nat} (g : Grown s s' n m) (p : Bytes) (hp : m + p.length ≤ s'.cap) :
    Inv { s' with buf := s'.buf.take m ++ p } ∧ (s'.buf.take m ++ p).drop s'.off = s.buf.drop s.off ++ p := by
  have h1 := g.off_le
  have hm : (s'.buf.take m).length = m := by rw [List.length_take, g.len, Nat.min_eq_left (Nat.le_add_right m n)]
  have hl : (s'.buf.take m ++ p).length = m + p.length := by rw [List.length_append, hm]
  refine ⟨⟨?_, hl ▸ hp, g.inv.cap_le, g.inv.nil_cap⟩, ?_⟩
  · show s'.off ≤ (s'.buf.take m ++ p).length
    rw [hl]
    exact Nat.le_trans h1 (Nat.le_add_right _ _)
  · rw [List.drop_append_of_le_length (by rw [hm]; exact h1), g.data]

/-- `b.buf = b.buf[:m]` after a successful growth -/
theorem cut_grown {s s' : St} {n m : Nat} (g : Grown s s' n m) : Kept s { s' with buf := s'.buf.take m } := by
  have k := store_grown g [] (Nat.le_trans (Nat.le_add_right m n) (g.len ▸ g.inv.len_le))
  simp only [List.append_nil] at k
  exact ⟨k.1, k.2, g.last⟩

end Nv.C11
