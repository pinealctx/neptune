import Nv.Model.C17
/-!
C17 — binary search returns the least index of a monotone predicate; the boundaries `y·(i+1)` (last
forced to 2^64−1) are strictly ascending; hence `SearchIndex` returns the least boundary `≥` the hash.
-/
namespace Nv.C17

theorem mid_bounds {i j : Nat} (h : i < j) : i ≤ (i + j) / 2 ∧ (i + j) / 2 < j := by omega

theorem bsearch_bounds (p : Nat → Bool) :
    ∀ (fuel i j : Nat), i ≤ j → i ≤ bsearch p fuel i j ∧ bsearch p fuel i j ≤ j := by
  intro fuel
  induction fuel with
  | zero => intro i j h; exact ⟨Nat.le_refl _, h⟩
  | succ f ih =>
    intro i j hij
    rw [bsearch]
    by_cases hlt : i < j
    · obtain ⟨h1, h2⟩ := mid_bounds hlt
      rw [if_pos hlt]
      generalize (i + j) / 2 = h at h1 h2 ⊢
      by_cases hp : p h = true
      · rw [if_pos hp]; exact ⟨(ih i h h1).1, Nat.le_trans (ih i h h1).2 (Nat.le_of_lt h2)⟩
      · rw [if_neg hp]; exact ⟨Nat.le_trans (Nat.le_succ_of_le h1) (ih (h + 1) j h2).1, (ih (h + 1) j h2).2⟩
    · rw [if_neg hlt]; exact ⟨Nat.le_refl _, hij⟩

theorem bsearch_spec (p : Nat → Bool) : ∀ (fuel i j : Nat), j ≤ i + fuel → i ≤ j →
    (∀ a b, i ≤ a → a ≤ b → b < j → p a = true → p b = true) →
    (∀ k, i ≤ k → k < bsearch p fuel i j → p k = false) ∧
      (∀ k, bsearch p fuel i j ≤ k → k < j → p k = true) := by
  intro fuel
  induction fuel with
  | zero =>
    intro i j hf hij _
    rw [bsearch]
    exact ⟨fun k hk hki => absurd hki (Nat.not_lt.2 hk),
      fun k hk hkj => absurd (Nat.lt_of_lt_of_le hkj hf) (Nat.not_lt.2 hk)⟩
  | succ f ih =>
    intro i j hf hij hmono
    rw [bsearch]
    by_cases hlt : i < j
    · obtain ⟨h1, h2⟩ := mid_bounds hlt
      rw [if_pos hlt]
      generalize (i + j) / 2 = h at h1 h2 ⊢
      by_cases hp : p h = true
      · -- search `[i, h)`; from `h` on the predicate holds by monotonicity
        rw [if_pos hp]
        obtain ⟨hlo, hhi⟩ := ih i h (Nat.le_of_lt_succ (Nat.lt_of_lt_of_le h2 hf)) h1
          (fun a b ha hab hb => hmono a b ha hab (Nat.lt_trans hb h2))
        refine ⟨hlo, fun k hk hkj => ?_⟩
        by_cases hkh : k < h
        · exact hhi k hk hkh
        · exact hmono h k h1 (Nat.le_of_not_lt hkh) hkj hp
      · -- search `[h+1, j)`; up to `h` the predicate fails by monotonicity
        rw [if_neg hp]
        obtain ⟨hlo, hhi⟩ := ih (h + 1) j (by omega) h2
          (fun a b ha hab hb => hmono a b (Nat.le_trans (Nat.le_succ_of_le h1) ha) hab hb)
        refine ⟨fun k hk hkr => ?_, hhi⟩
        by_cases hkh : h < k
        · exact hlo k hkh hkr
        · cases hpk : p k with
          | false => rfl
          | true => exact absurd (hmono k h hk (Nat.le_of_not_lt hkh) h2 hpk) hp
    · rw [if_neg hlt]
      exact ⟨fun k hk hki => absurd hki (Nat.not_lt.2 hk),
        fun k hk hkj => absurd (Nat.lt_of_le_of_lt hk hkj) hlt⟩

theorem bsearch_congr (p q : Nat → Bool) (N : Nat) (h : ∀ k, k < N → p k = q k) :
    ∀ (fuel i j : Nat), j ≤ N → bsearch p fuel i j = bsearch q fuel i j := by
  intro fuel
  induction fuel with
  | zero => intro i j _; rfl
  | succ f ih =>
    intro i j hj
    rw [bsearch, bsearch]
    by_cases hlt : i < j
    · obtain ⟨-, h2⟩ := mid_bounds hlt
      rw [if_pos hlt, if_pos hlt]
      dsimp only
      rw [h _ (Nat.lt_of_lt_of_le h2 hj), ih _ _ (Nat.le_trans (Nat.le_of_lt h2) hj), ih _ _ hj]
    · rw [if_neg hlt, if_neg hlt]

theorem yOf_pos (n : Nat) (h1 : 1 ≤ n) (h2 : n ≤ M64) : 1 ≤ yOf n :=
  (Nat.le_div_iff_mul_le h1).2 (by rwa [Nat.one_mul])

theorem yOf_mul_le (n : Nat) : yOf n * n ≤ M64 := Nat.div_mul_le_self M64 n

theorem npsRaw_eq (n i : Nat) (hi : i + 1 ≤ n) : npsRaw n i = yOf n * (i + 1) :=
  Nat.mod_eq_of_lt (Nat.lt_of_le_of_lt (Nat.le_trans (Nat.mul_le_mul_left _ hi) (yOf_mul_le n)) (by decide))

def cfgOk : Cfg := ⟨true, .ge⟩

theorem nps_last {c : Cfg} (hc : Proved c) (n : Nat) (h1 : 1 ≤ n) : nps c n (n - 1) = M64 := by
  simp [nps, hc.1, Nat.sub_add_cancel h1]

theorem nps_inner (c : Cfg) (n i : Nat) (hi : i + 1 < n) : nps c n i = yOf n * (i + 1) := by
  simp [nps, Nat.ne_of_lt hi, npsRaw_eq n i (Nat.le_of_lt hi)]

theorem nps_pred (c : Cfg) (n i : Nat) (h0 : 0 < i) (hi : i < n) : nps c n (i - 1) = yOf n * i := by
  rw [nps_inner c n (i - 1) (by rwa [Nat.sub_add_cancel h0]), Nat.sub_add_cancel h0]

theorem nps_bounds {c : Cfg} (hc : Proved c) (n i : Nat) (hi : i < n) :
    yOf n * (i + 1) ≤ nps c n i ∧ nps c n i ≤ M64 := by
  have hle : yOf n * (i + 1) ≤ M64 := Nat.le_trans (Nat.mul_le_mul_left _ hi) (yOf_mul_le n)
  by_cases h : i + 1 = n
  · have : nps c n i = M64 := by simp [nps, hc.1, h]
    rw [this]; exact ⟨hle, Nat.le_refl _⟩
  · rw [nps_inner c n i (Nat.lt_of_le_of_ne hi h)]; exact ⟨Nat.le_refl _, hle⟩

theorem nps_strict {c : Cfg} (hc : Proved c) (n : Nat) (h1 : 1 ≤ n) (h2 : n ≤ M64) (i j : Nat) (hij : i < j)
    (hj : j < n) : nps c n i < nps c n j := by
  rw [nps_inner c n i (Nat.lt_of_le_of_lt hij hj)]
  exact Nat.lt_of_lt_of_le (Nat.mul_lt_mul_of_pos_left (Nat.succ_lt_succ hij) (yOf_pos n h1 h2))
    (nps_bounds hc n j hj).1

theorem nps_mono {c : Cfg} (hc : Proved c) (n : Nat) (h1 : 1 ≤ n) (h2 : n ≤ M64) (i j : Nat) (hij : i ≤ j)
    (hj : j < n) : nps c n i ≤ nps c n j := by
  rcases Nat.lt_or_eq_of_le hij with h | rfl
  · exact Nat.le_of_lt (nps_strict hc n h1 h2 i j h hj)
  · exact Nat.le_refl _

theorem lowerBound_least (b : Nat → Nat) (n x : Nat) (h1 : 1 ≤ n) (hmono : ∀ i j, i ≤ j → j < n → b i ≤ b j)
    (hlast : x ≤ b (n - 1)) :
    bsearch (fun i => decide (b i ≥ x)) n 0 n < n ∧ x ≤ b (bsearch (fun i => decide (b i ≥ x)) n 0 n) ∧
      ∀ k, k < bsearch (fun i => decide (b i ≥ x)) n 0 n → b k < x := by
  obtain ⟨hlo, hhi⟩ := bsearch_spec (fun i => decide (b i ≥ x)) n 0 n (Nat.le_of_eq (Nat.zero_add n).symm)
    (Nat.zero_le n) (fun i j _ hij hj hi => decide_eq_true (Nat.le_trans (of_decide_eq_true hi) (hmono i j hij hj)))
  have hrn := (bsearch_bounds (fun i => decide (b i ≥ x)) n 0 n (Nat.zero_le n)).2
  generalize bsearch (fun i => decide (b i ≥ x)) n 0 n = r at hlo hhi hrn ⊢
  have hlt : r < n := by
    rcases Nat.lt_or_eq_of_le hrn with h | rfl
    · exact h
    · exact absurd (decide_eq_true hlast) (ne_true_of_eq_false (hlo (r - 1) (Nat.zero_le _) (Nat.sub_lt h1 Nat.one_pos)))
  exact ⟨hlt, of_decide_eq_true (hhi r (Nat.le_refl r) hlt),
    fun k hk => Nat.lt_of_not_le (of_decide_eq_false (hlo k (Nat.zero_le k) hk))⟩

/-- `SearchIndex` returns the least boundary index `≥ x`: the boundaries ascend and the last is 2^64−1, so
`sort.Search` stops below `n` and the clamp does nothing -/
theorem search_least {c : Cfg} (hc : Proved c) (n x : Nat) (h1 : 1 ≤ n) (h2 : n ≤ M64) (hx : x < 2 ^ 64) :
    searchIndex c n x < n ∧ x ≤ nps c n (searchIndex c n x) ∧ ∀ k, k < searchIndex c n x → nps c n k < x := by
  have h := lowerBound_least (nps c n) n x h1 (nps_mono hc n h1 h2)
    (by rw [nps_last hc n h1]; exact Nat.le_of_lt_succ hx)
  have hs : searchIndex c n x = bsearch (fun i => decide (nps c n i ≥ x)) n 0 n := by
    rw [searchIndex, searchWith, hc.2]
    exact if_neg (Nat.not_le.2 h.1)
  rw [hs]
  exact h

/-- when `ToBytes` has its `HitGroup` arm (`hit = true`), every key type the property lists can be hashed -/
theorem hashable_of_listed (k : Key) (hk : k.ty ≠ .other) : k.hashable true = true := by
  obtain ⟨ty, _, _, _⟩ := k
  cases ty <;> first | rfl | exact absurd rfl hk

end Nv.C17
