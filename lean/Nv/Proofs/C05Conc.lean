import Nv.Proofs.C05Mem
import Nv.Proofs.C05Rds
/-!
C05 — racing remove-after-get readers, as interleavings of atomic calls. The argument is the same for both caches:
the first read to run takes the value and leaves the key dead, and a read of a dead key misses and leaves it dead.
-/
namespace Nv.C05

theorem interleaving_mem {progs : List (List Op)} {sched : List Op} (h : Interleaving progs sched) :
    ∀ op ∈ sched, ∃ p ∈ progs, op ∈ p := by
  induction h with
  | done _ => intro op hop; cases hop
  | @step progs op rest sched i hi hp _ ih =>
    intro o ho
    have hmem : progs[i] ∈ progs := List.getElem_mem hi
    rcases List.mem_cons.1 ho with e | e
    · subst e; exact ⟨progs[i], hmem, by rw [hp]; exact List.mem_cons_self⟩
    · obtain ⟨p, hp', hop⟩ := ih o e
      rcases List.mem_or_eq_of_mem_set hp' with h1 | h1
      · exact ⟨p, h1, hop⟩
      · subst h1; exact ⟨progs[i], hmem, by rw [hp]; exact List.mem_cons_of_mem _ hop⟩

theorem outs_dead {σ : Type} {step : σ → Op → σ × Out} {Dead : σ → Prop} {Race : Op → Prop}
    (hstep : ∀ s op, Dead s → Race op → Dead (step s op).1 ∧ (step s op).2 = .notFound) :
    ∀ (sched : List Op) (s : σ), Dead s → (∀ op ∈ sched, Race op) →
      outs step s sched = List.replicate sched.length .notFound := by
  intro sched
  induction sched with
  | nil => intro _ _ _; rfl
  | cons op sched ih =>
    intro s hd hall
    obtain ⟨h1, h2⟩ := hstep s op hd (hall op (by simp))
    rw [outs_cons, h2, ih _ h1 (fun o ho => hall o (by simp [ho]))]
    rfl

theorem outs_race {σ : Type} {step : σ → Op → σ × Out} {Dead : σ → Prop} {Race : Op → Prop}
    (hstep : ∀ s op, Dead s → Race op → Dead (step s op).1 ∧ (step s op).2 = .notFound) {s : σ} {v : Val}
    (hfirst : ∀ op, Race op → Dead (step s op).1 ∧ (step s op).2 = .value v) {sched : List Op}
    (hall : ∀ op ∈ sched, Race op) (hne : sched ≠ []) :
    outs step s sched = .value v :: List.replicate (sched.length - 1) .notFound := by
  cases sched with
  | nil => exact absurd rfl hne
  | cons op rest =>
    obtain ⟨h1, h2⟩ := hfirst op (hall op (by simp))
    rw [outs_cons, h2, outs_dead hstep rest _ h1 (fun o ho => hall o (by simp [ho]))]
    rfl

theorem consume_race {c : Cfg} {k : Key} {n : Node} (s : MSys) (hl : s.mem.lookup k = some n)
    (he : expired (secOf s.clock) n.dl = false) {sched : List Op}
    (hall : ∀ op ∈ sched, ∃ u, op = .get k ⟨true, u⟩) (hne : sched ≠ []) :
    outs (MSys.step c) s sched = .value n.val :: List.replicate (sched.length - 1) .notFound := by
  refine outs_race (Dead := fun s => s.mem.lookup k = none) ?_ ?_ hall hne
  · rintro s _ hd ⟨u, rfl⟩
    rw [(msys_step_mem c s _).1, (msys_step_mem c s _).2, Mem.step, get_absent _ hd]
    exact ⟨hd, rfl⟩
  · rintro _ ⟨u, rfl⟩
    rw [(msys_step_mem c s _).1, (msys_step_mem c s _).2, Mem.step, get_consume hl he rfl]
    exact ⟨lookup_removeKey_self _ k, rfl⟩

theorem rds_consume_race {c : Cfg} {nowMs : Int} {k : Key} {e : REntry} (r : Rds) (hl : rLive nowMs k r.store = some e)
    {sched : List Op} (hall : ∀ op ∈ sched, op = .get k ⟨true, none⟩) (hne : sched ≠ []) :
    outs (fun r op => r.step c nowMs op) r sched = .value e.val :: List.replicate (sched.length - 1) .notFound := by
  refine outs_race (Dead := fun r => rLive nowMs k r.store = none) ?_ ?_ hall hne
  · rintro r _ hd rfl
    rw [Rds.step, rds_get_dead c _ hd]
    exact ⟨rLive_rErase nowMs k r.store, rfl⟩
  · rintro _ rfl
    rw [Rds.step, rds_get_consume c hl rfl]
    exact ⟨rLive_rErase nowMs k r.store, rfl⟩

end Nv.C05
