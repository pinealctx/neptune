import Nv.Proofs.C03RefInsert
/-!
C03 — refinement B → A, delete path: the three rebalancing moves of `growChildAndRemove` (with `freeNode` of the merged
sibling), `node.remove` and `deleteItem` on the store compute what `grow`, `removeH` and `Tree.deleteItem` compute on the
denoted tree (root copy and root collapse, with `freeNode` of the old root, included).
-/
namespace Nv.C03.Cow

def stealLeftB (cow n i : Nat) (H : Heap) : Heap :=
  let r1 := (Cow.mutableChild cow n i) H
  let r2 := (Cow.mutableChild cow n (i - 1)) r1.2
  let sf := r2.2.get r2.1
  let ch := r2.2.get r1.1
  let nd1 := r2.2.get n
  let H3 := ((Cow.wr r2.1 sf.items.dropLast sf.children.dropLast) r2.2).2
  let H4 := ((Cow.wr r1.1 (nd1.items.getD (i - 1) default :: ch.items) (sf.children.getLast?.toList ++ ch.children)) H3).2
  ((Cow.wr n (setAt nd1.items (i - 1) (sf.items.getLast?.getD default)) nd1.children) H4).2

def stealRightB (cow n i : Nat) (H : Heap) : Heap :=
  let r1 := (Cow.mutableChild cow n i) H
  let r2 := (Cow.mutableChild cow n (i + 1)) r1.2
  let sf := r2.2.get r2.1
  let ch := r2.2.get r1.1
  let nd1 := r2.2.get n
  let H3 := ((Cow.wr r2.1 (sf.items.drop 1) (sf.children.drop 1)) r2.2).2
  let H4 := ((Cow.wr r1.1 (ch.items ++ [nd1.items.getD i default]) (ch.children ++ sf.children.take 1)) H3).2
  ((Cow.wr n (setAt nd1.items i (sf.items.head?.getD default)) nd1.children) H4).2

def mergeB (cow n j : Nat) (H : Heap) : Heap :=
  let r1 := (Cow.mutableChild cow n j) H
  let nd1 := r1.2.get n
  let mergeChild := nd1.children.getD (j + 1) n
  let mc := r1.2.get mergeChild
  let ch := r1.2.get r1.1
  let H2 := ((Cow.wr n (removeAt nd1.items j) (removeAt nd1.children (j + 1))) r1.2).2
  let H3 := ((Cow.wr r1.1 (ch.items ++ nd1.items.getD j default :: mc.items) (ch.children ++ mc.children)) H2).2
  ((Cow.freeNode cow mergeChild) H3).2

theorem growB_eq (cow mn n i : Nat) (H : Heap) :
    (Cow.growB cow mn n i) H = ((),
      if 0 < i ∧ mn < (H.get ((H.get n).children.getD (i - 1) n)).items.length then stealLeftB cow n i H
      else if i < (H.get n).items.length ∧ mn < (H.get ((H.get n).children.getD (i + 1) n)).items.length then
        stealRightB cow n i H
      else mergeB cow n (if (H.get n).items.length ≤ i then i - 1 else i) H) := by
  unfold Cow.growB
  rw [run_bind, run_rd]
  simp only []
  rw [run_bind, run_rd]
  simp only []
  rw [run_bind, run_rd]
  simp only []
  by_cases h1 : 0 < i ∧ mn < (H.get ((H.get n).children.getD (i - 1) n)).items.length
  · rw [if_pos h1, if_pos h1]
    simp only [run_bind, run_rd, stealLeftB]
  · rw [if_neg h1, if_neg h1]
    by_cases h2 : i < (H.get n).items.length ∧ mn < (H.get ((H.get n).children.getD (i + 1) n)).items.length
    · rw [if_pos h2, if_pos h2]
      simp only [run_bind, run_rd, stealRightB]
    · rw [if_neg h2, if_neg h2]
      simp only [run_bind, run_rd, mergeB]

/-- what a child list denotes one level down (`absNode` with the fuel made explicit) -/
def absKids (H : Heap) : Nat → Nat → Node
  | 0, _ => .mk [] []
  | f + 1, g => absNode H f g

theorem abs_kids (H : Heap) (fuel c : Nat) :
    absNode H fuel c = .mk (H.get c).items ((H.get c).children.map (absKids H fuel)) := by
  cases fuel <;> rfl

theorem abs_children (H : Heap) (fuel c : Nat) :
    (absNode H fuel c).children = (H.get c).children.map (absKids H fuel) := by rw [abs_kids]; rfl

theorem grand_frame {mn cow : Nat} (hmn : 1 ≤ mn) {H H' : Heap} {fuel n : Nat} (h : Inner mn cow H fuel n)
    {a b : Nat} {c_a c_b ca cb : Nat} (hab : a ≠ b)
    (hca : (H.get n).children[a]? = some c_a) (hcb : (H.get n).children[b]? = some c_b)
    (ea : ca = c_a ∨ H.get ca = HNode.empty) (eb : cb = c_b ∨ H.get cb = HNode.empty)
    (hf : Frame H H' (fun x => x = n ∨ x = ca ∨ x = cb)) (g : Nat)
    (hg : g ∈ (H.get c_a).children ∨ g ∈ (H.get c_b).children) :
    absKids H' fuel g = absKids H fuel g ∧ ∀ f, fuel = f + 1 → ∀ y, InSub H' f g y → InSub H f g y := by
  cases fuel with
  | zero => exact ⟨rfl, fun f e => absurd e.symm (Nat.succ_ne_zero f)⟩
  | succ f =>
    -- `g` below the child at `p`; `q` is the other position
    have key : ∀ (p q : Nat) (c_p c_q cp cq : Nat), p ≠ q → (H.get n).children[p]? = some c_p →
        (H.get n).children[q]? = some c_q → (cp = c_p ∨ H.get cp = HNode.empty) → (cq = c_q ∨ H.get cq = HNode.empty) →
        g ∈ (H.get c_p).children → nodeOk mn (2 * mn + 1) f (absNode H f g) = true ∧
          ∀ x, InSub H f g x → ¬ (x = n ∨ x = cp ∨ x = cq) := by
      intro p q c_p c_q cp cq hpq hp hq ep eq hgp
      have hmp : c_p ∈ (H.get n).children := List.mem_of_getElem? hp
      have hpok := h.childOk hmp
      have hgok := (kids_succ ((nodeOk_iff _ _ _ _).1 hpok).2.2).2 g hgp
      refine ⟨hgok, fun x hx hbad => ?_⟩
      have hxp : InSub H (f + 1) c_p x := InSub.child hgp hx
      have hxne : H.get x ≠ HNode.empty := ne_empty (sub_nonempty hmn hgok hx)
      rcases hbad with e | e | e
      · exact h.notInChild hmn hmp (e ▸ hxp)
      · rcases ep with e2 | e2
        · -- `c_p` inside the subtree of its own child
          exact no_cycle mn _ H f c_p g ((nodeOk_iff _ _ _ _).1 hpok).2.2 (h.childSorted hmp)
            (sub_nonempty hmn hpok (InSub.self H (f + 1) c_p)) hgp (by rw [← e2, ← e]; exact hx)
        · exact hxne (by rw [e]; exact e2)
      · rcases eq with e2 | e2
        · exact siblings_disjoint mn _ hmn H (f + 1) n h.kids h.sorted p q c_p c_q x hpq hp hq hxp
            (by rw [e, e2]; exact InSub.self H (f + 1) c_q)
        · exact hxne (by rw [e]; exact e2)
    have hfar : nodeOk mn (2 * mn + 1) f (absNode H f g) = true ∧ ∀ x, InSub H f g x → ¬ (x = n ∨ x = ca ∨ x = cb) := by
      rcases hg with hg | hg
      · exact key a b c_a c_b ca cb hab hca hcb ea eb hg
      · obtain ⟨k1, k2⟩ := key b a c_b c_a cb ca (Ne.symm hab) hcb hca eb ea hg
        exact ⟨k1, fun x hx hbad => k2 x hx (by
          rcases hbad with e | e | e
          · exact Or.inl e
          · exact Or.inr (Or.inr e)
          · exact Or.inr (Or.inl e))⟩
    have hfr := abs_frame mn _ hmn hf f g hfar.1 hfar.2
    refine ⟨hfr.1, fun f' e y hy => ?_⟩
    obtain rfl : f = f' := Nat.succ.inj e
    exact hfr.2 y hy

namespace Inner

theorem rebalance {mn cow : Nat} (hmn : 1 ≤ mn) {H H' : Heap} {fuel n : Nat} (h : Inner mn cow H fuel n)
    {p b cl cr L R : Nat} (hb : p + 2 = b)
    (hl : (H.get n).children[p]? = some cl) (hr : (H.get n).children[p + 1]? = some cr)
    (eL : L = cl ∨ H.get L = HNode.empty) (eR : R = cr ∨ H.get R = HNode.empty)
    {is' : List Item} {new : List Nat}
    (hn : H'.get n = ⟨is', (H.get n).children.take p ++ new ++ (H.get n).children.drop b, some cow⟩)
    (hnew : ∀ c' ∈ new, (c' = L ∨ c' = R) ∧
      ∀ g ∈ (H'.get c').children, g ∈ (H.get cl).children ∨ g ∈ (H.get cr).children)
    (hf : Frame H H' (fun x => x = n ∨ x = L ∨ x = R)) (hwf : WFree H') (hsz : H.size ≤ H'.size) :
    absNode H' (fuel + 1) n = .mk is' (((H.get n).children.map (absNode H fuel)).take p ++
      new.map (fun c' => .mk (H'.get c').items ((H'.get c').children.map (absKids H fuel))) ++
      ((H.get n).children.map (absNode H fuel)).drop b) ∧
    Step cow H (fuel + 1) n H' (fuel + 1) n := by
  subst hb
  have hmidL : ∀ y, InSub H fuel cl y → Mid H fuel n p (p + 2) y := fun y hy =>
    ⟨p, cl, Nat.le_refl _, Nat.lt_succ_of_lt (Nat.lt_succ_self p), hl, hy⟩
  have hmidR : ∀ y, InSub H fuel cr y → Mid H fuel n p (p + 2) y := fun y hy =>
    ⟨p + 1, cr, Nat.le_succ p, Nat.lt_succ_self (p + 1), hr, hy⟩
  have hsrc : ∀ z, (z = L ∨ z = R) → Mid H fuel n p (p + 2) z ∨ H.get z = HNode.empty := by
    rintro z (e | e)
    · exact eL.imp (fun e2 => hmidL z (by rw [e, e2]; exact InSub.self H fuel cl)) (fun e2 => by rw [e]; exact e2)
    · exact eR.imp (fun e2 => hmidR z (by rw [e, e2]; exact InSub.self H fuel cr)) (fun e2 => by rw [e]; exact e2)
  have G := grand_frame hmn h (a := p) (b := p + 1) (Nat.succ_ne_self p).symm hl hr eL eR hf
  have hcell : ∀ c' ∈ new,
      absNode H' fuel c' = .mk (H'.get c').items ((H'.get c').children.map (absKids H fuel)) ∧
      ∀ y, InSub H' fuel c' y → Mid H fuel n p (p + 2) y ∨ H.get y = HNode.empty := by
    intro c' hc'
    obtain ⟨hc1, hc2⟩ := hnew c' hc'
    constructor
    · rw [abs_kids]
      congr 1
      exact List.map_congr_left (fun g hg => (G g (hc2 g hg)).1)
    · intro y hy
      cases fuel with
      | zero => exact hsrc y (by rw [show y = c' from hy]; exact hc1)
      | succ f =>
        rcases hy with e | ⟨g, hg, hy⟩
        · exact hsrc y (by rw [e]; exact hc1)
        · have hy' := (G g (hc2 g hg)).2 f rfl y hy
          exact Or.inl ((hc2 g hg).elim (fun e => hmidL y (InSub.child e hy')) (fun e => hmidR y (InSub.child e hy')))
  obtain ⟨r1, r2, _⟩ := h.rebuild hmn hn
    ((Frame.refl H _).trans hf (by
      rintro x (e | e)
      · exact Or.inl (Or.inl e)
      · exact (hsrc x e).imp_left Or.inr))
    (fun c' hc' => (hcell c' hc').2) hwf hsz
  exact ⟨by rw [r1, List.map_congr_left (fun c' hc' => (hcell c' hc').1)], r2⟩

end Inner

theorem setAt_eq_set {α} (l : List α) (i : Nat) (a : α) (hi : i < l.length) : setAt l i a = l.set i a := by
  rw [List.set_eq_take_append_cons_drop, if_pos hi]; rfl

theorem getD_setAt_ne {α} (l : List α) (i j : Nat) (a d : α) (hij : j ≠ i) (hi : i < l.length) :
    (setAt l i a).getD j d = l.getD j d := by
  rw [setAt_eq_set l i a hi, List.getD, List.getD, List.getElem?_set_ne (Ne.symm hij)]

theorem twoMutable {mn : Nat} (cow : Nat) (hmn : 1 ≤ mn) (H : Heap) (fuel n a b : Nat) (h : Inner mn cow H fuel n)
    (ha : a < (H.get n).children.length) (hb : b < (H.get n).children.length) (hab : a ≠ b) :
    ∃ ca H1 cb H2, ((Cow.mutableChild cow n a) H).1 = ca ∧ ((Cow.mutableChild cow n a) H).2 = H1 ∧
      ((Cow.mutableChild cow n b) H1).1 = cb ∧ ((Cow.mutableChild cow n b) H1).2 = H2 ∧
      H2.get n = ⟨(H.get n).items, setAt (setAt (H.get n).children a ca) b cb, some cow⟩ ∧
      H2.get ca = ⟨(H.get ((H.get n).children.getD a n)).items, (H.get ((H.get n).children.getD a n)).children, some cow⟩ ∧
      H2.get cb = ⟨(H.get ((H.get n).children.getD b n)).items, (H.get ((H.get n).children.getD b n)).children, some cow⟩ ∧
      (ca ≠ cb ∧ ca ≠ n ∧ cb ≠ n) ∧
      (ca = (H.get n).children.getD a n ∨ H.get ca = HNode.empty) ∧
      (cb = (H.get n).children.getD b n ∨ H.get cb = HNode.empty) ∧
      WFree H2 ∧ H.size ≤ H2.size ∧ Frame H H2 (fun x => x = n) := by
  obtain ⟨ca, H1, e1, e2, M⟩ := mutableChild_spec cow hmn H fuel n a h ha
  have h1 := M.inner h
  have hcs1 : (H1.get n).children = setAt (H.get n).children a ca := by rw [M.node]
  obtain ⟨cb, H2, e3, e4, K⟩ := mutableChild_spec cow hmn H1 fuel n b h1 (by rw [hcs1, setAt_length _ _ _ ha]; exact hb)
  rw [hcs1, getD_setAt_ne _ _ _ _ _ (Ne.symm hab) ha] at K
  have hcbm : (H.get n).children.getD b n ∈ (H.get n).children := getD_mem _ b n hb
  have hcbne := sub_nonempty hmn (h.childOk hcbm) (InSub.self H fuel _)
  -- the second child's cell was not touched by the first step
  have hcb1 : H1.get ((H.get n).children.getD b n) = H.get ((H.get n).children.getD b n) :=
    M.frame _ (fun e => h.notInChild hmn hcbm (by rw [e]; exact InSub.self H fuel n)) (ne_empty hcbne)
  have hca1 : H1.get ca ≠ HNode.empty := by rw [M.cell]; simp [HNode.empty]
  have hne : ca ≠ cb := by
    intro e
    rcases K.src with e2 | e2
    · rcases M.src with e3 | e3
      · exact siblings_disjoint mn _ hmn H fuel n h.kids h.sorted a b _ _ ca hab (getD_getElem? _ a n ha)
          (getD_getElem? _ b n hb) (by rw [e3]; exact InSub.self H fuel _) (by rw [e, e2]; exact InSub.self H fuel _)
      · exact hcbne (by rw [← e2, ← e, e3]; rfl)
    · exact hca1 (by rw [e]; exact e2)
  refine ⟨ca, H1, cb, H2, e1, e2, e3, e4, by rw [K.node, M.node], by rw [K.frame ca M.ne hca1, M.cell], by rw [K.cell, hcb1],
    ⟨hne, M.ne, K.ne⟩, M.src, ?_, K.wf, Nat.le_trans M.size K.size, Frame.trans M.frame K.frame (fun x e => Or.inl e)⟩
  exact K.src.imp_right (fun e => (frame_empty M.frame cb e).resolve_left K.ne)

theorem threeWrites (cow : Nat) (H2 : Heap) (n ca cb : Nat) (hne : ca ≠ cb ∧ ca ≠ n ∧ cb ≠ n)
    (tn : H2.tag n = some cow) (ta : H2.tag ca = some cow) (tb : H2.tag cb = some cow) (hw : WFree H2)
    (i1 : List Item) (c1 : List Nat) (i2 : List Item) (c2 : List Nat) (i3 : List Item) (c3 : List Nat) :
    ∃ H5, ((Cow.wr n i3 c3) ((Cow.wr ca i2 c2) ((Cow.wr cb i1 c1) H2).2).2).2 = H5 ∧
    H5.get n = ⟨i3, c3, some cow⟩ ∧ H5.get ca = ⟨i2, c2, some cow⟩ ∧ H5.get cb = ⟨i1, c1, some cow⟩ ∧
    (∀ x, x ≠ n → x ≠ ca → x ≠ cb → H5.get x = H2.get x) ∧ WFree H5 ∧ H5.size = H2.size := by
  obtain ⟨H3, ea, a1, a2, a3, a4⟩ := wr_owned H2 cb cow i1 c1 tb hw
  obtain ⟨H4, eb, b1, b2, b3, b4⟩ := wr_owned H3 ca cow i2 c2 (by simp only [Heap.tag]; rw [a2 ca hne.1]; exact ta) a4
  obtain ⟨H5, ec, e1, e2, e3, e4⟩ := wr_owned H4 n cow i3 c3
    (by simp only [Heap.tag]; rw [b2 n (Ne.symm hne.2.1), a2 n (Ne.symm hne.2.2)]; exact tn) b4
  rw [ea, eb, ec]
  exact ⟨_, rfl, e1, by rw [e2 ca hne.2.1, b1], by rw [e2 cb hne.2.2, b2 cb (Ne.symm hne.1), a1],
    fun x h1 h2 h3 => by rw [e2 x h1, b2 x h2, a2 x h3], e4, by rw [e3, b3, a3]⟩

theorem setAt_setAt_pred {α} (l : List α) (j : Nat) (a b : α) (hj : j + 1 < l.length) :
    setAt (setAt l (j + 1) a) j b = l.take j ++ b :: a :: l.drop (j + 2) := by
  have e1 : (setAt l (j + 1) a).take j = l.take j := by
    have := congrArg (List.take j) (take_pre _ (a :: l.drop (j + 1 + 1)) _ (length_take_le l (j + 1) (Nat.le_of_lt hj)))
    rwa [List.take_take, List.take_take, Nat.min_eq_left (Nat.le_succ j)] at this
  have e2 : (setAt l (j + 1) a).drop (j + 1) = a :: l.drop (j + 2) :=
    drop_pre _ _ _ (length_take_le l (j + 1) (Nat.le_of_lt hj))
  show (setAt l (j + 1) a).take j ++ b :: (setAt l (j + 1) a).drop (j + 1) = _
  rw [e1, e2]

theorem drop_succ_succ_setAt {α} (l : List α) (j : Nat) (a : α) (hj : j < l.length) :
    (setAt l j a).drop (j + 1 + 1) = l.drop (j + 2) := by
  rw [← List.drop_drop, drop_succ_setAt l j a (Nat.le_of_lt hj), List.drop_drop]

theorem setAt_setAt_succ {α} (l : List α) (i : Nat) (a b : α) (hi : i < l.length) :
    setAt (setAt l i a) (i + 1) b = l.take i ++ a :: b :: l.drop (i + 2) := by
  show (setAt l i a).take (i + 1) ++ b :: (setAt l i a).drop (i + 1 + 1) = _
  rw [take_succ_setAt l i a (Nat.le_of_lt hi), drop_succ_succ_setAt l i a hi, List.append_assoc]
  rfl

theorem removeAt_setAt_succ {α} (l : List α) (j : Nat) (a : α) (hj : j < l.length) :
    removeAt (setAt l j a) (j + 1) = l.take j ++ a :: l.drop (j + 2) := by
  show (setAt l j a).take (j + 1) ++ (setAt l j a).drop (j + 1 + 1) = _
  rw [take_succ_setAt l j a (Nat.le_of_lt hj), drop_succ_succ_setAt l j a hj, List.append_assoc]
  rfl

theorem toList_map {α β} (f : α → β) (o : Option α) : (o.map f).toList = o.toList.map f := by
  cases o <;> rfl

theorem stealLeft_abs (mn cow : Nat) (hmn : 1 ≤ mn) (H : Heap) (fuel n i : Nat) (h : Inner mn cow H fuel n)
    (k : Nat) (hi : i < (H.get n).children.length)
    (hL : 0 < i ∧ k < (((H.get n).children.map (absNode H fuel)).getD (i - 1) default).items.length) :
    Refines cow H (fuel + 1) n ((), stealLeftB cow n i H)
      (.mk (grow k (H.get n).items ((H.get n).children.map (absNode H fuel)) i).1
        (grow k (H.get n).items ((H.get n).children.map (absNode H fuel)) i).2, ()) := by
  obtain ⟨j, rfl⟩ := Nat.exists_eq_add_one_of_ne_zero (Nat.pos_iff_ne_zero.1 hL.1)
  have hj : j < (H.get n).children.length := Nat.lt_of_succ_lt hi
  unfold stealLeftB grow
  rw [if_pos hL]
  simp only [Nat.add_sub_cancel]
  obtain ⟨ca, H1, cb, H2, e1, e2, e3, e4, t1, t2, t3, t4, t5, t6, t7, t8, t9⟩ :=
    twoMutable cow hmn H fuel n (j + 1) j h hi hj (Nat.succ_ne_self j)
  simp only [e1, e2, e3, e4, t1, t2, t3, getD_map _ _ (j + 1) n hi, getD_map _ _ j n hj]
  have hpa := getD_getElem? (H.get n).children (j + 1) n hi
  have hpb := getD_getElem? (H.get n).children j n hj
  generalize (H.get n).children.getD (j + 1) n = c_a at *
  generalize (H.get n).children.getD j n = c_b at *
  obtain ⟨H5, e5, q1, q2, q3, q4, q5, q6⟩ := threeWrites cow H2 n ca cb t4 (by simp only [Heap.tag]; rw [t1])
    (by simp only [Heap.tag]; rw [t2]) (by simp only [Heap.tag]; rw [t3]) t7
    (H.get c_b).items.dropLast (H.get c_b).children.dropLast
    ((H.get n).items.getD j default :: (H.get c_a).items)
    ((H.get c_b).children.getLast?.toList ++ (H.get c_a).children)
    (setAt (H.get n).items j ((H.get c_b).items.getLast?.getD default))
    (setAt (setAt (H.get n).children (j + 1) ca) j cb)
  rw [e5]
  rw [setAt_setAt_pred _ _ _ _ hi] at q1
  obtain ⟨r1, r2⟩ := h.rebalance hmn (p := j) (b := j + 1 + 1) (L := cb) (R := ca)
    (is' := setAt (H.get n).items j ((H.get c_b).items.getLast?.getD default)) (new := [cb, ca]) rfl hpb hpa t6 t5
    (by rw [q1]; simp)
    (by
      intro c' hc'
      simp only [List.mem_cons, List.not_mem_nil, or_false] at hc'
      rcases hc' with rfl | rfl
      · exact ⟨Or.inl rfl, fun g hg => by rw [q3] at hg; exact Or.inl (List.dropLast_subset _ hg)⟩
      · refine ⟨Or.inr rfl, fun g hg => ?_⟩
        rw [q2] at hg
        simp only [List.mem_append, Option.mem_toList] at hg
        exact hg.imp List.mem_of_getLast? id)
    (fun x hx hne => by
      rw [q4 x (fun e => hx (Or.inl e)) (fun e => hx (Or.inr (Or.inr e))) (fun e => hx (Or.inr (Or.inl e)))]
      exact t9 x (fun e => hx (Or.inl e)) hne)
    q5 (by rw [q6]; exact t8)
  refine ⟨r2, ?_, rfl⟩
  rw [r1]
  simp only [List.map_cons, List.map_nil, q2, q3, abs_items, abs_children, List.map_dropLast, List.getLast?_map,
    toList_map, List.map_append, List.append_assoc, List.cons_append, List.nil_append]

theorem stealRight_abs (mn cow : Nat) (hmn : 1 ≤ mn) (H : Heap) (fuel n i : Nat) (h : Inner mn cow H fuel n)
    (k : Nat) (hi1 : i + 1 < (H.get n).children.length)
    (hL : ¬ (0 < i ∧ k < (((H.get n).children.map (absNode H fuel)).getD (i - 1) default).items.length))
    (hR : i < (H.get n).items.length ∧ k < (((H.get n).children.map (absNode H fuel)).getD (i + 1) default).items.length) :
    Refines cow H (fuel + 1) n ((), stealRightB cow n i H)
      (.mk (grow k (H.get n).items ((H.get n).children.map (absNode H fuel)) i).1
        (grow k (H.get n).items ((H.get n).children.map (absNode H fuel)) i).2, ()) := by
  have hi : i < (H.get n).children.length := Nat.lt_of_succ_lt hi1
  unfold stealRightB grow
  rw [if_neg hL, if_pos hR]
  obtain ⟨ca, H1, cb, H2, e1, e2, e3, e4, t1, t2, t3, t4, t5, t6, t7, t8, t9⟩ :=
    twoMutable cow hmn H fuel n i (i + 1) h hi hi1 (Nat.succ_ne_self i).symm
  simp only [e1, e2, e3, e4, t1, t2, t3, getD_map _ _ i n hi, getD_map _ _ (i + 1) n hi1]
  have hpa : (H.get n).children[i]? = some ((H.get n).children.getD i n) := getD_getElem? _ i n hi
  have hpb : (H.get n).children[i + 1]? = some ((H.get n).children.getD (i + 1) n) := getD_getElem? _ (i + 1) n hi1
  generalize (H.get n).children.getD i n = c_a at *
  generalize (H.get n).children.getD (i + 1) n = c_b at *
  obtain ⟨H5, e5, q1, q2, q3, q4, q5, q6⟩ := threeWrites cow H2 n ca cb t4 (by simp only [Heap.tag]; rw [t1])
    (by simp only [Heap.tag]; rw [t2]) (by simp only [Heap.tag]; rw [t3]) t7
    ((H.get c_b).items.drop 1) ((H.get c_b).children.drop 1)
    ((H.get c_a).items ++ [(H.get n).items.getD i default])
    ((H.get c_a).children ++ (H.get c_b).children.take 1)
    (setAt (H.get n).items i ((H.get c_b).items.head?.getD default))
    (setAt (setAt (H.get n).children i ca) (i + 1) cb)
  rw [e5]
  rw [setAt_setAt_succ _ _ _ _ hi] at q1
  obtain ⟨r1, r2⟩ := h.rebalance hmn (p := i) (b := i + 2) (L := ca) (R := cb)
    (is' := setAt (H.get n).items i ((H.get c_b).items.head?.getD default)) (new := [ca, cb]) rfl hpa hpb t5 t6
    (by rw [q1]; simp)
    (by
      intro c' hc'
      simp only [List.mem_cons, List.not_mem_nil, or_false] at hc'
      rcases hc' with rfl | rfl
      · refine ⟨Or.inl rfl, fun g hg => ?_⟩
        rw [q2] at hg
        simp only [List.mem_append] at hg
        exact hg.imp_right List.mem_of_mem_take
      · exact ⟨Or.inr rfl, fun g hg => by rw [q3] at hg; exact Or.inr (List.mem_of_mem_drop hg)⟩)
    (fun x hx hne => by
      rw [q4 x (fun e => hx (Or.inl e)) (fun e => hx (Or.inr (Or.inl e))) (fun e => hx (Or.inr (Or.inr e)))]
      exact t9 x (fun e => hx (Or.inl e)) hne)
    q5 (by rw [q6]; exact t8)
  refine ⟨r2, ?_, rfl⟩
  rw [r1]
  simp only [List.map_cons, List.map_nil, q2, q3, abs_items, abs_children, List.map_take, List.map_drop,
    List.map_append, List.append_assoc, List.cons_append, List.nil_append]

theorem merge_abs (mn cow : Nat) (hmn : 1 ≤ mn) (H : Heap) (fuel n i : Nat) (h : Inner mn cow H fuel n)
    (k : Nat) (hj1 : (if (H.get n).items.length ≤ i then i - 1 else i) + 1 < (H.get n).children.length)
    (hL : ¬ (0 < i ∧ k < (((H.get n).children.map (absNode H fuel)).getD (i - 1) default).items.length))
    (hR : ¬ (i < (H.get n).items.length ∧ k < (((H.get n).children.map (absNode H fuel)).getD (i + 1) default).items.length)) :
    Refines cow H (fuel + 1) n ((), mergeB cow n (if (H.get n).items.length ≤ i then i - 1 else i) H)
      (.mk (grow k (H.get n).items ((H.get n).children.map (absNode H fuel)) i).1
        (grow k (H.get n).items ((H.get n).children.map (absNode H fuel)) i).2, ()) := by
  unfold mergeB grow
  rw [if_neg hL, if_neg hR]
  generalize (if (H.get n).items.length ≤ i then i - 1 else i) = j at hj1 ⊢
  have hj : j < (H.get n).children.length := Nat.lt_of_succ_lt hj1
  obtain ⟨ca, H1, e1, e2, M⟩ := mutableChild_spec cow hmn H fuel n j h hj
  simp only [e1, e2]
  have hpa : (H.get n).children[j]? = some ((H.get n).children.getD j n) := getD_getElem? _ j n hj
  have hpb : (H.get n).children[j + 1]? = some ((H.get n).children.getD (j + 1) n) := getD_getElem? _ (j + 1) n hj1
  have hmb : (H.get n).children.getD (j + 1) n ∈ (H.get n).children := getD_mem _ (j + 1) n hj1
  rw [M.node]
  simp only
  rw [getD_setAt_ne _ _ _ _ _ (Nat.succ_ne_self j) hj, M.cell, getD_map _ _ j n hj, getD_map _ _ (j + 1) n hj1]
  simp only
  generalize (H.get n).children.getD j n = c_a at *
  generalize (H.get n).children.getD (j + 1) n = c_b at *
  have hcbne : H.get c_b ≠ HNode.empty := ne_empty (sub_nonempty hmn (h.childOk hmb) (InSub.self H fuel c_b))
  have hcbn : c_b ≠ n := fun e => h.notInChild hmn hmb (by rw [e]; exact InSub.self H fuel n)
  rw [M.frame c_b hcbn hcbne]
  have hcab : ca ≠ c_b := by
    intro e
    rcases M.src with e2 | e2
    · exact siblings_disjoint mn _ hmn H fuel n h.kids h.sorted j (j + 1) _ _ ca (Nat.succ_ne_self j).symm hpa hpb
        (by rw [e2]; exact InSub.self H fuel _) (by rw [e]; exact InSub.self H fuel _)
    · exact hcbne (by rw [← e]; exact e2)
  -- the two writes and the release of the sibling's cell
  obtain ⟨H2, ea, a1, a2, a3, a4⟩ := wr_owned H1 n cow (removeAt (H.get n).items j)
    (removeAt (setAt (H.get n).children j ca) (j + 1)) (by simp only [Heap.tag]; rw [M.node]) M.wf
  obtain ⟨H3, eb, b1, b2, b3, b4⟩ := wr_owned H2 ca cow ((H.get c_a).items ++ (H.get n).items.getD j default :: (H.get c_b).items)
    ((H.get c_a).children ++ (H.get c_b).children) (by simp only [Heap.tag]; rw [a2 ca M.ne, M.cell]) a4
  obtain ⟨H4, ec, f1, f2, f3⟩ := freeNode_spec cow c_b H3 b4
  rw [ea, eb, ec]
  have q1 : H4.get n = ⟨removeAt (H.get n).items j, (H.get n).children.take j ++ ca :: (H.get n).children.drop (j + 2),
      some cow⟩ := by
    rw [f1 n (Ne.symm hcbn), b2 n (Ne.symm M.ne), a1, removeAt_setAt_succ _ _ _ hj]
  have q2 : H4.get ca = ⟨(H.get c_a).items ++ (H.get n).items.getD j default :: (H.get c_b).items,
      (H.get c_a).children ++ (H.get c_b).children, some cow⟩ := by
    rw [f1 ca hcab, b1]
  obtain ⟨r1, r2⟩ := h.rebalance hmn (p := j) (b := j + 2) (L := ca) (R := c_b)
    (is' := removeAt (H.get n).items j) (new := [ca]) rfl hpa hpb M.src (Or.inl rfl)
    (by rw [q1]; simp)
    (by
      intro c' hc'
      rw [List.mem_singleton.1 hc']
      exact ⟨Or.inl rfl, fun g hg => by rw [q2] at hg; exact List.mem_append.1 hg⟩)
    (fun x hx hne => by
      rw [f1 x (fun e => hx (Or.inr (Or.inr e))), b2 x (fun e => hx (Or.inr (Or.inl e))), a2 x (fun e => hx (Or.inl e))]
      exact M.frame x (fun e => hx (Or.inl e)) hne)
    f3 (by rw [f2, b3, a3]; exact M.size)
  refine ⟨r2, ?_, rfl⟩
  rw [r1]
  simp only [List.map_cons, List.map_nil, q2, abs_items, abs_children, List.map_append, List.append_assoc,
    List.cons_append, List.nil_append]

theorem merge_pos {a i : Nat} (h1 : 1 ≤ a) (hi : i ≤ a) : (if a ≤ i then i - 1 else i) + 1 < a + 1 := by
  split <;> omega

/-- `growChildAndRemove`'s rebalancing step on the store is `grow` on the denoted node -/
theorem growB_abs (mn cow : Nat) (hmn : 1 ≤ mn) (H : Heap) (fuel n i : Nat) (h : Inner mn cow H fuel n)
    (hi : i ≤ (H.get n).items.length) (h1 : 1 ≤ (H.get n).items.length) :
    Refines cow H (fuel + 1) n ((Cow.growB cow mn n i) H)
      (.mk (grow mn (H.get n).items ((H.get n).children.map (absNode H fuel)) i).1
        (grow mn (H.get n).items ((H.get n).children.map (absNode H fuel)) i).2, ()) := by
  have hlen := h.len
  have hic : i < (H.get n).children.length := hlen ▸ Nat.lt_succ_of_le hi
  rw [growB_eq]
  -- the sizes of the two siblings, read off the store or off the denoted node
  have eL : (((H.get n).children.map (absNode H fuel)).getD (i - 1) default).items.length =
      (H.get ((H.get n).children.getD (i - 1) n)).items.length := by
    rw [getD_map _ _ (i - 1) n (Nat.lt_of_le_of_lt (Nat.sub_le i 1) hic), abs_items]
  have eR : i < (H.get n).items.length → (((H.get n).children.map (absNode H fuel)).getD (i + 1) default).items.length =
      (H.get ((H.get n).children.getD (i + 1) n)).items.length := by
    intro hlt; rw [getD_map _ _ (i + 1) n (hlen ▸ Nat.succ_lt_succ hlt), abs_items]
  by_cases cL : 0 < i ∧ mn < (H.get ((H.get n).children.getD (i - 1) n)).items.length
  · rw [if_pos cL]
    exact stealLeft_abs mn cow hmn H fuel n i h mn hic ⟨cL.1, by rw [eL]; exact cL.2⟩
  · rw [if_neg cL]
    have cL' : ¬ (0 < i ∧ mn < (((H.get n).children.map (absNode H fuel)).getD (i - 1) default).items.length) :=
      fun c => cL ⟨c.1, by rw [← eL]; exact c.2⟩
    by_cases cR : i < (H.get n).items.length ∧ mn < (H.get ((H.get n).children.getD (i + 1) n)).items.length
    · rw [if_pos cR]
      exact stealRight_abs mn cow hmn H fuel n i h mn (hlen ▸ Nat.succ_lt_succ cR.1) cL' ⟨cR.1, by rw [eR cR.1]; exact cR.2⟩
    · rw [if_neg cR]
      exact merge_abs mn cow hmn H fuel n i h mn (hlen ▸ merge_pos h1 hi) cL'
        (fun c => cR ⟨c.1, by rw [← eR c.1]; exact c.2⟩)

/-- the part of `node.remove` after the rebalancing step -/
def remTail (cow mn : Nat) (f n : Nat) (typ : Rm) (i : Nat) (found : Bool) (ret0 : Option Item) (H : Heap) :
    Option Item × Heap :=
  let r1 := (Cow.mutableChild cow n i) H
  if found then
    let r2 := (Cow.removeB cow mn f r1.1 .max) r1.2
    (ret0, ((Cow.wr n (setAt (r2.2.get n).items i (r2.1.getD default)) (r2.2.get n).children) r2.2).2)
  else (Cow.removeB cow mn f r1.1 typ) r1.2

theorem removeB_inner (cow mn : Nat) (f n : Nat) (typ : Rm) (H : Heap) (hne : (H.get n).children ≠ []) :
    (Cow.removeB cow mn (f + 1) n typ) H =
      if (H.get ((H.get n).children.getD (locate (H.get n).items typ).1 n)).items.length ≤ mn then
        let Hg := ((Cow.growB cow mn n (locate (H.get n).items typ).1) H).2
        remTail cow mn f n typ (locate (Hg.get n).items typ).1 (locate (Hg.get n).items typ).2
          ((Hg.get n).items[(locate (Hg.get n).items typ).1]?) Hg
      else
        remTail cow mn f n typ (locate (H.get n).items typ).1 (locate (H.get n).items typ).2
          ((H.get n).items[(locate (H.get n).items typ).1]?) H := by
  have hemp : (H.get n).children.isEmpty = false := by
    cases hc : (H.get n).children with
    | nil => exact absurd hc hne
    | cons _ _ => rfl
  rw [Cow.removeB]
  rw [run_bind, run_rd]
  simp only [hemp]
  rw [run_ite, if_neg (by simp)]
  rw [run_bind, run_rd]
  simp only []
  rw [run_bind]
  unfold remTail
  by_cases hs : (H.get ((H.get n).children.getD (locate (H.get n).items typ).1 n)).items.length ≤ mn
  · rw [if_pos hs, if_pos hs, run_bind, run_rd]
    simp only [hs, if_true]
    rw [run_bind, run_ite]
    rfl
  · rw [if_neg hs, if_neg hs, run_pure, run_bind, run_rd]
    simp only [hs, if_false]
    rw [run_bind, run_ite]
    rfl

/-- the tail of `removeH` after the rebalancing step -/
def remTailA (mn f : Nat) (typ : Rm) (g : List Item × List Node) : Node × Option Item :=
  if (locate g.1 typ).2 then
    (.mk (setAt g.1 (locate g.1 typ).1 ((removeH mn f (g.2.getD (locate g.1 typ).1 default) .max).2.getD default))
        (setAt g.2 (locate g.1 typ).1 (removeH mn f (g.2.getD (locate g.1 typ).1 default) .max).1),
      g.1[(locate g.1 typ).1]?)
  else
    (.mk g.1 (setAt g.2 (locate g.1 typ).1 (removeH mn f (g.2.getD (locate g.1 typ).1 default) typ).1),
      (removeH mn f (g.2.getD (locate g.1 typ).1 default) typ).2)

theorem removeH_inner (mn f : Nat) (is : List Item) (cs : List Node) (typ : Rm) (hne : cs ≠ []) :
    removeH mn (f + 1) (.mk is cs) typ =
      if (cs.getD (locate is typ).1 default).items.length ≤ mn then remTailA mn f typ (grow mn is cs (locate is typ).1)
      else remTailA mn f typ (is, cs) := by
  cases cs with
  | nil => exact absurd rfl hne
  | cons c0 cs0 =>
    simp only [removeH, remTailA]
    by_cases hs : ((c0 :: cs0).getD (locate is typ).1 default).items.length ≤ mn
    · simp only [hs, decide_true, if_true]
    · simp only [hs, decide_false, Bool.false_eq_true, if_false]

theorem remTail_refines (mn cow : Nat) (hmn : 1 ≤ mn) (f : Nat)
    (ih : ∀ (n : Nat) (H : Heap) (typ : Rm), Sub mn cow H f n → 1 ≤ (H.get n).items.length →
      Refines cow H f n ((Cow.removeB cow mn f n typ) H) (removeH mn f (absNode H f n) typ))
    (H : Heap) (n : Nat) (typ : Rm) (h : Inner mn cow H f n) :
    Refines cow H (f + 1) n
      (remTail cow mn f n typ (locate (H.get n).items typ).1 (locate (H.get n).items typ).2
        ((H.get n).items[(locate (H.get n).items typ).1]?) H)
      (remTailA mn f typ ((H.get n).items, (H.get n).children.map (absNode H f))) := by
  have hi : (locate (H.get n).items typ).1 < (H.get n).children.length :=
    h.len ▸ Nat.lt_succ_of_le (locate_le (H.get n).items typ)
  unfold remTail remTailA
  simp only
  generalize (locate (H.get n).items typ).1 = i at hi ⊢
  have hcm : (H.get n).children.getD i n ∈ (H.get n).children := getD_mem _ i n hi
  have hop : ∀ (t : Rm) (ch : Nat) (H1 : Heap), Sub mn cow H1 f ch →
      absNode H1 f ch = absNode H f ((H.get n).children.getD i n) →
      Refines cow H1 f ch ((Cow.removeB cow mn f ch t) H1) (removeH mn f (absNode H f ((H.get n).children.getD i n)) t) := by
    intro t ch H1 hsub habs
    rw [← habs]
    refine ih ch H1 t hsub ?_
    rw [← abs_items H1 f ch, habs]
    exact Nat.le_trans hmn ((nodeOk_iff _ _ _ _).1 (h.childOk hcm)).1
  rw [getD_map (absNode H f) (H.get n).children i n hi]
  cases (locate (H.get n).items typ).2 with
  | false =>
    simp only [Bool.false_eq_true, if_false]
    exact (descend_abs cow hmn H f n i h hi (fun ch => Cow.removeB cow mn f ch typ) _ (hop typ)).1
  | true =>
    simp only [if_true]
    obtain ⟨D, d2, d7⟩ := descend_abs cow hmn H f n i h hi (fun ch => Cow.removeB cow mn f ch .max) _ (hop .max)
    generalize (Cow.mutableChild cow n i) H = r1 at D d2 d7
    obtain ⟨ch, H1⟩ := r1
    simp only at D d2 d7 ⊢
    generalize (Cow.removeB cow mn f ch .max) H1 = r2 at D d2 d7
    obtain ⟨p, H2⟩ := r2
    simp only at D d2 d7 ⊢
    have dret : p = (removeH mn f (absNode H f ((H.get n).children.getD i n)) .max).2 := D.ret
    obtain ⟨H3, e, w1, w2, w3, w4⟩ := wr_owned H2 n cow (setAt (H2.get n).items i (p.getD default)) (H2.get n).children
      D.own D.wf
    rw [e]
    -- the children of the node read the same in `H3`: only the node's own cell changed
    have hkids := fun c hc => sub_agree H2 H3 f c (fun x hx => w2 x (fun e => d7 c hc (e ▸ hx)))
    refine ⟨D.toStep.trans ⟨by simp only [Heap.tag]; rw [w1], w4, Nat.le_of_eq w3.symm,
      fun y hy _ => w2 y (fun e => hy (e ▸ InSub.self H2 (f + 1) n)), ?_⟩, ?_, rfl⟩
    · rintro y (e | ⟨c, hc, hy⟩)
      · exact Or.inl (Or.inl e)
      · rw [w1] at hc
        exact Or.inl (InSub.child hc ((hkids c hc).2 y hy))
    · rw [abs_succ, w1]
      simp only
      rw [List.map_congr_left (fun c hc => (hkids c hc).1), (children_of_abs D.abs).2, d2, dret]

theorem removeB_refines (mn cow : Nat) (hmn : 1 ≤ mn) : ∀ (fuel n : Nat) (H : Heap) (typ : Rm),
    Sub mn cow H fuel n → 1 ≤ (H.get n).items.length →
    Refines cow H fuel n ((Cow.removeB cow mn fuel n typ) H) (removeH mn fuel (absNode H fuel n) typ) := by
  intro fuel
  induction fuel with
  | zero =>
    intro n H typ h _
    have hleaf := h.leaf
    have hrun : (Cow.removeB cow mn 0 n typ) H =
        ((leafRemove (H.get n).items typ).2, ((Cow.wr n (leafRemove (H.get n).items typ).1 []) H).2) := by
      rw [Cow.removeB, run_bind, run_rd]
      simp only [hleaf, List.isEmpty_nil, if_true]
      rfl
    rw [hrun]
    exact (leaf_write h _ _).of_eq (by simp [absNode, hleaf, removeH])
  | succ f ih =>
    intro n H typ h h1
    have hin := h.inner
    have hlen := hin.len
    have hne : (H.get n).children ≠ [] := by intro e; rw [e] at hlen; simp at hlen
    have hloc := locate_le (H.get n).items typ
    have hi : (locate (H.get n).items typ).1 < (H.get n).children.length := hlen ▸ Nat.lt_succ_of_le hloc
    have hgd := getD_map (absNode H f) (H.get n).children (locate (H.get n).items typ).1 n hi
    have hA := removeH_inner mn f (H.get n).items ((H.get n).children.map (absNode H f)) typ (by simpa using hne)
    rw [hgd, abs_items] at hA
    rw [removeB_inner cow mn f n typ H hne, abs_succ H f n, hA]
    by_cases hsmall : (H.get ((H.get n).children.getD (locate (H.get n).items typ).1 n)).items.length ≤ mn
    · rw [if_pos hsmall, if_pos hsmall]
      have hk := hin.kids
      have hs := hin.sorted
      rw [abs_succ] at hk hs
      rw [inorder_mk] at hs
      have G := growB_abs mn cow hmn H f n (locate (H.get n).items typ).1 hin hloc h1
      have Gv := grow_spec mn f (H.get n).items ((H.get n).children.map (absNode H f)) typ
        (locate (H.get n).items typ).1 hk hs h1 (locIs_locate _ typ (sorted_items _ _ hs)) hloc
        (by rw [hgd, abs_items]; exact hsmall)
      generalize (Cow.growB cow mn n (locate (H.get n).items typ).1) H = rg at G ⊢
      have Gabs := G.abs
      have hIg : Inner mn cow rg.2 f n :=
        ⟨by rw [Gabs]; exact Gv.kids, by rw [Gabs, inorder_mk, Gv.inorder]; exact hs, G.own, G.wf⟩
      have T := (remTail_refines mn cow hmn f ih rg.2 n typ hIg).of_eq
        (b := remTailA mn f typ (grow mn (H.get n).items ((H.get n).children.map (absNode H f)) (locate (H.get n).items typ).1))
        (by rw [(children_of_abs Gabs).1, (children_of_abs Gabs).2])
      exact ⟨G.toStep.trans T.toStep, T.abs, T.ret⟩
    · rw [if_neg hsmall, if_neg hsmall]
      exact remTail_refines mn cow hmn f ih H n typ hin

/-- the root collapse at the end of `deleteItem` -/
def collapseM (cow r : Nat) (nd : HNode) : M Nat :=
  match nd.items, nd.children with
  | [], c :: _ => do
    freeNode cow r
    pure c
  | _, _ => pure r

/-- … as a function of the store -/
def collapseB (cow r : Nat) (H2 : Heap) : Nat × Heap :=
  match (H2.get r).items, (H2.get r).children with
  | [], c :: _ => (c, ((Cow.freeNode cow r) H2).2)
  | _, _ => (r, H2)

theorem collapseM_eq (cow r : Nat) (H2 : Heap) : (collapseM cow r (H2.get r)) H2 = collapseB cow r H2 := by
  unfold collapseM collapseB
  cases (H2.get r).items <;> cases (H2.get r).children <;> rfl

def delOut (t : HTree) (r0 : Nat) (typ : Rm) (H : Heap) : Option Item × Heap :=
  (Cow.removeB t.cow t.minItems (heightB ((Cow.mutableFor t.cow r0) H).2 ((Cow.mutableFor t.cow r0) H).2.size
    ((Cow.mutableFor t.cow r0) H).1) ((Cow.mutableFor t.cow r0) H).1 typ) ((Cow.mutableFor t.cow r0) H).2

theorem deleteItemB_some (t : HTree) (r0 : Nat) (typ : Rm) (H : Heap) (hr : t.root = some r0)
    (hne : (H.get r0).items.isEmpty = false) :
    (deleteItemB t typ) H =
      (({ t with root := some (collapseB t.cow ((Cow.mutableFor t.cow r0) H).1 (delOut t r0 typ H).2).1,
                 length := if (delOut t r0 typ H).1.isSome then t.length - 1 else t.length },
        (delOut t r0 typ H).1), (collapseB t.cow ((Cow.mutableFor t.cow r0) H).1 (delOut t r0 typ H).2).2) := by
  rw [← collapseM_eq]
  unfold deleteItemB delOut
  rw [hr]
  show ((Cow.rd r0) >>= _) H = _
  rw [run_bind, run_rd]
  simp only [hne, Bool.false_eq_true, if_false]
  rfl

theorem deleteItemB_noop (t : HTree) (typ : Rm) (H : Heap)
    (h : t.root = none ∨ ∃ r0, t.root = some r0 ∧ (H.get r0).items.isEmpty = true) :
    (deleteItemB t typ) H = ((t, none), H) := by
  unfold deleteItemB
  rcases h with hr | ⟨r0, hr, he⟩
  · rw [hr]; rfl
  · rw [hr]
    show ((Cow.rd r0) >>= _) H = _
    rw [run_bind, run_rd]
    simp only [he, if_true]
    rfl

theorem specRemove_sorted (l : List Item) (typ : Rm) (hs : Sorted l) : Sorted (specRemove l typ).1 := by
  cases typ with
  | item k => exact sorted_of_sublist List.filter_sublist hs
  | min => exact sorted_of_sublist (List.drop_sublist 1 _) hs
  | max => exact sorted_of_sublist (List.dropLast_sublist _) hs

theorem collapse_of_items (is : List Item) (cs : List Node) (h : is ≠ [] ∨ cs = []) : collapse (.mk is cs) = .mk is cs := by
  cases is with
  | cons a l => cases cs <;> rfl
  | nil =>
    rcases h with h | h
    · exact absurd rfl h
    · subst h; rfl

theorem deleteItemB_refines (t : HTree) (H : Heap) (typ : Rm) (h : Nat) (w : TreeWF t H h) :
    ∃ h', WriteOut t H h ((deleteItemB t typ) H) ((t.absAt H h).deleteItem typ) h' := by
  have hd := w.degree
  have hvok : ((t.absAt H h).deleteItem typ).1.ok = true := (tree_delete_spec (t.absAt H h) typ w.ok).2.2.1
  -- nothing to delete: the handle and the store stay as they are
  have hnoop : (t.absAt H h).deleteItem typ = (t.absAt H h, none) → (deleteItemB t typ) H = ((t, none), H) →
      ∃ h', WriteOut t H h ((deleteItemB t typ) H) ((t.absAt H h).deleteItem typ) h' := by
    intro hval hrun
    rw [hval, hrun]
    exact ⟨h, rfl, rfl, w, fun r' e y hy => Or.inl ⟨r', e, hy⟩⟩
  cases hr : t.root with
  | none =>
    exact hnoop (by simp [Tree.deleteItem, HTree.absAt, hr]) (deleteItemB_noop t typ H (Or.inl hr))
  | some r0 =>
    have e2 : (t.absAt H h).root = some (absNode H h r0) := by simp [HTree.absAt, hr]
    by_cases hemp : (H.get r0).items.isEmpty = true
    · refine hnoop ?_ (deleteItemB_noop t typ H (Or.inr ⟨r0, hr, hemp⟩))
      unfold Tree.deleteItem
      rw [e2]
      simp only [abs_items, hemp, if_true]
    · have hemp' : (H.get r0).items.isEmpty = false := by simpa using hemp
      have hmn := (t.bounds hd).1
      have rw0 := w.rootWF hr
      have h1 : 1 ≤ (H.get r0).items.length := by
        cases hi : (H.get r0).items with
        | nil => rw [hi] at hemp; simp at hemp
        | cons _ _ => simp
      rw [deleteItemB_some t r0 typ H hr hemp']
      unfold delOut
      obtain ⟨r, H1, ea, eb, p1, p2, p3, p4⟩ := rootMutable (t.degree - 1) t.cow hmn H h r0 rw0
      simp only [ea, eb]
      rw [heightB_eq (t.degree - 1) (2 * (t.degree - 1) + 1) hmn _ h _ p1.kids p1.sorted p1.nonempty p1.lt,
        show t.minItems = t.degree - 1 from rfl]
      have o := removeB_refines (t.degree - 1) t.cow hmn h r H1 typ p1 (by rw [p3]; exact h1)
      have P := removeH_spec (t.degree - 1) h (absNode H h r0) typ rw0.kids rw0.sorted (by rw [abs_items]; exact h1)
      have hval : (t.absAt H h).deleteItem typ =
          (⟨t.degree, some (collapse (removeH (t.degree - 1) h (absNode H h r0) typ).1),
              if (removeH (t.degree - 1) h (absNode H h r0) typ).2.isSome then t.length - 1 else t.length⟩,
            (removeH (t.degree - 1) h (absNode H h r0) typ).2) := by
        have e3 : (t.absAt H h).minItems = t.degree - 1 := rfl
        unfold Tree.deleteItem
        rw [e2]
        simp only [abs_items, hemp', Bool.false_eq_true, if_false, e3, (w.height r0 hr).1]
        rfl
      generalize (Cow.removeB t.cow (t.degree - 1) h r typ) H1 = out at o
      obtain ⟨ret, H2⟩ := out
      have oabs := o.abs
      have oret := o.ret
      simp only at oabs oret ⊢
      rw [p2] at oabs oret
      have hstep2 : Step t.cow H h r0 H2 h r := p4.trans o.toStep
      have hsubs2 := fun y hy => (hstep2.subs y hy).imp_left (fun e => (⟨r0, hr, e⟩ : ∃ r0, t.root = some r0 ∧ InSub H h r0 y))
      rw [oret]
      unfold collapseB
      split
      · -- the root lost its last item: its only child becomes the root, the old root cell is freed
        rename_i c rest hit hch
        cases h with
        | zero =>
          have := P.kids; rw [← oabs] at this
          have hleaf : (H2.get r).children = [] := by simpa [KidsOk, absNode] using this
          rw [hleaf] at hch; cases hch
        | succ f =>
          have hI2 : Inner (t.degree - 1) t.cow H2 f r := ⟨by rw [oabs]; exact P.kids,
            by rw [oabs, P.inorder]; exact specRemove_sorted _ typ rw0.sorted, hstep2.own, hstep2.wf⟩
          have hcm : c ∈ (H2.get r).children := by rw [hch]; simp
          have hcok := hI2.childOk hcm
          obtain ⟨H3, e, f1, f2, f3⟩ := freeNode_spec t.cow r H2 hstep2.wf
          rw [e]
          have hall : ∀ x, InSub H2 f c x → H3.get x = H2.get x :=
            fun x hx => f1 x (fun e => hI2.notInChild hmn hcm (e ▸ hx))
          obtain ⟨hc3, hin3⟩ := sub_agree H2 H3 f c hall
          have hcne : H3.get c ≠ HNode.empty := by
            rw [hall c (InSub.self H2 f c)]
            exact ne_empty (sub_nonempty hmn hcok (InSub.self H2 f c))
          refine ⟨f, WriteOut.root hval hvok (by rw [← oabs, abs_succ, hit, hch, hc3]; rfl)
            (by rw [← oabs, abs_succ, hit, hch]; exact height_of_kidsOk _ _ _ _ ((nodeOk_iff _ _ _ _).1 hcok).2.2)
            (Nat.lt_of_not_le (fun hl => hcne (get_ge _ _ hl))) (fun hm => hcne (f3.2 _ hm).2) f3
            (fun y hy => hsubs2 y (InSub.child hcm (hin3 y hy)))⟩
      · -- no collapse
        rename_i hnc
        have hcoll : absNode H2 h r = collapse (removeH (t.degree - 1) h (absNode H h r0) typ).1 := by
          rw [← oabs, abs_kids]
          refine (collapse_of_items _ _ ?_).symm
          by_cases hi : (H2.get r).items = []
          · right
            cases hc : (H2.get r).children with
            | nil => rfl
            | cons c rest => exact absurd hc (fun hc => hnc c rest hi hc)
          · exact Or.inl hi
        exact ⟨h, WriteOut.root hval hvok hcoll (by rw [← hcoll, oabs]; exact height_of_kidsOk _ _ _ _ P.kids)
          (tag_some_lt _ _ _ hstep2.own) (not_free_of_tag hstep2.wf hstep2.own) hstep2.wf hsubs2⟩

end Nv.C03.Cow
