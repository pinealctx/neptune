import Nv.Proofs.C02Ops
/-!
C02 — the inductive invariant of the keylock transition system (for `Proved` configurations).

A step is taken by one thread `t`, touches at most one object `o` and at most the table entry of one key `k`.
The invariant is therefore split by what it speaks about — one object (`ObjOk`), one thread (`ThOk`), one thread and
one object (`Link`), the table — each part has its own lemmas about the operations of the model, and `Inv.update`
reduces the preservation of the whole to conditions on `t`, `o` and `k`.
-/
namespace Nv.C02

structure ObjOk (w : Wrap) : Prop where
  regNd : ∀ m, (regOf m w).Nodup
  cnt : ∀ m, cntOf m w = (regOf m w).length
  rdNd : w.readers.Nodup
  /-- a writer got in as owner of `rw.w`, after the readers had left and their tokens were used up -/
  wOk : ∀ t, w.writer = some t → w.wOwner = some t ∧ w.readers = [] ∧ w.tokens = 0
  /-- tokens are wake-ups of sleeping readers; while `rw.w` is free every sleeping reader has one -/
  tokLe : w.tokens ≤ w.pendR.length
  tokGe : w.wOwner = none → w.pendR.length ≤ w.tokens
  pendRNd : w.pendR.Nodup

/-- `w'` is to thread `u` what `w` was -/
structure SameFor (u : Tid) (w w' : Wrap) : Prop where
  reg : ∀ m, u ∈ regOf m w' ↔ u ∈ regOf m w
  hold : ∀ m, isHolder m u w' ↔ isHolder m u w
  own : w'.wOwner = some u → w.wOwner = some u
  pendR : u ∈ w'.pendR → u ∈ w.pendR

theorem sameFor_trans {u : Tid} {w w1 w2 : Wrap} (h1 : SameFor u w w1) (h2 : SameFor u w1 w2) : SameFor u w w2 :=
  ⟨fun m => (h2.reg m).trans (h1.reg m), fun m => (h2.hold m).trans (h1.hold m), fun h => h1.own (h2.own h),
    fun h => h1.pendR (h2.pendR h)⟩

theorem isHolder_congr {w w' : Wrap} (h1 : w'.writer = w.writer) (h2 : w'.readers = w.readers) (m : Mode) (u : Tid) :
    isHolder m u w' ↔ isHolder m u w := by
  cases m with
  | r => show u ∈ w'.readers ↔ _; rw [h2]; exact .rfl
  | w => show w'.writer = _ ↔ _; rw [h1]; exact .rfl

theorem isHolder_mode_unique {m m' : Mode} {t : Tid} {w : Wrap} (h : ObjOk w) (h1 : isHolder m t w)
    (h2 : isHolder m' t w) : m = m' := by
  cases m <;> cases m'
  · rfl
  · exact absurd ((h.wOk t h2).2.1 ▸ h1 : t ∈ []) List.not_mem_nil
  · exact absurd ((h.wOk t h1).2.1 ▸ h2 : t ∈ []) List.not_mem_nil
  · rfl

theorem objOk_wait {m : Mode} {t : Tid} {w w' : Wrap} (h : ObjOk w) (hres : tryLock m t w = .wait w') : ObjOk w' := by
  cases m with
  | r =>
    obtain ⟨hn, hown, _, rfl⟩ := tryR_wait hres
    exact { h with
      tokLe := by rw [List.length_append]; exact Nat.le_trans h.tokLe (Nat.le_add_right _ _)
      tokGe := fun e => absurd e hown
      pendRNd := List.nodup_append.2 ⟨h.pendRNd, List.pairwise_singleton _ t,
        fun a ha b hb e => hn (List.mem_singleton.1 hb ▸ e ▸ ha)⟩ }
  | w =>
    rcases tryW_wait hres with ⟨hnone, rfl⟩ | ⟨_, rfl⟩
    · exact { h with
        wOk := fun u hu => nomatch hnone.symm.trans (h.wOk u hu).1
        tokGe := fun e => nomatch e }
    · exact { h with }

theorem sameFor_wait {m : Mode} {t u : Tid} {w w' : Wrap} (hres : tryLock m t w = .wait w') (hu : u ≠ t) :
    SameFor u w w' := by
  cases m with
  | r =>
    obtain ⟨_, _, _, rfl⟩ := tryR_wait hres
    exact ⟨fun _ => .rfl, fun _ => .rfl, id,
      fun h => (List.mem_append.1 h).resolve_right fun e => hu (List.mem_singleton.1 e)⟩
  | w =>
    rcases tryW_wait hres with ⟨_, rfl⟩ | ⟨_, rfl⟩
    · exact ⟨fun _ => .rfl, fun _ => .rfl, fun h => absurd (Option.some.inj h).symm hu, id⟩
    · exact ⟨fun _ => .rfl, fun _ => .rfl, id, id⟩

theorem objOk_enter {m : Mode} {t : Tid} {w w' : Wrap} (h : ObjOk w) (hnr : t ∉ w.readers)
    (hres : tryLock m t w = .enter w') : ObjOk w' := by
  cases m with
  | w =>
    obtain ⟨hown, hrd, htok, rfl⟩ := tryW_enter hres
    exact { h with wOk := fun u hu => Option.some.inj hu ▸ ⟨hown, hrd, htok⟩ }
  | r =>
    have hrd : (t :: w.readers).Nodup := List.nodup_cons.2 ⟨hnr, h.rdNd⟩
    rcases tryR_enter hres with ⟨hin, hpos, rfl⟩ | ⟨_, hnone, rfl⟩ | ⟨_, hsome, hpos, rfl⟩
    · exact { h with
        rdNd := hrd
        wOk := fun u hu => absurd (h.wOk u hu).2.2 (Nat.ne_of_gt hpos)
        tokLe := by rw [List.length_erase_of_mem hin]; exact Nat.sub_le_sub_right h.tokLe 1
        tokGe := fun e => by rw [List.length_erase_of_mem hin]; exact Nat.sub_le_sub_right (h.tokGe e) 1
        pendRNd := h.pendRNd.erase t }
    · exact { h with
        rdNd := hrd
        wOk := fun u hu => nomatch hnone.symm.trans (h.wOk u hu).1 }
    · exact { h with
        rdNd := hrd
        wOk := fun u hu => absurd (h.wOk u hu).2.2 (Nat.ne_of_gt hpos)
        tokLe := Nat.le_trans (Nat.sub_le _ _) h.tokLe
        tokGe := fun e => absurd e hsome }

theorem sameFor_enter {m : Mode} {t u : Tid} {w w' : Wrap} (h : ObjOk w) (hres : tryLock m t w = .enter w')
    (hu : u ≠ t) : SameFor u w w' := by
  cases m with
  | w =>
    obtain ⟨hown, _, _, rfl⟩ := tryW_enter hres
    refine ⟨fun _ => .rfl, fun m => ?_, id, id⟩
    cases m with
    | r => exact .rfl
    | w => exact ⟨fun e => absurd (Option.some.inj e).symm hu,
        fun e => absurd (Option.some.inj ((h.wOk u e).1.symm.trans hown)) hu⟩
  | r =>
    have hold : ∀ m, isHolder m u { w with readers := t :: w.readers } ↔ isHolder m u w := fun m => by
      cases m with
      | r => exact List.mem_cons.trans (or_iff_right hu)
      | w => exact .rfl
    rcases tryR_enter hres with ⟨_, _, rfl⟩ | ⟨_, _, rfl⟩ | ⟨_, _, _, rfl⟩
    · exact ⟨fun _ => .rfl, hold, id, List.mem_of_mem_erase⟩
    · exact ⟨fun _ => .rfl, hold, id, id⟩
    · exact ⟨fun _ => .rfl, hold, id, id⟩

theorem objOk_bump {m : Mode} {t : Tid} {w : Wrap} (h : ObjOk w) (hn : t ∉ regOf m w) : ObjOk (bump m t w) := by
  obtain ⟨e1, e2, e3, e4, e5⟩ := bump_rw m t w
  refine ⟨fun m' => ?_, fun m' => ?_, e3 ▸ h.rdNd, ?_, ?_, ?_, e5 ▸ h.pendRNd⟩
  · rw [regOf_bump]; split
    · next e => subst e; exact List.nodup_cons.2 ⟨hn, h.regNd _⟩
    · exact h.regNd m'
  · rw [regOf_bump, cntOf_bump]; split
    · rw [h.cnt, List.length_cons, Int.natCast_succ]
    · exact h.cnt m'
  · rw [e1, e2, e3, e4]; exact h.wOk
  · rw [e4, e5]; exact h.tokLe
  · rw [e1, e4, e5]; exact h.tokGe

theorem sameFor_bump {m : Mode} {t u : Tid} (w : Wrap) (hu : u ≠ t) : SameFor u w (bump m t w) := by
  obtain ⟨e1, e2, e3, _, e5⟩ := bump_rw m t w
  refine ⟨fun m' => ?_, fun m' => isHolder_congr e2 e3 m' u, fun h => e1 ▸ h, fun h => e5 ▸ h⟩
  rw [regOf_bump]; split
  · exact List.mem_cons.trans (or_iff_right hu)
  · exact .rfl

theorem length_erase_int {l : List Tid} {t : Tid} (h : t ∈ l) : ((l.erase t).length : Int) = (l.length : Int) - 1 := by
  have h1 := List.length_erase_of_mem h
  have h2 : 0 < l.length := List.length_pos_of_mem h
  omega

theorem objOk_unbump {m : Mode} {t : Tid} {w : Wrap} (h : ObjOk w) (hin : t ∈ regOf m w) : ObjOk (unbump m t w) := by
  obtain ⟨e1, e2, e3, e4, e5⟩ := unbump_rw m t w
  refine ⟨fun m' => ?_, fun m' => ?_, e3 ▸ h.rdNd, ?_, ?_, ?_, e5 ▸ h.pendRNd⟩
  · rw [regOf_unbump]; split
    · exact (h.regNd m').erase t
    · exact h.regNd m'
  · rw [regOf_unbump, cntOf_unbump]; split
    · next e => subst e; rw [h.cnt, length_erase_int hin]
    · exact h.cnt m'
  · rw [e1, e2, e3, e4]; exact h.wOk
  · rw [e4, e5]; exact h.tokLe
  · rw [e1, e4, e5]; exact h.tokGe

theorem sameFor_unbump {m : Mode} {t u : Tid} (w : Wrap) (hu : u ≠ t) : SameFor u w (unbump m t w) := by
  obtain ⟨e1, e2, e3, _, e5⟩ := unbump_rw m t w
  refine ⟨fun m' => ?_, fun m' => isHolder_congr e2 e3 m' u, fun h => e1 ▸ h, fun h => e5 ▸ h⟩
  rw [regOf_unbump]; split
  · exact List.mem_erase_of_ne hu
  · exact .rfl

theorem objOk_leave {m : Mode} {t : Tid} {w : Wrap} (h : ObjOk w) (hh : isHolder m t w) : ObjOk (leave m t w) := by
  cases m with
  | r =>
    exact { h with
      rdNd := h.rdNd.erase t
      wOk := fun u hu => absurd ((h.wOk u hu).2.1 ▸ hh : t ∈ []) List.not_mem_nil }
  | w =>
    have htok : w.tokens = 0 := (h.wOk t hh).2.2
    exact { h with
      wOk := fun _ hu => nomatch hu
      tokLe := by show w.tokens + _ ≤ _; rw [htok, Nat.zero_add]; exact Nat.le_refl _
      tokGe := fun _ => Nat.le_add_left _ _ }

theorem sameFor_leave {m : Mode} {t u : Tid} {w : Wrap} (hh : isHolder m t w) (hu : u ≠ t) :
    SameFor u w (leave m t w) := by
  cases m with
  | r =>
    refine ⟨fun _ => .rfl, fun m' => ?_, id, id⟩
    cases m' with
    | r => exact List.mem_erase_of_ne hu
    | w => exact .rfl
  | w =>
    refine ⟨fun _ => .rfl, fun m' => ?_, fun e => (nomatch e), id⟩
    cases m' with
    | r => exact .rfl
    | w => exact ⟨fun e => (nomatch e), fun e => absurd (Option.some.inj (e.symm.trans hh)) hu⟩

theorem freeCond_iff {c : Cfg} (hc : c.freeGuard = .bothZero) {w : Wrap} (h : ObjOk w) :
    freeCond c w = true ↔ ∀ m, regOf m w = [] := by
  have hr := h.cnt .r
  have hw := h.cnt .w
  simp only [cntOf, regOf] at hr hw
  simp only [freeCond, hc, Bool.and_eq_true, beq_iff_eq, hr, hw, Int.natCast_eq_zero, List.length_eq_zero_iff]
  exact ⟨fun h m => by cases m; exact h.1; exact h.2, fun h => ⟨h .r, h .w⟩⟩

/-- what a phase promises about the keys of the current call: every key of the list the call was made with is still
ahead, registered or (once locking has begun) held; an unlock call names distinct keys that are held -/
def PhaseOk (th : Thread) : Prop :=
  match th.phase with
  | .idle => True
  | .reg _ all gs acc => ∀ k ∈ all, k ∈ gs.flatten ∨ k ∈ acc.map (·.1)
  | .acq m all todo => ∀ k ∈ all, k ∈ todo.map (·.1) ∨ holdsIn th m k
  | .rel m gs => gs.flatten.Nodup ∧ ∀ k ∈ gs.flatten, holdsIn th m k

structure ThOk (th : Thread) : Prop where
  keysNd : (allKeys th).Nodup
  ph : PhaseOk th

namespace ThOk

theorem regAll {th : Thread} (h : ThOk th) {m all gs acc} (hph : th.phase = .reg m all gs acc) :
    ∀ k ∈ all, k ∈ gs.flatten ∨ k ∈ acc.map (·.1) := by
  have := h.ph; rw [PhaseOk, hph] at this; exact this

theorem acqAll {th : Thread} (h : ThOk th) {m all todo} (hph : th.phase = .acq m all todo) :
    ∀ k ∈ all, k ∈ todo.map (·.1) ∨ holdsIn th m k := by
  have := h.ph; rw [PhaseOk, hph] at this; exact this

theorem relOk {th : Thread} (h : ThOk th) {m gs} (hph : th.phase = .rel m gs) :
    gs.flatten.Nodup ∧ ∀ k ∈ gs.flatten, holdsIn th m k := by
  have := h.ph; rw [PhaseOk, hph] at this; exact this

end ThOk

theorem refs_advance_perm {th : Thread} {m all k o rest} (hph : th.phase = .acq m all ((k, o) :: rest)) :
    (refs th).Perm (refs ⟨.acq m all rest, (k, o, m) :: th.held⟩) := by
  simp only [refs, hph, pend, List.map_cons]
  exact List.perm_middle

theorem thOk_advance {th : Thread} {m all k o rest} (h : ThOk th) (hph : th.phase = .acq m all ((k, o) :: rest)) :
    ThOk ⟨.acq m all rest, (k, o, m) :: th.held⟩ := by
  refine ⟨?_, fun k' hk' => ?_⟩
  · have := h.keysNd
    unfold allKeys at this ⊢
    rw [hph] at this
    exact ((((refs_advance_perm hph).map _).append_right _).nodup_iff).1 this
  · rcases h.acqAll hph k' hk' with h | ⟨o', h⟩
    · rcases List.mem_cons.1 h with rfl | h
      · exact .inr ⟨o, List.mem_cons_self⟩
      · exact .inl h
    · exact .inr ⟨o', List.mem_cons_of_mem _ h⟩

theorem mem_refs_register {th : Thread} {m all k ks gs acc} (hph : th.phase = .reg m all ((k :: ks) :: gs) acc)
    (o : ObjId) (e : Key × ObjId × Mode) :
    e ∈ refs ⟨.reg m all (ks :: gs) (acc ++ [(k, o)]), th.held⟩ ↔ e ∈ refs th ∨ e = (k, o, m) := by
  simp only [refs, hph, pend, List.map_append, List.map_cons, List.map_nil, List.mem_append, List.mem_singleton,
    or_assoc]

theorem key_not_registered {th : Thread} {m all k ks gs acc} (h : ThOk th)
    (hph : th.phase = .reg m all ((k :: ks) :: gs) acc) (o : ObjId) (m' : Mode) : (k, o, m') ∉ refs th := by
  intro hm
  have := h.keysNd
  simp only [allKeys, hph, future, List.flatten_cons, List.cons_append] at this
  exact (List.nodup_append.1 this).2.2 k (List.mem_map.2 ⟨_, hm, rfl⟩) k List.mem_cons_self rfl

theorem thOk_register {th : Thread} {m all k ks gs acc} (h : ThOk th)
    (hph : th.phase = .reg m all ((k :: ks) :: gs) acc) (o : ObjId) :
    ThOk ⟨.reg m all (ks :: gs) (acc ++ [(k, o)]), th.held⟩ := by
  refine ⟨?_, fun k' hk' => ?_⟩
  · have := h.keysNd
    simp only [allKeys, refs, hph, pend, future, List.map_append, List.map_cons, List.map_map, List.map_nil,
      List.flatten_cons, List.append_assoc, List.cons_append, List.nil_append] at this ⊢
    exact this
  · rw [List.map_append, List.mem_append]
    rcases h.regAll hph k' hk' with h | h
    · rcases List.mem_cons.1 (List.flatten_cons ▸ h) with rfl | h
      · exact .inr (.inr List.mem_cons_self)
      · exact .inl h
    · exact .inr (.inl h)

theorem mem_held_release {th : Thread} (k : Key) (e : Key × ObjId × Mode) :
    e ∈ th.held.filter (fun e => e.1 ≠ k) ↔ e ∈ th.held ∧ e.1 ≠ k := by
  rw [List.mem_filter, decide_eq_true_eq]

theorem refs_of_pend_nil {th : Thread} (h : pend th.phase = []) : refs th = th.held := by
  rw [refs, h, List.append_nil]

theorem refs_rel (m : Mode) (gs : List (List Key)) (l : List (Key × ObjId × Mode)) : refs ⟨.rel m gs, l⟩ = l :=
  refs_of_pend_nil rfl

theorem held_keys_nodup {th : Thread} {m gs} (h : ThOk th) (hph : th.phase = .rel m gs) : (th.held.map (·.1)).Nodup := by
  have := h.keysNd
  rw [allKeys, refs_of_pend_nil (by rw [hph]; rfl), hph] at this
  exact (List.nodup_append.1 this).1

theorem thOk_release {th : Thread} {m k ks gs} (h : ThOk th) (hph : th.phase = .rel m ((k :: ks) :: gs)) :
    ThOk ⟨.rel m (ks :: gs), th.held.filter (fun e => e.1 ≠ k)⟩ := by
  obtain ⟨hnd, hall⟩ := h.relOk hph
  rw [List.flatten_cons, List.cons_append] at hnd hall
  refine ⟨?_, (List.nodup_cons.1 hnd).2, fun k' hk' => ?_⟩
  · rw [allKeys, refs_rel]
    exact List.nodup_append.2 ⟨(List.filter_sublist.map _).nodup (held_keys_nodup h hph), List.nodup_nil,
      fun _ _ _ hb => nomatch hb⟩
  · obtain ⟨o', ho'⟩ := hall k' (List.mem_cons_of_mem _ hk')
    exact ⟨o', (mem_held_release k _).2 ⟨ho', fun e => (List.nodup_cons.1 hnd).1 (e ▸ hk')⟩⟩

/-- thread `t` in state `th` and object `o` in state `w` agree: `t` is counted on `o` exactly for its registrations,
holds it exactly as its `held` list says, and owns `rw.w` or sleeps in the reader queue only while inside the blocking
call on `o` -/
structure Link (t : Tid) (th : Thread) (o : ObjId) (w : Wrap) : Prop where
  reg : ∀ m, t ∈ regOf m w ↔ ∃ k, (k, o, m) ∈ refs th
  hold : ∀ m, isHolder m t w ↔ ∃ k, (k, o, m) ∈ th.held
  own : w.wOwner = some t → w.writer = some t ∨ ∃ all k rest, th.phase = .acq .w all ((k, o) :: rest)
  pendR : t ∈ w.pendR → ∃ all k rest, th.phase = .acq .r all ((k, o) :: rest)

namespace Link

/-- another thread's step on the object -/
theorem obj {u : Tid} {th : Thread} {o : ObjId} {w w' : Wrap} (h : Link u th o w) (hs : SameFor u w w') :
    Link u th o w' where
  reg m := (hs.reg m).trans (h.reg m)
  hold m := (hs.hold m).trans (h.hold m)
  own hw := (h.own (hs.own hw)).imp (hs.hold .w).2 id
  pendR hp := h.pendR (hs.pendR hp)

/-- the thread's step on another object: it changes, but not in what it has to do with `o`, and it was not inside the
blocking call on `o` -/
theorem thread {t : Tid} {th th' : Thread} {o : ObjId} {w : Wrap} (h : Link t th o w)
    (hrefs : ∀ k m, (k, o, m) ∈ refs th' ↔ (k, o, m) ∈ refs th)
    (hheld : ∀ k m, (k, o, m) ∈ th'.held ↔ (k, o, m) ∈ th.held)
    (hph : ∀ m all k rest, th.phase ≠ .acq m all ((k, o) :: rest)) : Link t th' o w where
  reg m := (h.reg m).trans (exists_congr fun k => (hrefs k m).symm)
  hold m := (h.hold m).trans (exists_congr fun k => (hheld k m).symm)
  own hw := (h.own hw).imp id fun ⟨_, _, _, e⟩ => absurd e (hph _ _ _ _)
  pendR hp := let ⟨_, _, _, e⟩ := h.pendR hp; absurd e (hph _ _ _ _)

end Link

theorem link_wait {m : Mode} {t : Tid} {th : Thread} {o : ObjId} {w w' : Wrap} {all k rest} (h : Link t th o w)
    (hph : th.phase = .acq m all ((k, o) :: rest)) (hres : tryLock m t w = .wait w') : Link t th o w' := by
  cases m with
  | r =>
    obtain ⟨_, _, _, rfl⟩ := tryR_wait hres
    exact { h with pendR := fun _ => ⟨all, k, rest, hph⟩ }
  | w =>
    rcases tryW_wait hres with ⟨_, rfl⟩ | ⟨_, rfl⟩
    · exact { h with own := fun _ => .inr ⟨all, k, rest, hph⟩ }
    · exact { h with }

theorem link_enter {m : Mode} {t : Tid} {th : Thread} {o : ObjId} {w w' : Wrap} {all k rest} (h : Link t th o w)
    (hok : ObjOk w) (hph : th.phase = .acq m all ((k, o) :: rest)) (hnot : ∀ k' m', (k', o, m') ∉ th.held)
    (hres : tryLock m t w = .enter w') : Link t ⟨.acq m all rest, (k, o, m) :: th.held⟩ o w' := by
  have hnh : ∀ m', ¬ isHolder m' t w := fun m' hh => let ⟨k', hk'⟩ := (h.hold m').1 hh; hnot k' m' hk'
  have hreg : ∀ m', t ∈ regOf m' w ↔ ∃ k', (k', o, m') ∈ refs ⟨.acq m all rest, (k, o, m) :: th.held⟩ :=
    fun m' => (h.reg m').trans (exists_congr fun _ => (refs_advance_perm hph).mem_iff)
  have hheld : ∀ m', (∃ k', (k', o, m') ∈ (k, o, m) :: th.held) ↔ m' = m := by
    intro m'
    constructor
    · rintro ⟨k', hk'⟩
      rcases List.mem_cons.1 hk' with e | e
      · exact congrArg (·.2.2) e
      · exact absurd e (hnot k' m')
    · rintro rfl; exact ⟨k, List.mem_cons_self⟩
  cases m with
  | w =>
    obtain ⟨_, hrd, _, rfl⟩ := tryW_enter hres
    refine ⟨hreg, fun m' => ?_, fun _ => .inl rfl, fun hp => ?_⟩
    · rw [hheld]
      cases m' with
      | r => exact iff_of_false (fun e : t ∈ w.readers => by rw [hrd] at e; cases e) (by decide)
      | w => exact iff_of_true rfl rfl
    · obtain ⟨_, _, _, e⟩ := h.pendR hp
      rw [hph] at e; cases e
  | r =>
    have hhold : ∀ m', isHolder m' t { w with readers := t :: w.readers } ↔
        ∃ k', (k', o, m') ∈ (k, o, Mode.r) :: th.held := by
      intro m'
      rw [hheld]
      cases m' with
      | r => exact iff_of_true List.mem_cons_self rfl
      | w => exact iff_of_false (hnh .w) (by decide)
    have hown : w.wOwner = some t → False := fun e =>
      (h.own e).elim (hnh .w) fun ⟨_, _, _, e'⟩ => by rw [hph] at e'; cases e'
    rcases tryR_enter hres with ⟨_, _, rfl⟩ | ⟨hn, _, rfl⟩ | ⟨hn, _, _, rfl⟩
    · exact ⟨hreg, hhold, fun e => (hown e).elim, fun hp => absurd rfl (hok.pendRNd.mem_erase_iff.1 hp).1⟩
    · exact ⟨hreg, hhold, fun e => (hown e).elim, fun hp => absurd hp hn⟩
    · exact ⟨hreg, hhold, fun e => (hown e).elim, fun hp => absurd hp hn⟩

theorem link_register {m : Mode} {t : Tid} {th : Thread} {o : ObjId} {w : Wrap} {all k ks gs acc} (h : Link t th o w)
    (hph : th.phase = .reg m all ((k :: ks) :: gs) acc) :
    Link t ⟨.reg m all (ks :: gs) (acc ++ [(k, o)]), th.held⟩ o (bump m t w) := by
  obtain ⟨e1, e2, e3, _, e5⟩ := bump_rw m t w
  refine ⟨fun m' => ?_, fun m' => (isHolder_congr e2 e3 m' t).trans (h.hold m'), fun hw => ?_, fun hp => ?_⟩
  · rw [regOf_bump]
    simp only [mem_refs_register hph]
    split
    · next e => subst e; exact iff_of_true List.mem_cons_self ⟨k, .inr rfl⟩
    · next e => exact (h.reg m').trans (exists_congr fun k' => (or_iff_left fun h => e (congrArg (·.2.2) h)).symm)
  · rw [e1] at hw; rw [e2]
    exact (h.own hw).imp id fun ⟨_, _, _, e⟩ => by rw [hph] at e; cases e
  · rw [e5] at hp
    obtain ⟨_, _, _, e⟩ := h.pendR hp
    rw [hph] at e; cases e

/-- before the unlock `t` has to do with `o` through the key being released only; afterwards not at all -/
theorem link_release {m : Mode} {t : Tid} {th : Thread} {o : ObjId} {w : Wrap} {k ks gs} (h : Link t th o w)
    (hok : ObjOk w) (hph : th.phase = .rel m ((k :: ks) :: gs))
    (honly : ∀ k' m', (k', o, m') ∈ th.held → k' = k ∧ m' = m) :
    Link t ⟨.rel m (ks :: gs), th.held.filter (fun e => e.1 ≠ k)⟩ o (unbump m t (leave m t w)) := by
  have hgone : ∀ k' m', (k', o, m') ∉ th.held.filter (fun e => e.1 ≠ k) := fun k' m' h =>
    ((mem_held_release k _).1 h).2 (honly k' m' ((mem_held_release k _).1 h).1).1
  have hregm : ∀ m', t ∈ regOf m' w → m' = m := fun m' hm =>
    let ⟨k', hk'⟩ := (h.reg m').1 hm; (honly k' m' (refs_of_pend_nil (by rw [hph]; rfl) ▸ hk')).2
  have hholdm : ∀ m', isHolder m' t w → m' = m := fun m' hm =>
    let ⟨k', hk'⟩ := (h.hold m').1 hm; (honly k' m' hk').2
  obtain ⟨e1, e2, e3, _, e5⟩ := unbump_rw m t (leave m t w)
  refine ⟨fun m' => iff_of_false ?_ fun ⟨k', hk'⟩ => hgone k' m' (refs_rel m _ _ ▸ hk' :),
    fun m' => iff_of_false ?_ fun ⟨k', hk'⟩ => hgone k' m' hk', fun hw => ?_, fun hp => ?_⟩
  · rw [regOf_unbump, regOf_leave]
    split
    · exact fun hm => ((hok.regNd m').mem_erase_iff.1 hm).1 rfl
    · next e => exact fun hm => e (hregm m' hm)
  · rw [isHolder_congr e2 e3]
    intro hm
    cases m with
    | r =>
      cases m' with
      | r => exact (hok.rdNd.mem_erase_iff.1 hm).1 rfl
      | w => exact nomatch hholdm .w hm
    | w =>
      cases m' with
      | r => exact nomatch hholdm .r hm
      | w => exact nomatch hm
  · rw [e1] at hw
    cases m with
    | r => exact (h.own hw).elim (fun hw => nomatch hholdm .w hw) fun ⟨_, _, _, e⟩ => by rw [hph] at e; cases e
    | w => exact nomatch hw
  · rw [e5] at hp
    have hp : t ∈ w.pendR := by cases m <;> exact hp
    obtain ⟨_, _, _, e⟩ := h.pendR hp
    rw [hph] at e; cases e

structure Inv (s : State) : Prop where
  fresh : ∀ o, s.next ≤ o → s.objs o = Wrap.empty
  tRange : ∀ k o, s.table k = some o → o < s.next
  tInj : ∀ k1 k2 o, s.table k1 = some o → s.table k2 = some o → k1 = k2
  refTab : ∀ t k o m, (k, o, m) ∈ refs (s.th t) → s.table k = some o
  tabLive : ∀ k o, s.table k = some o → ∃ m, regOf m (s.objs o) ≠ []
  obj : ∀ o, ObjOk (s.objs o)
  thr : ∀ t, ThOk (s.th t)
  link : ∀ t o, Link t (s.th t) o (s.objs o)
  noFault : s.fault = false

theorem inv_init : Inv State.init where
  fresh _ _ := rfl
  tRange _ _ h := nomatch h
  tInj _ _ _ h := nomatch h
  refTab _ _ _ _ h := nomatch h
  tabLive _ _ h := nomatch h
  obj _ := {
    regNd := fun m => by cases m <;> exact List.nodup_nil
    cnt := fun m => by cases m <;> rfl
    rdNd := List.nodup_nil
    wOk := fun _ h => nomatch h
    tokLe := Nat.le_refl _
    tokGe := fun _ => Nat.le_refl _
    pendRNd := List.nodup_nil }
  thr _ := ⟨List.nodup_nil, trivial⟩
  link _ _ := {
    reg := fun m => ⟨fun h => (by cases m <;> cases h), fun ⟨_, h⟩ => nomatch h⟩
    hold := fun m => ⟨fun h => (by cases m <;> cases h), fun ⟨_, h⟩ => nomatch h⟩
    own := fun h => nomatch h
    pendR := fun h => nomatch h }
  noFault := rfl

namespace Inv

theorem setTh {s : State} (hI : Inv s) (t : Tid) {th' : Thread} (hheld : th'.held = (s.th t).held)
    (hpend : pend th'.phase = pend (s.th t).phase)
    (hph : ∀ m all k o rest, (s.th t).phase ≠ .acq m all ((k, o) :: rest)) (hok : ThOk th') :
    Inv (setTh s t th') := by
  have hrefs : refs th' = refs (s.th t) := by rw [refs, refs, hheld, hpend]
  have hcases : ∀ (P : Tid → Thread → Prop), (∀ u, P u (s.th u)) → P t th' → ∀ u, P u ((Nv.C02.setTh s t th').th u) := by
    intro P hP ht u
    by_cases hu : u = t
    · subst hu; rw [setTh_th_same]; exact ht
    · rw [setTh_th_other _ _ _ _ hu]; exact hP u
  exact {
    fresh := hI.fresh, tRange := hI.tRange, tInj := hI.tInj, tabLive := hI.tabLive, obj := hI.obj
    noFault := hI.noFault
    refTab := hcases (fun _ th => ∀ k o m, (k, o, m) ∈ refs th → s.table k = some o) hI.refTab
      (by rw [hrefs]; exact hI.refTab t)
    thr := hcases (fun _ th => ThOk th) hI.thr hok
    link := hcases (fun u th => ∀ o, Link u th o (s.objs o)) hI.link
      fun o => (hI.link t o).thread (by simp [hrefs]) (by simp [hheld]) (hph · · · o ·) }

theorem setPhase {s : State} (hI : Inv s) (t : Tid) {ph ph' : Phase} (hph : (s.th t).phase = ph)
    (hpend : pend ph' = pend ph) (hfut : future ph' = future ph)
    (hnl : ∀ m all k o rest, ph ≠ .acq m all ((k, o) :: rest))
    (hok : PhaseOk { s.th t with phase := ph' }) : Inv (Nv.C02.setTh s t { s.th t with phase := ph' }) := by
  subst hph
  exact hI.setTh t rfl hpend hnl
    ⟨by have := (hI.thr t).keysNd; rw [allKeys, refs] at this ⊢; rw [hpend, hfut]; exact this, hok⟩

theorem update {s s' : State} (hI : Inv s) (t : Tid) (o : ObjId) (k : Key) {th' : Thread} {w' : Wrap}
    (hth : ∀ u, u ≠ t → s'.th u = s.th u) (hT : s'.th t = th')
    (hobj : ∀ o', o' ≠ o → s'.objs o' = s.objs o') (hw : s'.objs o = w')
    (htab : ∀ k', k' ≠ k → s'.table k' = s.table k') (hfault : s'.fault = s.fault)
    (hnext : s.next ≤ s'.next) (ho : o < s'.next)
    (hk : ∀ o', s'.table k = some o' → o' = o) (hko : ∀ k', s.table k' = some o → k' = k)
    (hlive : s'.table k = some o → ∃ m, regOf m w' ≠ [])
    (hkeep : ∀ u, u ≠ t → ∀ o' m, (k, o', m) ∈ refs (s.th u) → s'.table k = some o')
    (hrefT : ∀ k' o' m, (k', o', m) ∈ refs th' → s'.table k' = some o')
    (hobjOk : ObjOk w') (hthOk : ThOk th')
    (hlinkT : Link t th' o w')
    (hlinkN : ∀ o', o' ≠ o → Link t th' o' (s.objs o'))
    (hlinkO : ∀ u, u ≠ t → Link u (s.th u) o w') : Inv s' where
  fresh o' h := by
    have hne : o' ≠ o := fun e => Nat.lt_irrefl _ (Nat.lt_of_lt_of_le (e ▸ ho) h)
    rw [hobj o' hne]; exact hI.fresh o' (Nat.le_trans hnext h)
  tRange k' o' h := by
    by_cases e : k' = k
    · subst e; rw [hk o' h]; exact ho
    · rw [htab k' e] at h; exact Nat.lt_of_lt_of_le (hI.tRange k' o' h) hnext
  tInj k1 k2 o' h1 h2 := by
    by_cases e1 : k1 = k <;> by_cases e2 : k2 = k
    · rw [e1, e2]
    · subst e1; rw [hk o' h1] at h2; rw [htab k2 e2] at h2; exact (hko k2 h2).symm
    · subst e2; rw [hk o' h2] at h1; rw [htab k1 e1] at h1; exact hko k1 h1
    · rw [htab k1 e1] at h1; rw [htab k2 e2] at h2; exact hI.tInj k1 k2 o' h1 h2
  refTab u k' o' m h := by
    by_cases hu : u = t
    · subst hu; rw [hT] at h; exact hrefT k' o' m h
    · rw [hth u hu] at h
      by_cases e : k' = k
      · subst e; exact hkeep u hu o' m h
      · rw [htab k' e]; exact hI.refTab u k' o' m h
  tabLive k' o' h := by
    by_cases e : k' = k
    · subst e; have := hk o' h; subst this; rw [hw]; exact hlive h
    · rw [htab k' e] at h
      have hne : o' ≠ o := fun eo => e (hko k' (eo ▸ h))
      rw [hobj o' hne]; exact hI.tabLive k' o' h
  obj o' := by
    by_cases e : o' = o
    · subst e; rw [hw]; exact hobjOk
    · rw [hobj o' e]; exact hI.obj o'
  thr u := by
    by_cases hu : u = t
    · subst hu; rw [hT]; exact hthOk
    · rw [hth u hu]; exact hI.thr u
  link u o' := by
    by_cases hu : u = t <;> by_cases e : o' = o
    · subst hu; subst e; rw [hT, hw]; exact hlinkT
    · subst hu; rw [hT, hobj o' e]; exact hlinkN o' e
    · subst e; rw [hth u hu, hw]; exact hlinkO u hu
    · rw [hth u hu, hobj o' e]; exact hI.link u o'
  noFault := hfault.trans hI.noFault

theorem not_held_of_todo {s : State} (hI : Inv s) {t m all k o rest}
    (hph : (s.th t).phase = .acq m all ((k, o) :: rest)) (k' : Key) (m' : Mode) : (k', o, m') ∉ (s.th t).held := by
  intro hmem
  have hk : k' = k := hI.tInj k' k o (hI.refTab t k' o m' (mem_refs_of_held hmem)) (hI.refTab t k o m (head_mem_refs hph))
  subst hk
  have := (hI.thr t).keysNd
  simp only [allKeys, refs, hph, pend, future, List.map_append, List.map_cons, List.append_nil] at this
  exact (List.nodup_append.1 this).2.2 k' (List.mem_map.2 ⟨_, hmem, rfl⟩) k' List.mem_cons_self rfl

theorem wait {s : State} (hI : Inv s) {t m all k o rest w1} (hph : (s.th t).phase = .acq m all ((k, o) :: rest))
    (hres : tryLock m t (s.objs o) = .wait w1) : Inv (setObj s o w1) :=
  have htk : s.table k = some o := hI.refTab t k o m (head_mem_refs hph)
  have hl := link_wait (hI.link t o) hph hres
  hI.update t o k (fun _ _ => rfl) rfl (fun _ h => if_neg h) (if_pos rfl) (fun _ _ => rfl) rfl (Nat.le_refl _)
    (hI.tRange k o htk) (fun _ h => Option.some.inj (h.symm.trans htk)) (fun k' h => hI.tInj k' k o h htk)
    (fun _ => ⟨m, List.ne_nil_of_mem ((hl.reg m).2 ⟨k, head_mem_refs hph⟩)⟩)
    (fun u _ o' m' h => hI.refTab u k o' m' h) (hI.refTab t) (objOk_wait (hI.obj o) hres) (hI.thr t) hl
    (fun o' _ => hI.link t o') (fun u hu => (hI.link u o).obj (sameFor_wait hres hu))

theorem enter {s : State} (hI : Inv s) {t m all k o rest w1} (hph : (s.th t).phase = .acq m all ((k, o) :: rest))
    (hres : tryLock m t (s.objs o) = .enter w1) : Inv (Nv.C02.setTh (setObj s o w1) t (advance (s.th t))) := by
  rw [advance_acq hph]
  have htk : s.table k = some o := hI.refTab t k o m (head_mem_refs hph)
  have hnot := hI.not_held_of_todo hph
  have hperm := refs_advance_perm hph
  have hl := link_enter (hI.link t o) (hI.obj o) hph hnot hres
  have hnr : t ∉ (s.objs o).readers := fun h => let ⟨k', hk'⟩ := ((hI.link t o).hold .r).1 h; hnot k' .r hk'
  refine hI.update t o k (fun u hu => setTh_th_other _ _ _ _ hu) (setTh_th_same ..) (fun _ h => if_neg h) (if_pos rfl)
    (fun _ _ => rfl) rfl (Nat.le_refl _) (hI.tRange k o htk) (fun _ h => Option.some.inj (h.symm.trans htk))
    (fun k' h => hI.tInj k' k o h htk)
    (fun _ => ⟨m, List.ne_nil_of_mem ((hl.reg m).2 ⟨k, hperm.mem_iff.1 (head_mem_refs hph)⟩)⟩)
    (fun u _ o' m' h => hI.refTab u k o' m' h) (fun k' o' m' h => hI.refTab t k' o' m' (hperm.mem_iff.2 h))
    (objOk_enter (hI.obj o) hnr hres) (thOk_advance (hI.thr t) hph) hl (fun o' ho' => ?_)
    (fun u hu => (hI.link u o).obj (sameFor_enter (hI.obj o) hres hu))
  refine (hI.link t o').thread (fun _ _ => hperm.mem_iff.symm) (fun k' m' => ?_) (fun _ _ _ _ e => ?_)
  · exact List.mem_cons.trans (or_iff_right fun e => ho' (congrArg (·.2.1) e))
  · rw [hph] at e; cases e; exact ho' rfl

theorem addRef {c : Cfg} (hc : c.countAt ≠ .afterBlock) {s : State} (hI : Inv s) {t m all k ks gs acc}
    (hph : (s.th t).phase = .reg m all ((k :: ks) :: gs) acc) :
    Inv (Nv.C02.setTh (regKey c m t s k).1 t
      ⟨.reg m all (ks :: gs) (acc ++ [(k, (regKey c m t s k).2)]), (s.th t).held⟩) := by
  have h1 := regKey_th c m t s k
  obtain ⟨h3, h4, h5, h2⟩ := regKey_spec hc m t (hI.fresh _ (Nat.le_refl _)) k
  generalize regKey c m t s k = r at *
  obtain ⟨s1, o⟩ := r
  simp only at h1 h2 h3 h4 h5 ⊢
  -- the key is new to the thread, and so is the object
  have hknew := key_not_registered (hI.thr t) hph
  have hko : ∀ k', s.table k' = some o → k' = k := by
    intro k' hk'
    rcases h3 with ⟨htk, _⟩ | ⟨_, e, _⟩
    · exact hI.tInj k' k o hk' htk
    · exact absurd (hI.tRange k' o hk') (e ▸ Nat.lt_irrefl _)
  have hno : ∀ k' m', (k', o, m') ∉ refs (s.th t) := fun k' m' h => by
    have := hko k' (hI.refTab t k' o m' h); subst this; exact hknew o m' h
  have hrefs := mem_refs_register hph o
  refine hI.update t o k (fun u hu => (setTh_th_other _ _ _ _ hu).trans (congrFun h1 u)) (setTh_th_same ..)
    (fun o' h => by rw [setTh_objs, h5, upd_other _ _ _ _ h]) (by rw [setTh_objs, h5, upd_same])
    (fun k' h => by rw [setTh_table, h4, upd_other _ _ _ _ h]) h2 ?next ?o
    (fun o' h => by rw [setTh_table, h4, upd_same] at h; exact (Option.some.inj h).symm) hko
    (fun _ => ⟨m, by rw [regOf_bump, if_pos rfl]; exact List.cons_ne_nil _ _⟩) ?keep ?refT
    (objOk_bump (hI.obj o) fun h => let ⟨k', hk'⟩ := ((hI.link t o).reg m).1 h; hno k' m hk')
    (thOk_register (hI.thr t) hph o) (link_register (hI.link t o) hph) ?linkN
    (fun u hu => (hI.link u o).obj (sameFor_bump _ hu))
  case next =>
    rcases h3 with ⟨_, e⟩ | ⟨_, _, e⟩
    · exact Nat.le_of_eq e.symm
    · rw [setTh_next, e]; exact Nat.le_succ _
  case o =>
    rcases h3 with ⟨htk, e⟩ | ⟨_, e1, e2⟩
    · rw [setTh_next, e]; exact hI.tRange k o htk
    · rw [setTh_next, e2, e1]; exact Nat.lt_succ_self _
  case keep =>
    intro u _ o' m' h
    rw [setTh_table, h4, upd_same]
    rcases h3 with ⟨htk, _⟩ | ⟨htk, _⟩
    · exact (hI.refTab u k o' m' h).symm.trans htk ▸ rfl
    · exact nomatch (hI.refTab u k o' m' h).symm.trans htk
  case refT =>
    intro k' o' m' h
    rw [setTh_table, h4]
    rcases (hrefs _).1 h with h | h
    · have hne : k' ≠ k := fun e => hknew o' m' (e ▸ h)
      rw [upd_other _ _ _ _ hne]; exact hI.refTab t k' o' m' h
    · cases h; exact upd_same ..
  case linkN =>
    intro o' ho'
    exact (hI.link t o').thread (fun k' m' => (hrefs _).trans (or_iff_left fun e => ho' (congrArg (·.2.1) e)))
      (fun _ _ => .rfl) (fun _ _ _ _ e => by rw [hph] at e; cases e)

theorem delRef {c : Cfg} (hc : c.freeGuard = .bothZero) {s : State} (hI : Inv s) {t m k ks gs}
    (hph : (s.th t).phase = .rel m ((k :: ks) :: gs)) :
    Inv (Nv.C02.setTh (relKey c m t s k) t { (relKey c m t s k).th t with phase := .rel m (ks :: gs) }) := by
  obtain ⟨o, hheld⟩ := ((hI.thr t).relOk hph).2 k List.mem_cons_self
  have htk : s.table k = some o := hI.refTab t k o m (mem_refs_of_held hheld)
  have hl := hI.link t o
  have hh : isHolder m t (s.objs o) := (hl.hold m).2 ⟨k, hheld⟩
  have hin : t ∈ regOf m (leave m t (s.objs o)) := by rw [regOf_leave]; exact (hl.reg m).2 ⟨k, mem_refs_of_held hheld⟩
  have honly : ∀ k' m', (k', o, m') ∈ (s.th t).held → k' = k ∧ m' = m := by
    intro k' m' h
    exact ⟨hI.tInj k' k o (hI.refTab t k' o m' (mem_refs_of_held h)) htk,
      isHolder_mode_unique (hI.obj o) ((hl.hold m').2 ⟨k', h⟩) hh⟩
  have hw2 := objOk_unbump (objOk_leave (hI.obj o) hh) hin
  have hsame : ∀ u, u ≠ t → SameFor u (s.objs o) (unbump m t (leave m t (s.objs o))) := fun u hu =>
    sameFor_trans (sameFor_leave hh hu) (sameFor_unbump _ hu)
  have hlT := link_release hl (hI.obj o) hph honly
  have hfree := freeCond_iff hc hw2
  rw [relKey_spec c htk hh]
  generalize unbump m t (leave m t (s.objs o)) = w2 at *
  have htabk : ∀ tab : Key → Option ObjId, tab = (if freeCond c w2 then upd s.table k none else s.table) →
      (∀ k', k' ≠ k → tab k' = s.table k') ∧ (tab k = some o ↔ ∃ m', regOf m' w2 ≠ []) ∧ ∀ o', tab k = some o' → o' = o := by
    rintro _ rfl
    by_cases hf : freeCond c w2 = true
    · rw [if_pos hf, upd_same]
      exact ⟨fun k' h => upd_other _ _ _ _ h, iff_of_false (fun e => nomatch e) fun ⟨m', e⟩ => e (hfree.1 hf m'),
        fun _ e => nomatch e⟩
    · rw [if_neg hf]
      exact ⟨fun _ _ => rfl, iff_of_true htk (Classical.not_forall.1 (mt hfree.2 hf)),
        fun _ e => Option.some.inj (e.symm.trans htk)⟩
  obtain ⟨htabN, htabK, htabK'⟩ := htabk _ rfl
  refine hI.update t o k (th' := ⟨.rel m (ks :: gs), (s.th t).held.filter (fun e => e.1 ≠ k)⟩)
    (fun u hu => (setTh_th_other _ _ _ _ hu).trans (upd_other _ _ _ _ hu)) (by simp only [setTh_th_same, upd_same])
    (fun o' h => upd_other _ _ _ _ h) (upd_same ..) htabN rfl (Nat.le_refl _) (hI.tRange k o htk) htabK'
    (fun k' h => hI.tInj k' k o h htk) htabK.1 ?keep ?refT hw2 (thOk_release (hI.thr t) hph) hlT ?linkN
    (fun u hu => (hI.link u o).obj (hsame u hu))
  case keep =>
    intro u hu o' m' h
    have ho' : o' = o := Option.some.inj ((hI.refTab u k o' m' h).symm.trans htk)
    subst ho'
    exact htabK.2 ⟨m', List.ne_nil_of_mem (((hsame u hu).reg m').2 (((hI.link u o').reg m').2 ⟨k, h⟩))⟩
  case refT =>
    intro k' o' m' h
    obtain ⟨h, hne⟩ := (mem_held_release k _).1 (refs_rel m _ _ ▸ h :)
    exact (htabN k' hne).trans (hI.refTab t k' o' m' (mem_refs_of_held h))
  case linkN =>
    intro o' ho'
    have hiff : ∀ k' m', (k', o', m') ∈ (s.th t).held.filter (fun e => e.1 ≠ k) ↔ (k', o', m') ∈ (s.th t).held :=
      fun k' m' => (mem_held_release k _).trans (and_iff_left_of_imp fun h e =>
        ho' (Option.some.inj ((hI.refTab t k' o' m' (mem_refs_of_held h)).symm.trans ((show k' = k from e) ▸ htk))))
    refine (hI.link t o').thread (fun k' m' => ?_) hiff (fun _ _ _ _ e => by rw [hph] at e; cases e)
    rw [refs_of_pend_nil (th := s.th t) (by rw [hph]; rfl), refs_rel]
    exact hiff k' m'

end Inv

theorem inv_step {c : Cfg} (hc : Proved c) (n : Nat) (sh : Key → Nat) (hsh : ∀ k, sh k < n) {s s' : State} (hI : Inv s)
    (a : Act) (h : step c n sh s a = some s') : Inv s' := by
  have hcnt : c.countAt ≠ .afterBlock := by rw [hc.2.1]; decide
  cases (Step.of_step h).2 with
  | @call t m keys hok =>
    obtain ⟨hidle, hnd, hnh⟩ := hok
    refine hI.setTh t rfl (by rw [hidle]; rfl) (fun _ _ _ _ _ e => nomatch hidle.symm.trans e)
      ⟨?_, fun k hk => .inl ((mem_groups_flatten c n sh keys k).2 ⟨hk, hsh k⟩)⟩
    have := (hI.thr t).keysNd
    simp only [allKeys, refs, pend, future, hidle, List.append_nil, List.map_nil] at this ⊢
    refine List.nodup_append.2 ⟨this, nodup_groups_flatten c n sh keys hnd, fun a ha b hb e => ?_⟩
    exact hnh b ((mem_groups_flatten c n sh keys b).1 hb).1 (e ▸ ha)
  | @uncall t m keys hok =>
    obtain ⟨hidle, hnd, hh⟩ := hok
    exact hI.setPhase t hidle rfl rfl (fun _ _ _ _ _ e => nomatch e)
      ⟨nodup_groups_flatten c n sh keys hnd, fun k hk => hh k ((mem_groups_flatten c n sh keys k).1 hk).1⟩
  | @regDone t m all acc hph =>
    exact hI.setPhase t hph rfl rfl (fun _ _ _ _ _ e => nomatch e)
      fun k hk => .inl (((hI.thr t).regAll hph k hk).resolve_left List.not_mem_nil)
  | @regSkip t m all gs acc hph =>
    exact hI.setPhase t hph rfl rfl (fun _ _ _ _ _ e => nomatch e)
      ((hI.thr t).regAll hph :)
  | regKey hph => exact hI.addRef hcnt hph
  | @lockDone t m all hph =>
    exact hI.setPhase t hph rfl rfl (fun _ _ _ _ _ e => nomatch e) trivial
  | lockWait hph hres => exact hI.wait hph hres
  | lockEnter hph hres => rw [if_neg hcnt]; exact hI.enter hph hres
  | @relDone t m hph =>
    exact hI.setPhase t hph rfl rfl (fun _ _ _ _ _ e => nomatch e) trivial
  | @relSkip t m gs hph =>
    exact hI.setPhase t hph rfl rfl (fun _ _ _ _ _ e => nomatch e)
      ((hI.thr t).relOk hph :)
  | relKey hph => exact hI.delRef hc.1 hph

theorem inv_reach {c : Cfg} (hc : Proved c) (n : Nat) (sh : Key → Nat) (hsh : ∀ k, sh k < n) :
    ∀ s, (lts c n sh).Reach s → Inv s :=
  LTS.inv_of_step (lts c n sh) Inv inv_init (fun _ a _ hI h => inv_step hc n sh hsh hI a h)

end Nv.C02
