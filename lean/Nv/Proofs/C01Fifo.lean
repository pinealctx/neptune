import Nv.Proofs.C01Inv
/-!
C01 — arrival order, stated with ghost arrival stamps.

`MG` is the map's transition system `M` with two ghost fields per key that the code does not have: a counter
`next` and the stamp given to each caller when its acquire section ran (`stamp`). The ghost never influences
a step (`ghost_faithful`: every run of `M` is the projection of a run of `MG`; `ghost_proj_reach`: the converse).
Invariant proved for every reachable state: holders followed by queue (`KS.all`) is sorted by arrival. So the
queue is sorted, and nobody inside the critical section arrived later than somebody who is still waiting —
i.e. nobody is ever admitted past an earlier arrival that is still blocked.
-/
namespace Nv.C01

structure GState where
  st : State
  next : Key → Nat
  stamp : Key → Tid → Nat

def ginit : GState := ⟨init, fun _ => 0, fun _ _ => 0⟩

def ghostNext (g : GState) : Act → Key → Nat
  | .acquire _ k _, k' => if k' = k then g.next k + 1 else g.next k'
  | _, k' => g.next k'

def restamp (stamp : Tid → Nat) (t : Tid) (v : Nat) : Tid → Nat := fun t' => if t' = t then v else stamp t'

theorem restamp_same (stamp : Tid → Nat) (t : Tid) (v : Nat) : restamp stamp t v t = v := if_pos rfl
theorem restamp_other (stamp : Tid → Nat) (t : Tid) (v : Nat) (x : Tid) (h : x ≠ t) :
    restamp stamp t v x = stamp x := if_neg h

def ghostStamp (g : GState) : Act → Key → Tid → Nat
  | .acquire t k _, k' => if k' = k then restamp (g.stamp k) t (g.next k) else g.stamp k'
  | _, k' => g.stamp k'

def gstep (c : Cfg) (rw : Nat) (g : GState) (a : Act) : Option GState :=
  match step c rw g.st a with
  | none => none
  | some s' => some ⟨s', ghostNext g a, ghostStamp g a⟩

def MG (c : Cfg) (rw : Nat) : LTS GState Act := ⟨ginit, gstep c rw⟩

theorem gstep_some (c : Cfg) (rw : Nat) (g g' : GState) (a : Act) (h : gstep c rw g a = some g') :
    step c rw g.st a = some g'.st ∧ g'.next = ghostNext g a ∧ g'.stamp = ghostStamp g a := by
  unfold gstep at h
  split at h
  · cases h
  · next s' hs => cases h; exact ⟨hs, rfl, rfl⟩

theorem ghostNext_acquire (g : GState) (t : Tid) (k : Key) (wr : Bool) :
    ghostNext g (.acquire t k wr) k = g.next k + 1 := if_pos rfl

theorem ghostStamp_acquire (g : GState) (t : Tid) (k : Key) (wr : Bool) :
    ghostStamp g (.acquire t k wr) k = restamp (g.stamp k) t (g.next k) := if_pos rfl

theorem ghost_other_key (g : GState) (a : Act) (k : Key) (hk : k ≠ a.key) :
    ghostNext g a k = g.next k ∧ ghostStamp g a k = g.stamp k := by
  cases a with
  | acquire t k' wr => exact ⟨if_neg hk, if_neg hk⟩
  | release t k' => exact ⟨rfl, rfl⟩
  | cancel t k' => exact ⟨rfl, rfl⟩

theorem ghost_proj_reach (c : Cfg) (rw : Nat) : ∀ g, (MG c rw).Reach g → (M c rw).Reach g.st :=
  reach_map (MG c rw) (M c rw) GState.st rfl fun g a g' hstep => Or.inr ⟨a, (gstep_some c rw g g' a hstep).1⟩

theorem ghost_faithful (c : Cfg) (rw : Nat) (as : List Act) (g : GState) (s' : State)
    (h : (M c rw).run g.st as = some s') : ∃ g', (MG c rw).run g as = some g' ∧ g'.st = s' := by
  induction as generalizing g with
  | nil => exact ⟨g, rfl, Option.some.inj h⟩
  | cons a as ih =>
    rw [LTS.run] at h
    split at h
    · cases h
    · next s1 hs1 =>
      have hg : (MG c rw).step g a = some ⟨s1, ghostNext g a, ghostStamp g a⟩ := by
        show gstep c rw g a = _
        rw [gstep, show step c rw g.st a = some s1 from hs1]
      obtain ⟨g', hrun, hst⟩ := ih ⟨s1, ghostNext g a, ghostStamp g a⟩ h
      exact ⟨g', by rw [LTS.run, hg]; exact hrun, hst⟩

def FifoInv (s : KS) (next : Nat) (stamp : Tid → Nat) : Prop :=
  (∀ x ∈ s.all, stamp x.1 < next) ∧ s.all.Pairwise (fun a b => stamp a.1 < stamp b.1)

theorem fifo_init (stamp : Tid → Nat) : FifoInv KS.init 0 stamp := ⟨nofun, List.Pairwise.nil⟩

/-- an acquire puts the newcomer, with the newest stamp, at the end; release and cancel only thin the list out -/
theorem kstep_fifo (c : Cfg) (hc : Proved c) (rw : Nat) (hrw : 1 ≤ rw) (s : KS) (a : Act) (g : GState)
    (hen : s.enabled a = true) (h : KInv rw s) (hf : FifoInv s (g.next a.key) (g.stamp a.key)) :
    FifoInv (s.step c rw a) (ghostNext g a a.key) (ghostStamp g a a.key) := by
  cases a with
  | acquire t k wr =>
    obtain ⟨hlt, hpw⟩ : FifoInv s (g.next k) (g.stamp k) := hf
    have hall : (s.step c rw (.acquire t k wr)).all = s.all ++ [(t, weight rw wr)] :=
      kstep_all c hc rw hrw s _ h hen
    have hfresh := not_listed_not_mem s t (by simpa [KS.enabled] using hen)
    have hold : ∀ x ∈ s.all, restamp (g.stamp k) t (g.next k) x.1 = g.stamp k x.1 := fun x hx =>
      restamp_other _ _ _ _ (fun heq => hfresh (heq ▸ List.mem_map_of_mem hx))
    show FifoInv _ (ghostNext g (.acquire t k wr) k) (ghostStamp g (.acquire t k wr) k)
    rw [ghostNext_acquire, ghostStamp_acquire, FifoInv, hall, List.pairwise_append]
    refine ⟨List.forall_mem_append.2 ⟨fun x hx => ?_, List.forall_mem_singleton.2 ?_⟩, ?_, List.pairwise_singleton _ _,
      fun x hx y hy => ?_⟩
    · rw [hold x hx]
      exact Nat.lt_succ_of_lt (hlt x hx)
    · rw [restamp_same]
      exact Nat.lt_succ_self _
    · exact hpw.imp_of_mem (fun {x y} hx hy hxy => by rw [hold x hx, hold y hy]; exact hxy)
    · cases List.mem_singleton.1 hy
      rw [hold x hx, restamp_same]
      exact hlt x hx
  | _ =>
    have hall := kstep_all c hc rw hrw s _ h hen
    exact ⟨fun x hx => hf.1 x (hall.subset hx), hf.2.sublist hall⟩

theorem reach_fifo (c : Cfg) (hc : Proved c) (rw : Nat) (hrw : 1 ≤ rw) :
    ∀ g, (MG c rw).Reach g → ∀ k, FifoInv (g.st k) (g.next k) (g.stamp k) := by
  intro g hr
  induction hr with
  | init => exact fun _ => fifo_init _
  | @step g a g' hr hstep ih =>
    intro k
    obtain ⟨hs, hn, hst⟩ := gstep_some c rw g g' a hstep
    obtain ⟨hen, hs'⟩ := step_some c rw g.st g'.st a hs
    rw [hn, hst, hs']
    by_cases hk : k = a.key
    · subst hk
      rw [upd_same]
      exact kstep_fifo c hc rw hrw _ a g hen (reach_inv c hc rw hrw g.st (ghost_proj_reach c rw g hr) _).1 (ih _)
    · rw [upd_other _ _ _ _ hk, (ghost_other_key g a k hk).1, (ghost_other_key g a k hk).2]
      exact ih k

end Nv.C01
