import Nv.Proofs.C03Basic
/-!
C03 — `iterate` of a whole (sub)tree against the specification.

(1) Pruning: the walk of a well-shaped sorted subtree equals one flat loop over the in-order items at or
beyond the start pivot, in scan order, independent of `hit` (`iterAsc_flat`, `iterDesc_flat`).
(2) The flat loop: the loop body either passes over an item or hands it to the callback; on a list that is
strictly monotone from the pivot on, only the pivot itself — the first item — can be passed over.
(3) The two callbacks used by the code: the collecting one and `iterWalk`'s counting/filtering one.
-/
namespace Nv.C03
variable {σ : Type}

/-- `body` applied to the items in turn for as long as `ok` holds: what `iterate`'s loops come to once the
    recursion into the children is flattened -/
def flatLoop (body : R σ → Item → R σ) : List Item → R σ → R σ
  | [], r => r
  | i :: is, r => if r.ok then flatLoop body is (body r i) else r

theorem flatLoop_not_ok (body : R σ → Item → R σ) (l : List Item) (r : R σ) (h : r.ok = false) :
    flatLoop body l r = r := by
  cases l <;> simp [flatLoop, h]

theorem flatLoop_step (body : R σ → Item → R σ) (i : Item) (is : List Item) (r : R σ) (h : r.ok = true) :
    flatLoop body (i :: is) r = flatLoop body is (body r i) := by
  rw [flatLoop, if_pos h]

/-- the loops of `iterate` go on only while `ok` holds, as the flat loop does -/
theorem flatLoop_guard (body : R σ → Item → R σ) (l : List Item) (r x : R σ)
    (hx : r.ok = true → x = flatLoop body l r) : (if r.ok = true then x else r) = flatLoop body l r := by
  cases h : r.ok with
  | true => rw [if_pos rfl]; exact hx h
  | false => rw [if_neg (by simp), flatLoop_not_ok body l r h]

theorem flatLoop_append (body : R σ → Item → R σ) (a b : List Item) (r : R σ) :
    flatLoop body (a ++ b) r = flatLoop body b (flatLoop body a r) := by
  induction a generalizing r with
  | nil => rfl
  | cons i is ih =>
    simp only [List.cons_append, flatLoop]
    split
    · exact ih _
    · rename_i h; rw [flatLoop_not_ok body b r ((Bool.not_eq_true _).mp h)]

/-- `r'` is what the body makes of `r` when it hands `x` to the callback (unless `x` is past `stop`) -/
def Calls (q : Q σ) (d : Dir) (r : R σ) (x : Item) (r' : R σ) : Prop :=
  r'.st = (if beforeStop d q.stop x then (q.cb r.st x).1 else r.st) ∧
  r'.ok = (beforeStop d q.stop x && (q.cb r.st x).2)

theorem flatLoop_cons (q : Q σ) (d : Dir) (body : R σ → Item → R σ) (x : Item) (xs : List Item) (r : R σ)
    (hr : r.ok = true) (hx : Calls q d r x (body r x))
    (ih : (body r x).ok = true →
      (flatLoop body xs (body r x)).st = runCb q.cb (xs.takeWhile (beforeStop d q.stop)) (body r x).st) :
    (flatLoop body (x :: xs) r).st = runCb q.cb ((x :: xs).takeWhile (beforeStop d q.stop)) r.st := by
  obtain ⟨hst, hok⟩ := hx
  simp only [flatLoop, hr, if_true, List.takeWhile_cons]
  cases hb : beforeStop d q.stop x with
  | false =>
    simp only [hb, Bool.false_eq_true, if_false, Bool.false_and] at hst hok ⊢
    rw [flatLoop_not_ok _ _ _ hok, hst]; rfl
  | true =>
    simp only [hb, if_true, Bool.true_and] at hst hok ⊢
    simp only [runCb, ← hst, ← hok]
    cases hcb : (body r x).ok with
    | true => exact ih hcb
    | false => rw [flatLoop_not_ok _ _ _ hcb]; rfl

theorem flatLoop_run (q : Q σ) (d : Dir) (body : R σ → Item → R σ) (l : List Item)
    (hc : ∀ x ∈ l, ∀ r, Calls q d r x (body r x)) (r : R σ) (hr : r.ok = true) :
    (flatLoop body l r).st = runCb q.cb (l.takeWhile (beforeStop d q.stop)) r.st := by
  induction l generalizing r with
  | nil => rfl
  | cons x xs ih =>
    exact flatLoop_cons q d body x xs r hr (hc x List.mem_cons_self r)
      (ih (fun y hy => hc y (List.mem_cons_of_mem _ hy)) _)

/-- The flat loop against the specification. The body tests `skip`; it either passes over the item, leaving
    state and `ok` alone, or hands it to the callback. If the test can come out true for the first item only,
    and does so iff `keep` rejects that item, the callback consumes the items that satisfy `keep`. -/
theorem flatLoop_spec (q : Q σ) (d : Dir) (body : R σ → Item → R σ) (skip : R σ → Item → Bool) (keep : Item → Bool)
    (hcall : ∀ r x, skip r x = false → Calls q d r x (body r x))
    (hpass : ∀ r x, skip r x = true → (body r x).st = r.st ∧ (body r x).ok = r.ok)
    (x : Item) (xs : List Item) (r : R σ) (hr : r.ok = true) (hx : skip r x = !keep x)
    (hxs : ∀ y ∈ xs, keep y = true ∧ ∀ r', skip r' y = false) :
    (flatLoop body (x :: xs) r).st = runCb q.cb (((x :: xs).filter keep).takeWhile (beforeStop d q.stop)) r.st := by
  have hc : ∀ y ∈ xs, ∀ r', Calls q d r' y (body r' y) := fun y hy r' => hcall r' y ((hxs y hy).2 r')
  rw [List.filter_cons, List.filter_eq_self.2 (fun y hy => (hxs y hy).1)]
  cases hk : keep x with
  | true =>
    rw [hk] at hx
    rw [if_pos rfl]
    exact flatLoop_cons q d body x xs r hr (hcall r x hx) (flatLoop_run q d body xs hc _)
  | false =>
    rw [hk] at hx
    obtain ⟨hst, hok⟩ := hpass r x hx
    rw [if_neg (by simp)]
    simp only [flatLoop, hr, if_true]
    rw [flatLoop_run q d body xs hc _ (hok.trans hr), hst]

theorem filter_filter_of_imp {p g : Item → Bool} (h : ∀ x, p x = true → g x = true) (l : List Item) :
    (l.filter g).filter p = l.filter p := by
  rw [List.filter_filter]
  apply List.filter_congr
  intro x _
  cases hp : p x with
  | false => rfl
  | true => exact h x hp

def geStart (q : Q σ) (x : Item) : Bool :=
  match q.start with
  | some s => decide (s ≤ x.key)
  | none => true

/-- the loop over items and children equals the flat loop, given that each child's walk does
    (`ascLoop` pairs items and children exactly as `interleave` does, whatever their numbers) -/
theorem ascLoop_flat (visit : Node → R σ → R σ) (q : Q σ) (g : Item → Bool) (is : List Item) (cs : List Node)
    (r : R σ) (hg : ∀ i ∈ is, g i = true)
    (hv : ∀ c ∈ cs, ∀ r, r.ok = true → visit c r = flatLoop (stepAsc q) (c.inorder.filter g) r) (hr : r.ok = true) :
    ascLoop visit q is cs r = flatLoop (stepAsc q) ((interleave is cs).filter g) r := by
  induction is generalizing cs r with
  | nil =>
    cases cs with
    | nil => rfl
    | cons c cs => simp [ascLoop, hv c (by simp) r hr]
  | cons i is ih =>
    have hgi : g i = true := hg i (by simp)
    have hg' : ∀ j ∈ is, g j = true := fun j hj => hg j (by simp [hj])
    cases cs with
    | nil =>
      simp only [ascLoop, interleave_nil_right, List.filter_cons, hgi, if_true, flatLoop_step _ _ _ _ hr]
      exact flatLoop_guard _ _ _ _ (fun h => by simpa using ih [] _ hg' (by simp) h)
    | cons c cs =>
      simp only [ascLoop, interleave_cons_cons, List.filter_append, List.filter_cons, hgi, if_true, flatLoop_append]
      rw [hv c (by simp) r hr]
      refine flatLoop_guard _ _ _ _ (fun h1 => ?_)
      rw [flatLoop_step _ _ _ _ h1]
      exact flatLoop_guard _ _ _ _ (ih cs _ hg' (fun d hd => hv d (by simp [hd])))

theorem ascLoop_leaf (visit : Node → R σ → R σ) (q : Q σ) (is : List Item) (r : R σ) (hr : r.ok = true) :
    ascLoop visit q is [] r = flatLoop (stepAsc q) is r := by
  have h := ascLoop_flat visit q (fun _ => true) is [] r (fun _ _ => rfl) (by simp) hr
  rwa [interleave_nil_right, List.filter_eq_self.2 (fun _ _ => rfl)] at h

theorem filter_drop_findIdx (q : Q σ) (s : Int) (hq : q.start = some s) (is : List Item) (hs : Sorted is) :
    is.filter (geStart q) = is.drop (findIdx is s).1 := by
  conv => lhs; rw [← List.take_append_drop (findIdx is s).1 is]
  rw [List.filter_append, List.filter_eq_nil_iff.2, List.nil_append, List.filter_eq_self.2]
  · intro x hx
    simpa [geStart, hq] using findIdx_drop_ge is s hs x hx
  · intro x hx
    simpa [geStart, hq] using findIdx_take_lt is s x hx

theorem iterAsc_flat (q : Q σ) : ∀ (h : Nat) (n : Node) (r : R σ), Shape h n → Sorted n.inorder → r.ok = true →
    iterAsc q h n r = flatLoop (stepAsc q) (n.inorder.filter (geStart q)) r := by
  intro h
  induction h with
  | zero =>
    rintro ⟨is, cs⟩ r hsh hso hr
    obtain rfl : cs = [] := hsh
    rw [inorder_mk, interleave_nil_right] at hso ⊢
    cases hq : q.start with
    | none =>
      have : is.filter (geStart q) = is := List.filter_eq_self.2 (fun x _ => by simp [geStart, hq])
      simp [iterAsc, hq, this, ascLoop_leaf _ q is r hr]
    | some s =>
      simp only [iterAsc, hq, filter_drop_findIdx q s hq is hso]
      exact ascLoop_leaf _ q _ r hr
  | succ h ih =>
    rintro ⟨is, cs⟩ r hsh hso hr
    rw [inorder_mk] at hso ⊢
    have hchild : ∀ c ∈ cs, ∀ r : R σ, r.ok = true →
        iterAsc q h c r = flatLoop (stepAsc q) (c.inorder.filter (geStart q)) r :=
      fun c hc r hr => ih c r (hsh.2 c hc) (sorted_child is cs hso c hc hsh.1) hr
    cases hq : q.start with
    | none =>
      simp only [iterAsc, hq, List.drop_zero]
      exact ascLoop_flat _ q _ is cs r (fun i _ => by simp [geStart, hq]) hchild hr
    | some s =>
      simp only [iterAsc, hq]
      have hle := findIdx_le is s
      rw [interleave_split (findIdx is s).1 is cs hsh.1 hle] at hso ⊢
      have hpre : (flatL (is.take (findIdx is s).1) (cs.take (findIdx is s).1)).filter (geStart q) = [] := by
        apply List.filter_eq_nil_iff.2
        intro x hx
        simpa [geStart, hq] using flatL_lt s _ _ _ hso (findIdx_take_lt is s) x hx
      rw [List.filter_append, hpre, List.nil_append]
      refine ascLoop_flat _ q _ _ _ r ?_ (fun c hc => hchild c (List.mem_of_mem_drop hc)) hr
      intro i hi
      simpa [geStart, hq] using findIdx_drop_ge is s (sorted_items is cs (by
        rw [interleave_split (findIdx is s).1 is cs hsh.1 hle]; exact hso)) i hi

theorem stepAsc_calls (q : Q σ) (r : R σ) (x : Item) (h : skipAsc q r x = false) :
    Calls q .asc r x (stepAsc q r x) := by
  have hp : pastStopAsc q x = !beforeStop .asc q.stop x := by
    unfold pastStopAsc beforeStop; cases q.stop <;> rfl
  unfold Calls stepAsc
  rw [h, hp]
  cases beforeStop .asc q.stop x <;> simp

theorem node_iterate_asc (q : Q σ) (n : Node) (hit : Bool) (st : σ) (hsh : Shape (height n) n)
    (hso : Sorted n.inorder) :
    n.iterate .asc q hit st =
      runCb q.cb ((specScan n.inorder .asc q.start (q.incl || hit)).takeWhile (beforeStop .asc q.stop)) st := by
  simp only [Node.iterate]
  rw [iterAsc_flat q (height n) n _ hsh hso rfl]
  cases hq : q.start with
  | none =>
    have : n.inorder.filter (geStart q) = n.inorder := List.filter_eq_self.2 (fun x _ => by simp [geStart, hq])
    rw [this, flatLoop_run q .asc _ _ (fun x _ r => stepAsc_calls q r x (by simp [skipAsc, hq])) _ rfl]
    rfl
  | some s =>
    -- the scan is over `L`, the items from the pivot on; the specified items are those of `L` that satisfy `keep`
    have hspec : specScan n.inorder .asc (some s) (q.incl || hit) =
        (n.inorder.filter (geStart q)).filter (fun x => decide (s < x.key) || ((q.incl || hit) && x.key == s)) := by
      refine (filter_filter_of_imp (fun x hx => ?_) _).symm
      simp only [Bool.or_eq_true, decide_eq_true_eq, Bool.and_eq_true, beq_iff_eq] at hx
      simp only [geStart, hq, decide_eq_true_eq]
      omega
    have hfs : Sorted (n.inorder.filter (geStart q)) := sorted_of_sublist List.filter_sublist hso
    have hge : ∀ x ∈ n.inorder.filter (geStart q), s ≤ x.key := fun x hx => by
      simpa [geStart, hq] using (List.mem_filter.1 hx).2
    rw [hspec]
    generalize n.inorder.filter (geStart q) = L at hfs hge
    cases L with
    | nil => rfl
    | cons x xs =>
      have hxs : ∀ y ∈ xs, s < y.key := fun y hy => Int.lt_of_le_of_lt (hge x (by simp)) (hfs.head_lt hy)
      refine flatLoop_spec q .asc (stepAsc q) (skipAsc q) _ (stepAsc_calls q)
        (fun r x h => by simp [stepAsc, h]) x xs _ rfl ?_ (fun y hy => ⟨by simp [hxs y hy], fun r => by simp [skipAsc, hq, hxs y hy]⟩)
      have := hge x (by simp)
      by_cases h1 : s < x.key
      · simp [skipAsc, hq, h1]
      · have h2 : x.key = s := by omega
        simp [skipAsc, hq, h2]

/-- the descending loop body: the `continue` test, then the rest -/
def bodyDesc (q : Q σ) (r : R σ) (i : Item) : R σ := if skipDesc q r i then r else stepDesc q r i

def leStart (q : Q σ) (x : Item) : Bool :=
  match q.start with
  | some s => decide (x.key ≤ s)
  | none => true

/-- reversed in-order list from reversed item and child lists -/
def interleaveD : List Item → List Node → List Item
  | is, [] => is
  | [], c :: _ => c.inorder.reverse
  | i :: is, c :: cs => c.inorder.reverse ++ i :: interleaveD is cs

@[simp] theorem interleaveD_nil_right (is : List Item) : interleaveD is [] = is := by cases is <;> simp [interleaveD]
@[simp] theorem interleaveD_nil_cons (c : Node) (cs : List Node) : interleaveD [] (c :: cs) = c.inorder.reverse := by
  simp [interleaveD]
@[simp] theorem interleaveD_cons_cons (i : Item) (is : List Item) (c : Node) (cs : List Node) :
    interleaveD (i :: is) (c :: cs) = c.inorder.reverse ++ i :: interleaveD is cs := by simp [interleaveD]

theorem interleaveD_snoc (is : List Item) (cs : List Node) (i : Item) (c : Node) (h : cs.length = is.length + 1) :
    interleaveD (is ++ [i]) (cs ++ [c]) = interleaveD is cs ++ i :: c.inorder.reverse := by
  induction is generalizing cs with
  | nil =>
    obtain ⟨d, rfl⟩ := List.length_eq_one_iff.1 h
    simp
  | cons j js ih =>
    cases cs with
    | nil => simp at h
    | cons d ds => simp [ih ds (by simpa using h)]

theorem interleave_reverse (is : List Item) (cs : List Node) (h : cs.length = is.length + 1) :
    (interleave is cs).reverse = interleaveD is.reverse cs.reverse := by
  induction is generalizing cs with
  | nil =>
    obtain ⟨c, rfl⟩ := List.length_eq_one_iff.1 h
    simp
  | cons i is ih =>
    cases cs with
    | nil => simp at h
    | cons c cs =>
      have hl : cs.length = is.length + 1 := by simpa using h
      simp only [interleave_cons_cons, List.reverse_append, List.reverse_cons, List.append_assoc]
      rw [ih cs hl, interleaveD_snoc _ _ _ _ (by simp [hl])]
      simp

/-- the loop over (reversed) items and children equals the flat loop, given that each child's walk does.
    When the `continue` test fires on an item, the child to its right is not visited; the walk of that child
    would have been empty anyway, because all its items lie beyond the pivot. -/
theorem descLoop_flat (visit : Node → R σ → R σ) (q : Q σ) (is : List Item) (cs : List Node) (r : R σ)
    (hg : ∀ i ∈ is, leStart q i = true)
    (hv : ∀ c ∈ cs, ∀ r, r.ok = true → visit c r = flatLoop (bodyDesc q) (c.inorder.filter (leStart q)).reverse r)
    (hp : (interleaveD is cs).Pairwise (fun a b => b.key < a.key)) (hr : r.ok = true) :
    descLoop visit q is cs r = flatLoop (bodyDesc q) ((interleaveD is cs).filter (leStart q)) r := by
  induction is generalizing cs r with
  | nil =>
    cases cs with
    | nil => rfl
    | cons c cs => simp [descLoop, hv c (by simp) r hr]
  | cons i is ih =>
    have hgi : leStart q i = true := hg i (by simp)
    have hg' : ∀ j ∈ is, leStart q j = true := fun j hj => hg j (by simp [hj])
    cases cs with
    | nil =>
      have ih := fun r hr => ih [] r hg' (by simp) (by simpa using (List.pairwise_cons.1 (by simpa using hp)).2) hr
      simp only [descLoop, interleaveD_nil_right, List.filter_cons, hgi, if_true, flatLoop_step _ _ _ _ hr, bodyDesc]
      split
      · simpa using ih _ hr
      · exact flatLoop_guard _ _ _ _ (fun h => by simpa using ih _ h)
    | cons c cs =>
      simp only [interleaveD_cons_cons] at hp
      have hp' := List.pairwise_append.1 hp
      have ih := fun r hr => ih cs r hg' (fun d hd => hv d (by simp [hd])) (List.pairwise_cons.1 hp'.2.1).2 hr
      have key : (∀ r' : R σ, skipDesc q r' i = false) ∨ c.inorder.filter (leStart q) = [] := by
        cases hq : q.start with
        | none => left; intro r'; simp [skipDesc, hq]
        | some s =>
          by_cases hlt : i.key < s
          · left; intro r'; simp [skipDesc, hq, hlt]
          · right
            apply List.filter_eq_nil_iff.2
            intro x hx
            have := hp'.2.2 x (by simpa using hx) i (by simp)
            simp [leStart, hq]; omega
      simp only [descLoop, interleaveD_cons_cons, List.filter_append, List.filter_cons, hgi, if_true,
        flatLoop_append, List.filter_reverse]
      rcases key with key | key
      · simp only [key, Bool.false_eq_true, if_false]
        rw [hv c (by simp) r hr]
        refine flatLoop_guard _ _ _ _ (fun h1 => ?_)
        rw [flatLoop_step _ _ _ _ h1, bodyDesc, key, if_neg Bool.false_ne_true]
        exact flatLoop_guard _ _ _ _ (ih _)
      · have hvc : visit c r = r := by rw [hv c (by simp) r hr, key]; rfl
        simp only [key, List.reverse_nil, flatLoop, bodyDesc, hvc, hr, if_true]
        split
        · exact ih _ hr
        · exact flatLoop_guard _ _ _ _ (ih _)

theorem descLoop_leaf (visit : Node → R σ → R σ) (q : Q σ) (is : List Item) (r : R σ) (hr : r.ok = true)
    (hg : ∀ i ∈ is, leStart q i = true) (hp : is.Pairwise (fun a b => b.key < a.key)) :
    descLoop visit q is [] r = flatLoop (bodyDesc q) is r := by
  have h := descLoop_flat visit q is [] r hg (by simp) (by rwa [interleaveD_nil_right]) hr
  rwa [interleaveD_nil_right, List.filter_eq_self.2 hg] at h

/-- number of items the descending loop runs over -/
def descCnt (is : List Item) (s : Int) : Nat :=
  if (findIdx is s).2 then (findIdx is s).1 + 1 else (findIdx is s).1

theorem descCnt_spec (is : List Item) (s : Int) (hs : Sorted is) :
    descCnt is s ≤ is.length ∧ (∀ x ∈ is.take (descCnt is s), x.key ≤ s) ∧ (∀ x ∈ is.drop (descCnt is s), s < x.key) := by
  unfold descCnt
  cases hf : (findIdx is s).2 with
  | false =>
    exact ⟨findIdx_le is s, fun x hx => Int.le_of_lt (findIdx_take_lt is s x hx), findIdx_not_found_gt is s hs hf⟩
  | true =>
    obtain ⟨y, hy, hk⟩ := (findIdx_found is s).1 hf
    have hm := (split_of_getElem? hy ▸ hs).lt_mid
    rw [hk] at hm
    refine ⟨(List.getElem?_eq_some_iff.1 hy).1, ?_, hm.2⟩
    rw [if_pos rfl, List.take_add_one, hy]
    intro x hx
    rcases List.mem_append.1 hx with hx | hx
    · exact Int.le_of_lt (hm.1 x hx)
    · obtain rfl : x = y := by simpa using hx
      exact Int.le_of_eq hk

theorem filter_take_descCnt (q : Q σ) (s : Int) (hq : q.start = some s) (is : List Item) (hs : Sorted is) :
    is.filter (leStart q) = is.take (descCnt is s) := by
  obtain ⟨_, hle, hgt⟩ := descCnt_spec is s hs
  conv => lhs; rw [← List.take_append_drop (descCnt is s) is]
  rw [List.filter_append, List.filter_eq_self.2, List.filter_eq_nil_iff.2, List.append_nil]
  · intro x hx
    have := hgt x hx
    simp [leStart, hq]; omega
  · intro x hx
    simpa [leStart, hq] using hle x hx

theorem iterDesc_flat (q : Q σ) : ∀ (h : Nat) (n : Node) (r : R σ), Shape h n → Sorted n.inorder → r.ok = true →
    iterDesc q h n r = flatLoop (bodyDesc q) (n.inorder.filter (leStart q)).reverse r := by
  intro h
  induction h with
  | zero =>
    rintro ⟨is, cs⟩ r hsh hso hr
    obtain rfl : cs = [] := hsh
    rw [inorder_mk, interleave_nil_right] at hso ⊢
    cases hq : q.start with
    | none =>
      have : is.filter (leStart q) = is := List.filter_eq_self.2 (fun x _ => by simp [leStart, hq])
      simp only [iterDesc, hq, this, List.take_length]
      exact descLoop_leaf _ q _ r hr (fun i _ => by simp [leStart, hq]) (by rwa [List.pairwise_reverse])
    | some s =>
      have hfs : Sorted (is.filter (leStart q)) := sorted_of_sublist List.filter_sublist hso
      have hle : ∀ i ∈ (is.filter (leStart q)).reverse, leStart q i = true := fun i hi =>
        (List.mem_filter.1 (List.mem_reverse.1 hi)).2
      rw [filter_take_descCnt q s hq is hso] at hfs hle ⊢
      simp only [iterDesc, hq]
      exact descLoop_leaf _ q _ r hr hle (by rwa [List.pairwise_reverse])
  | succ h ih =>
    rintro ⟨is, cs⟩ r hsh hso hr
    rw [inorder_mk] at hso ⊢
    have hchild : ∀ c ∈ cs, ∀ r : R σ, r.ok = true →
        iterDesc q h c r = flatLoop (bodyDesc q) (c.inorder.filter (leStart q)).reverse r :=
      fun c hc r hr => ih c r (hsh.2 c hc) (sorted_child is cs hso c hc hsh.1) hr
    cases hq : q.start with
    | none =>
      simp only [iterDesc, hq]
      have e1 : is.take is.length = is := List.take_length
      have e2 : cs.take (is.length + 1) = cs := by rw [← hsh.1]; exact List.take_length
      rw [e1, e2, ← List.filter_reverse, interleave_reverse is cs hsh.1]
      refine descLoop_flat _ q _ _ r (fun i _ => by simp [leStart, hq])
        (fun c hc => hchild c (by simpa using hc)) ?_ hr
      rw [← interleave_reverse is cs hsh.1, List.pairwise_reverse]
      exact hso
    | some s =>
      simp only [iterDesc, hq]
      obtain ⟨hle, htake, hdrop⟩ := descCnt_spec is s (sorted_items is cs hso)
      change descLoop _ q (is.take (descCnt is s)).reverse (cs.take (descCnt is s + 1)).reverse r = _
      -- the node as the part the loop runs over and the part beyond the pivot
      have hl : (cs.take (descCnt is s + 1)).length = (is.take (descCnt is s)).length + 1 := by
        rw [length_take_le _ _ hle, length_take_le _ _ (by have := hsh.1; omega)]
      have hcut := interleave_cut _ _ (is.drop (descCnt is s)) (cs.drop (descCnt is s + 1)) hl
      rw [List.take_append_drop, List.take_append_drop] at hcut
      rw [hcut] at hso ⊢
      have hpost : (rightPart (is.drop (descCnt is s)) (cs.drop (descCnt is s + 1))).filter (leStart q) = [] := by
        apply List.filter_eq_nil_iff.2
        intro x hx
        have := mem_rightPart_gt s _ _ _ hso hdrop x hx
        simp [leStart, hq]; omega
      rw [List.filter_append, hpost, List.append_nil, ← List.filter_reverse, interleave_reverse _ _ hl]
      refine descLoop_flat _ q _ _ r ?_ (fun c hc => hchild c (List.mem_of_mem_take (by simpa using hc))) ?_ hr
      · intro i hi
        simpa [leStart, hq] using htake i (by simpa using hi)
      · rw [← interleave_reverse _ _ hl, List.pairwise_reverse]
        exact hso.append_left

theorem bodyDesc_calls (q : Q σ) (r : R σ) (x : Item) (h : skipDesc q r x = false) :
    Calls q .desc r x (bodyDesc q r x) := by
  have hp : pastStopDesc q x = !beforeStop .desc q.stop x := by
    unfold pastStopDesc beforeStop; cases q.stop <;> rfl
  unfold Calls bodyDesc stepDesc
  rw [h, hp]
  cases beforeStop .desc q.stop x <;> simp

theorem node_iterate_desc (q : Q σ) (n : Node) (hit : Bool) (st : σ) (hsh : Shape (height n) n)
    (hso : Sorted n.inorder) :
    n.iterate .desc q hit st =
      runCb q.cb ((specScan n.inorder .desc q.start (q.incl && !hit)).takeWhile (beforeStop .desc q.stop)) st := by
  simp only [Node.iterate]
  rw [iterDesc_flat q (height n) n _ hsh hso rfl]
  cases hq : q.start with
  | none =>
    have : n.inorder.filter (leStart q) = n.inorder := List.filter_eq_self.2 (fun x _ => by simp [leStart, hq])
    rw [this, flatLoop_run q .desc _ _ (fun x _ r => bodyDesc_calls q r x (by simp [skipDesc, hq])) _ rfl]
    rfl
  | some s =>
    have hspec : specScan n.inorder .desc (some s) (q.incl && !hit) =
        ((n.inorder.filter (leStart q)).reverse).filter
          (fun x => decide (x.key < s) || ((q.incl && !hit) && x.key == s)) := by
      rw [List.filter_reverse]
      refine congrArg List.reverse (filter_filter_of_imp (fun x hx => ?_) _).symm
      simp only [Bool.or_eq_true, decide_eq_true_eq, Bool.and_eq_true, beq_iff_eq] at hx
      simp only [leStart, hq, decide_eq_true_eq]
      omega
    have hfs : ((n.inorder.filter (leStart q)).reverse).Pairwise (fun a b => b.key < a.key) := by
      rw [List.pairwise_reverse]; exact sorted_of_sublist List.filter_sublist hso
    have hle : ∀ x ∈ (n.inorder.filter (leStart q)).reverse, x.key ≤ s := fun x hx => by
      simpa [leStart, hq] using (List.mem_filter.1 (List.mem_reverse.1 hx)).2
    rw [hspec]
    generalize (n.inorder.filter (leStart q)).reverse = L at hfs hle
    cases L with
    | nil => rfl
    | cons x xs =>
      have hxs : ∀ y ∈ xs, y.key < s := fun y hy =>
        Int.lt_of_lt_of_le ((List.pairwise_cons.1 hfs).1 y hy) (hle x (by simp))
      refine flatLoop_spec q .desc (bodyDesc q) (skipDesc q) _ (bodyDesc_calls q)
        (fun r x h => by simp [bodyDesc, h]) x xs _ rfl ?_
        (fun y hy => ⟨by simp [hxs y hy], fun r => by simp [skipDesc, hq, hxs y hy]⟩)
      have := hle x (by simp)
      by_cases h1 : x.key < s
      · simp [skipDesc, hq, h1]
      · have h2 : x.key = s := by omega
        simp [skipDesc, hq, h2]

/-- the pivot is included iff the scan is inclusive — or, ascending, `hit` was already set by the caller;
    descending, inclusive and `hit` not set -/
def effIncl : Dir → Bool → Bool → Bool
  | .asc, incl, hit => incl || hit
  | .desc, incl, hit => incl && !hit

@[simp] theorem beforeStop_none (d : Dir) : beforeStop d none = fun _ => true := by
  funext x; cases d <;> rfl
@[simp] theorem beforeStop_asc (t : Int) : beforeStop .asc (some t) = fun x => decide (x.key < t) := by
  funext x; rfl
@[simp] theorem beforeStop_desc (t : Int) : beforeStop .desc (some t) = fun x => decide (t < x.key) := by
  funext x; rfl
@[simp] theorem takeWhile_true (l : List Item) : l.takeWhile (fun _ => true) = l := by
  induction l with
  | nil => rfl
  | cons x xs ih => simp [ih]

theorem runCb_collect (cont : Item → Bool) (l : List Item) (acc : List Item) :
    runCb (collect cont) l acc = acc ++ visited cont l := by
  induction l generalizing acc with
  | nil => simp [runCb, visited]
  | cons x xs ih =>
    cases hc : cont x with
    | true => simp [runCb, collect, visited, hc, ih]
    | false => simp [runCb, collect, visited, hc]

/-- `iterWalk`'s closure with `m` items still to go: it collects the first `m` items accepted by the filter
    (comparison `>=` or `==`) -/
theorem runCb_walk_left (cmp : LimitCmp) (hc : cmp = .ge ∨ cmp = .eq) (n : Nat) (f : Item → Bool) (l : List Item) :
    ∀ (c m : Nat) (acc : List Item), c + m = n →
      (runCb (walkCb cmp n f) l (c, acc)).2 = acc ++ (l.filter f).take m := by
  induction l with
  | nil => intro c m acc _; simp [runCb]
  | cons x xs ih =>
    intro c m acc hn
    have hreach : cmp.reached c n = decide (m = 0) := by
      subst hn
      rcases hc with rfl | rfl
      · simp only [LimitCmp.reached]; congr 1; apply propext; omega
      · simp [LimitCmp.reached]
    simp only [runCb, walkCb, hreach]
    cases m with
    | zero => simp
    | succ m =>
      simp only [Nat.succ_ne_zero, decide_false, Bool.false_eq_true, if_false]
      cases hf : f x with
      | true => simp [hf, ih (c + 1) m (acc ++ [x]) ((Nat.add_right_comm c 1 m).trans hn)]
      | false => simpa [hf] using ih c (m + 1) acc hn

theorem runCb_walk (cmp : LimitCmp) (hc : cmp = .ge ∨ cmp = .eq) (n : Nat) (f : Item → Bool) (l : List Item)
    (c : Nat) (acc : List Item) (hcn : c ≤ n) :
    (runCb (walkCb cmp n f) l (c, acc)).2 = acc ++ (l.filter f).take (n - c) :=
  runCb_walk_left cmp hc n f l c (n - c) acc (Nat.add_sub_cancel' hcn)

end Nv.C03
