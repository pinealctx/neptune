import Nv.Proofs.C20Fmt
/-!
C20 — `time.ParseDuration (d.String()) = d` on the models, for every int64 duration.
`Duration.String` prints one to three components `<digits>[.<digits>]<unit>`. Each of the three scanners of
`parseComponent` is characterised on the text it is given (a digit run followed by something that stops it), which
gives the value of one printed component; the loop then adds the components up.
-/
namespace Nv.C20

theorem isDig_of_dec {c : Nat} (h : 48 ≤ c ∧ c ≤ 57) : isDig c = true := by simp [isDig, h.1, h.2]

def NoDigitHead (rest : Bytes) : Prop := ∀ c cs, rest = c :: cs → isDig c = false

def UnitStop (rest : Bytes) : Prop := ∀ c cs, rest = c :: cs → (c = 46 ∨ isDig c = true)

theorem leadingInt_digits : ∀ (ds : Bytes) (x : Nat) (rest : Bytes), (∀ c ∈ ds, 48 ≤ c ∧ c ≤ 57) → NoDigitHead rest →
    baseVal 10 x ds ≤ 2 ^ 63 → leadingInt x (ds ++ rest) = some (baseVal 10 x ds, rest)
  | [], x, rest, _, hr, _ => by
    cases rest with
    | nil => rfl
    | cons c cs => simp [leadingInt, hr c cs rfl, baseVal]
  | c :: cs, x, rest, hd, hr, hv => by
    have hc := hd c List.mem_cons_self
    rw [baseVal_digit (digitVal_of_dec hc)] at hv ⊢
    have hmono := baseVal_ge 10 (by omega) cs (x * 10 + (c - 48))
    simp only [List.cons_append, leadingInt, isDig_of_dec hc, if_true]
    rw [if_neg (by omega), if_neg (by omega)]
    exact leadingInt_digits cs _ rest (fun y hy => hd y (List.mem_cons_of_mem _ hy)) hr hv

theorem leadingFraction_digits : ∀ (ds : Bytes) (x sc : Nat) (rest : Bytes), (∀ c ∈ ds, 48 ≤ c ∧ c ≤ 57) → NoDigitHead rest →
    baseVal 10 x ds < 10 ^ 18 → leadingFraction x sc false (ds ++ rest) = (baseVal 10 x ds, sc * 10 ^ ds.length, rest)
  | [], x, sc, rest, _, hr, _ => by
    cases rest with
    | nil => simp [leadingFraction, baseVal]
    | cons c cs => simp [leadingFraction, hr c cs rfl, baseVal]
  | c :: cs, x, sc, rest, hd, hr, hv => by
    have hc := hd c List.mem_cons_self
    rw [baseVal_digit (digitVal_of_dec hc)] at hv ⊢
    have hmono := baseVal_ge 10 (by omega) cs (x * 10 + (c - 48))
    simp only [List.cons_append, leadingFraction, isDig_of_dec hc, if_true, Bool.false_eq_true, if_false]
    rw [if_neg (by omega), if_neg (by omega),
      leadingFraction_digits cs _ _ rest (fun y hy => hd y (List.mem_cons_of_mem _ hy)) hr hv,
      List.length_cons, Nat.pow_succ, Nat.mul_assoc, Nat.mul_comm 10]

theorem spanUnit_append : ∀ (u rest : Bytes), (∀ c ∈ u, c ≠ 46 ∧ isDig c = false) → UnitStop rest →
    spanUnit (u ++ rest) = (u, rest)
  | [], rest, _, hr => by
    cases rest with
    | nil => rfl
    | cons c cs => rcases hr c cs rfl with h | h <;> simp [spanUnit, h]
  | c :: cs, rest, hu, hr => by
    have hc := hu c List.mem_cons_self
    simp only [List.cons_append, spanUnit, hc.1, hc.2, decide_false, Bool.or_self, Bool.false_eq_true, if_false,
      spanUnit_append cs rest (fun y hy => hu y (List.mem_cons_of_mem _ hy)) hr]

theorem unitOf_some {u : Bytes} {U : Nat} (h : unitOf u = some U) :
    0 < U ∧ u ≠ [] ∧ ∀ c ∈ u, c ≠ 46 ∧ isDig c = false := by
  have hmem : u ∈ [[110, 115], [117, 115], [194, 181, 115], [206, 188, 115], [109, 115], [115], [109], [104]] := by
    apply Decidable.by_contra
    intro hn
    simp only [List.mem_cons, List.not_mem_nil, or_false, not_or] at hn
    simp [unitOf, hn] at h
  have table : ∀ v ∈ [[110, 115], [117, 115], [194, 181, 115], [206, 188, 115], [109, 115], [115], [109], [104]],
      ∀ V, unitOf v = some V → 0 < V ∧ v ≠ [] ∧ ∀ c ∈ v, c ≠ 46 ∧ isDig c = false := by
    decide
  exact table u hmem U h

theorem noDigitHead_unit {u : Bytes} {U : Nat} (hu : unitOf u = some U) (rest : Bytes) : NoDigitHead (u ++ rest) := by
  obtain ⟨_, hne, huc⟩ := unitOf_some hu
  intro c cs h
  cases u with
  | nil => exact absurd rfl hne
  | cons a as =>
    rw [← (List.cons.inj h).1]
    exact (huc a List.mem_cons_self).2

theorem unitStop_nil : UnitStop [] := fun _ _ h => nomatch h

theorem unitStop_fmtNat (n : Nat) (t : Bytes) : UnitStop (fmtNat 10 n ++ t) := by
  obtain ⟨a, as, hf, ha⟩ := fmtNat10_cons n
  intro c cs h
  rw [hf] at h
  rw [← (List.cons.inj h).1]
  exact Or.inr (isDig_of_dec ha)

theorem startsNum_fmtNat (n : Nat) (t : Bytes) : startsNum (fmtNat 10 n ++ t) = true := by
  obtain ⟨a, as, hf, ha⟩ := fmtNat10_cons n
  simp [hf, startsNum, isDig_of_dec ha]

/-- the scanners tell that something was consumed by comparing lengths -/
theorem length_bne_append {pre : Bytes} (h : pre ≠ []) (t : Bytes) : (t.length != (pre ++ t).length) = true := by
  have := List.length_pos_iff.2 h
  simp only [List.length_append, bne_iff_ne, ne_eq]; omega

theorem fracDigits_dec : ∀ (p v : Nat), ∀ c ∈ fracDigits p v, 48 ≤ c ∧ c ≤ 57
  | 0, _ => fun _ hc => nomatch hc
  | p + 1, v => by
    intro c hc
    simp only [fracDigits] at hc
    split at hc
    · cases hc
    · rcases List.mem_cons.1 hc with rfl | hc
      · have : v / 10 ^ p % 10 < 10 := Nat.mod_lt _ (by omega)
        rw [digitChar_dec this]; omega
      · exact fracDigits_dec p v c hc

theorem fracDigits_length : ∀ (p v : Nat), (fracDigits p v).length ≤ p
  | 0, _ => by simp [fracDigits]
  | p + 1, v => by
    simp only [fracDigits]
    split
    · simp
    · simp only [List.length_cons]; have := fracDigits_length p v; omega

theorem fracDigits_ne_nil : ∀ (p v : Nat), v % 10 ^ p ≠ 0 → fracDigits p v ≠ []
  | 0, v, h => by simp [Nat.mod_one] at h
  | p + 1, v, h => by simp [fracDigits, h]

theorem fracDigits_val : ∀ (p v : Nat),
    baseVal 10 0 (fracDigits p v) * 10 ^ (p - (fracDigits p v).length) = v % 10 ^ p
  | 0, v => by simp [fracDigits, baseVal, Nat.mod_one]
  | p + 1, v => by
    simp only [fracDigits]
    split
    · rename_i h0; simp [baseVal, h0]
    · have ih := fracDigits_val p v
      have hl := fracDigits_length p v
      have hd : v / 10 ^ p % 10 < 10 := Nat.mod_lt _ (by omega)
      -- leading digit · 10^p + (the rest, padded) = v / 10^p % 10 · 10^p + v % 10^p
      rw [baseVal_digit (digitVal_digitChar (Nat.lt_trans hd (by decide))), baseVal_shift, List.length_cons,
        show p + 1 - ((fracDigits p v).length + 1) = p - (fracDigits p v).length by omega, Nat.add_mul, ih,
        Nat.mul_assoc, ← Nat.pow_add, show (fracDigits p v).length + (p - (fracDigits p v).length) = p by omega,
        Nat.mod_pow_succ, Nat.zero_mul, Nat.zero_add, Nat.add_comm, Nat.mul_comm]

theorem fractionPart_fracDigits (p w : Nat) (hp : p ≤ 9) (hw : w % 10 ^ p ≠ 0) {rest : Bytes} (hr : NoDigitHead rest) :
    ∃ f sc, fractionPart (46 :: (fracDigits p w ++ rest)) = (f, sc, rest, true) ∧ 0 < f ∧ f * 10 ^ p / sc = w % 10 ^ p := by
  have hfl := fracDigits_length p w
  have hfv := fracDigits_val p w
  have hmod : w % 10 ^ p < 10 ^ p := Nat.mod_lt _ (Nat.pow_pos (by omega))
  have hp9 : 10 ^ p ≤ 10 ^ 9 := Nat.pow_le_pow_right (by omega) hp
  have hsplit : 10 ^ p = 10 ^ (p - (fracDigits p w).length) * 10 ^ (fracDigits p w).length := by
    rw [← Nat.pow_add]; congr 1; omega
  have hfle : baseVal 10 0 (fracDigits p w) ≤ w % 10 ^ p := by
    rw [← hfv]; exact Nat.le_mul_of_pos_right _ (Nat.pow_pos (by omega))
  refine ⟨baseVal 10 0 (fracDigits p w), 10 ^ (fracDigits p w).length, ?_, ?_, ?_⟩
  · simp only [fractionPart, leadingFraction_digits (fracDigits p w) 0 1 rest (fracDigits_dec p w) hr (by omega),
      Nat.one_mul, length_bne_append (fracDigits_ne_nil p w hw)]
  · rcases Nat.eq_zero_or_pos (baseVal 10 0 (fracDigits p w)) with h0 | h0
    · rw [h0, Nat.zero_mul] at hfv; exact absurd hfv.symm hw
    · exact h0
  · rw [hsplit, ← Nat.mul_assoc, Nat.mul_div_cancel _ (Nat.pow_pos (by omega)), hfv, ← hsplit]

theorem fractionPart_of_ne_dot {c : Nat} (hc : c ≠ 46) (cs : Bytes) : fractionPart (c :: cs) = (0, 1, c :: cs, false) := by
  unfold fractionPart
  split
  · rename_i t heq
    exact absurd (List.cons.inj heq).1 hc
  · rfl

theorem leadingInt_fmtNat {n : Nat} (hn : n ≤ 2 ^ 63) {rest : Bytes} (hr : NoDigitHead rest) :
    leadingInt 0 (fmtNat 10 n ++ rest) = some (n, rest) := by
  have hv := baseVal_fmtNat 10 (by omega) (by omega) (n := n) (by omega)
  have := leadingInt_digits (fmtNat 10 n) 0 rest (fmtNat10_dec n) hr (by rw [hv]; exact hn)
  rwa [hv] at this

theorem parseComponent_plain (n U : Nat) (u rest : Bytes) (hu : unitOf u = some U) (hr : UnitStop rest)
    (hfit : n * U ≤ 2 ^ 63) : parseComponent (fmtNat 10 n ++ (u ++ rest)) = some (n * U, rest) := by
  obtain ⟨hU, hne, huc⟩ := unitOf_some hu
  have hli := leadingInt_fmtNat (Nat.le_trans (Nat.le_mul_of_pos_right n hU) hfit) (noDigitHead_unit hu rest)
  obtain ⟨a, as, rfl⟩ := List.exists_cons_of_ne_nil hne
  have hnodot : fractionPart (a :: as ++ rest) = (0, 1, a :: as ++ rest, false) :=
    fractionPart_of_ne_dot (huc a List.mem_cons_self).1 (as ++ rest)
  unfold parseComponent
  simp only [startsNum_fmtNat, Bool.not_true, Bool.false_eq_true, if_false, hli, hnodot,
    length_bne_append (fmtNat_ne_nil 10 n), Bool.not_false, Bool.and_true,
    spanUnit_append _ rest huc hr, List.isEmpty_cons, hu, Nat.lt_irrefl, false_and]
  rw [if_neg (Nat.not_lt.2 ((Nat.le_div_iff_mul_le hU).2 hfit))]

theorem parseComponent_frac (n p w : Nat) (u rest : Bytes) (hp : p ≤ 9) (hu : unitOf u = some (10 ^ p)) (hr : UnitStop rest)
    (hw : w % 10 ^ p ≠ 0) (htot : n * 10 ^ p + w % 10 ^ p ≤ 2 ^ 63) :
    parseComponent (fmtNat 10 n ++ (46 :: (fracDigits p w ++ (u ++ rest)))) = some (n * 10 ^ p + w % 10 ^ p, rest) := by
  obtain ⟨hU, hne, huc⟩ := unitOf_some hu
  have hnU : n * 10 ^ p ≤ 2 ^ 63 := Nat.le_trans (Nat.le_add_right _ _) htot
  have hli := leadingInt_fmtNat (Nat.le_trans (Nat.le_mul_of_pos_right n hU) hnU)
    (rest := 46 :: (fracDigits p w ++ (u ++ rest))) (fun c cs h => by rw [← (List.cons.inj h).1]; rfl)
  obtain ⟨f, sc, hfp, hfpos, hdiv⟩ := fractionPart_fracDigits p w hp hw (noDigitHead_unit hu rest)
  have huemp : u.isEmpty = false := by
    cases u with
    | nil => exact absurd rfl hne
    | cons _ _ => rfl
  unfold parseComponent
  simp only [startsNum_fmtNat, Bool.not_true, Bool.false_eq_true, if_false, hli, hfp,
    Bool.and_false, spanUnit_append u rest huc hr, huemp, hu, hfpos, if_true, hdiv, true_and]
  rw [if_neg (Nat.not_lt.2 ((Nat.le_div_iff_mul_le hU).2 hnU)), if_neg (Nat.not_lt.2 htot)]

theorem parseComponent_fmtFrac (n p w : Nat) (u rest : Bytes) (hp : p ≤ 9) (hu : unitOf u = some (10 ^ p)) (hr : UnitStop rest)
    (htot : n * 10 ^ p + w % 10 ^ p ≤ 2 ^ 63) :
    parseComponent (fmtNat 10 n ++ (fmtFrac p w ++ (u ++ rest))) = some (n * 10 ^ p + w % 10 ^ p, rest) := by
  unfold fmtFrac
  split
  · rename_i h0
    rw [h0, Nat.add_zero] at htot ⊢
    exact parseComponent_plain n (10 ^ p) u rest hu hr htot
  · rename_i h0
    exact parseComponent_frac n p w u rest hp hu hr h0 htot

/-- the loop reads `text` as `v` more nanoseconds, whatever the sum `d` so far (as long as the total stays within
    2^63) and the fuel (more than the length of the text: each round uses up one unit of fuel and at least one character) -/
def Adds (text : Bytes) (v : Nat) : Prop :=
  ∀ d fuel, d + v ≤ 2 ^ 63 → text.length < fuel → parseDurLoop fuel d text = some (d + v)

theorem adds_nil : Adds [] 0
  | _, 0, _, hf => absurd hf (Nat.lt_irrefl 0)
  | _, _ + 1, _, _ => rfl

/-- one round: a leading component `pre`, worth `v`, is consumed and added (the bound on the total bounds `v`) -/
theorem adds_append {pre rest : Bytes} {v vr : Nat} (hpre : pre ≠ [])
    (hc : v ≤ 2 ^ 63 → parseComponent (pre ++ rest) = some (v, rest)) (h : Adds rest vr) : Adds (pre ++ rest) (v + vr) := by
  intro d fuel hd hf
  have hc := hc (by omega)
  have hlen : rest.length < (pre ++ rest).length := by
    have := List.length_pos_iff.2 hpre
    rw [List.length_append]; omega
  cases hs : pre ++ rest with
  | nil => rw [hs] at hlen; exact absurd hlen (Nat.not_lt_zero _)
  | cons c cs =>
    rw [hs] at hc hf hlen
    cases fuel with
    | zero => exact absurd hf (Nat.not_lt_zero _)
    | succ f =>
      simp only [parseDurLoop, hc]
      rw [Nat.mod_eq_of_lt (by omega), if_neg (by omega), ← Nat.add_assoc]
      exact h (d + v) f (by omega) (by omega)

theorem adds_plain (n : Nat) {U : Nat} {u rest : Bytes} (hu : unitOf u = some U) (hr : UnitStop rest) {vr : Nat}
    (h : Adds rest vr) : Adds (fmtNat 10 n ++ (u ++ rest)) (n * U + vr) := by
  rw [← List.append_assoc]
  refine adds_append (by simp [fmtNat_ne_nil]) ?_ h
  rw [List.append_assoc]
  exact parseComponent_plain n U u rest hu hr

theorem adds_fmtFrac (n p w : Nat) {u rest : Bytes} (hp : p ≤ 9) (hu : unitOf u = some (10 ^ p)) (hr : UnitStop rest)
    {vr : Nat} (h : Adds rest vr) : Adds (fmtNat 10 n ++ (fmtFrac p w ++ (u ++ rest))) (n * 10 ^ p + w % 10 ^ p + vr) := by
  rw [← List.append_assoc (fmtFrac p w), ← List.append_assoc]
  refine adds_append (by simp [fmtNat_ne_nil]) ?_ h
  rw [List.append_assoc, List.append_assoc]
  exact parseComponent_fmtFrac n p w u rest hp hu hr

theorem durMag_shape (u : Nat) (hu : 0 < u) :
    durMag u = fmtNat 10 u ++ [110, 115] ∨
    durMag u = fmtNat 10 (u / 1000) ++ (fmtFrac 3 u ++ [194, 181, 115]) ∨
    durMag u = fmtNat 10 (u / 1000000) ++ (fmtFrac 6 u ++ [109, 115]) ∨
    (u / 1000000000 / 60 = 0 ∧ durMag u = fmtNat 10 (u / 1000000000 % 60) ++ (fmtFrac 9 u ++ [115])) ∨
    (u / 1000000000 / 60 / 60 = 0 ∧ durMag u = fmtNat 10 (u / 1000000000 / 60 % 60) ++ ([109] ++
      (fmtNat 10 (u / 1000000000 % 60) ++ (fmtFrac 9 u ++ [115])))) ∨
    durMag u = fmtNat 10 (u / 1000000000 / 60 / 60) ++ ([104] ++ (fmtNat 10 (u / 1000000000 / 60 % 60) ++ ([109] ++
      (fmtNat 10 (u / 1000000000 % 60) ++ (fmtFrac 9 u ++ [115]))))) := by
  unfold durMag
  rw [if_neg (by omega)]
  by_cases h1 : u < 1000
  · rw [if_pos h1]; exact Or.inl rfl
  rw [if_neg h1]
  by_cases h2 : u < 1000000
  · rw [if_pos h2, List.append_assoc]; exact Or.inr (Or.inl rfl)
  rw [if_neg h2]
  by_cases h3 : u < 1000000000
  · rw [if_pos h3, List.append_assoc]; exact Or.inr (Or.inr (Or.inl rfl))
  rw [if_neg h3]
  simp only [List.append_assoc]
  by_cases hm : u / 1000000000 / 60 = 0
  · rw [if_pos hm]; exact Or.inr (Or.inr (Or.inr (Or.inl ⟨hm, rfl⟩)))
  rw [if_neg hm]
  by_cases hh : u / 1000000000 / 60 / 60 = 0
  · rw [if_pos hh]; exact Or.inr (Or.inr (Or.inr (Or.inr (Or.inl ⟨hh, rfl⟩))))
  · rw [if_neg hh]; exact Or.inr (Or.inr (Or.inr (Or.inr (Or.inr rfl))))

theorem adds_durMag (u : Nat) (hu0 : 0 < u) : Adds (durMag u) u := by
  -- each shape adds up to some `V`; one computation per shape shows `V = u`
  have key : ∀ {text : Bytes} {V : Nat}, V = u → Adds text V → Adds text u := fun e h => e ▸ h
  have es := Nat.div_add_mod u 1000000000
  have em := Nat.div_add_mod (u / 1000000000) 60
  have eh := Nat.div_add_mod (u / 1000000000 / 60) 60
  have sPart : Adds (fmtNat 10 (u / 1000000000 % 60) ++ (fmtFrac 9 u ++ [115])) _ :=
    adds_fmtFrac _ 9 u (u := [115]) (by decide) rfl unitStop_nil adds_nil
  have mPart : Adds (fmtNat 10 (u / 1000000000 / 60 % 60) ++ ([109] ++ _)) _ :=
    adds_plain _ (u := [109]) rfl (unitStop_fmtNat _ _) sPart
  rcases durMag_shape u hu0 with h | h | h | ⟨hm, h⟩ | ⟨hh, h⟩ | h <;> rw [h]
  · exact key (by omega) (adds_plain u (u := [110, 115]) rfl unitStop_nil adds_nil)
  · exact key (by omega) (adds_fmtFrac (u / 1000) 3 u (u := [194, 181, 115]) (by decide) rfl unitStop_nil adds_nil)
  · exact key (by omega) (adds_fmtFrac (u / 1000000) 6 u (u := [109, 115]) (by decide) rfl unitStop_nil adds_nil)
  · exact key (by omega) sPart
  · exact key (by omega) mPart
  · exact key (by omega) (adds_plain _ (u := [104]) rfl (unitStop_fmtNat _ _) mPart)

theorem durMag_head (u : Nat) : ∃ c cs, durMag u = c :: cs ∧ (48 ≤ c ∧ c ≤ 57) ∧ cs ≠ [] := by
  have key : ∀ (n : Nat) (t : Bytes), t ≠ [] → ∃ c cs, fmtNat 10 n ++ t = c :: cs ∧ (48 ≤ c ∧ c ≤ 57) ∧ cs ≠ [] := by
    intro n t ht
    obtain ⟨a, as, hf, ha⟩ := fmtNat10_cons n
    exact ⟨a, as ++ t, by rw [hf]; rfl, ha, by simp [ht]⟩
  by_cases h0 : u = 0
  · exact ⟨48, [115], by rw [h0]; rfl, by omega, by simp⟩
  · rcases durMag_shape u (by omega) with h | h | h | ⟨_, h⟩ | ⟨_, h⟩ | h <;> rw [h] <;> exact key _ _ (by simp)

theorem parseDuration_of_loop {t : Bytes} {c : Nat} {cs : Bytes} (ht : t = c :: cs) (hc : 48 ≤ c ∧ c ≤ 57) (hcs : cs ≠ [])
    {u : Nat} (hl : parseDurLoop (t.length + 1) 0 t = some u) :
    parseDuration (45 :: t) = .ok (-(u : Int)) ∧
      parseDuration t = if 2 ^ 63 - 1 < u then .err .other else .ok (u : Int) := by
  have h48 : t ≠ [48] := by rw [ht]; intro h; exact hcs (List.cons.inj h).2
  have hemp : t.isEmpty = false := by rw [ht]; rfl
  have hsign : splitSign t = (false, t) := by
    rw [ht]
    unfold splitSign
    split
    · rename_i r heq; have := (List.cons.inj heq).1; omega
    · rename_i r heq; have := (List.cons.inj heq).1; omega
    · rfl
  constructor
  · simp only [parseDuration, splitSign, h48, if_false, hemp, Bool.false_eq_true, hl, if_true]
  · unfold parseDuration
    rw [hsign]
    simp only [h48, if_false, hemp, Bool.false_eq_true, hl]

theorem parseDuration_durMag (u : Nat) (hu0 : 0 < u) (hu : u ≤ 2 ^ 63) :
    parseDuration (45 :: durMag u) = .ok (-(u : Int)) ∧
      parseDuration (durMag u) = if 2 ^ 63 - 1 < u then .err .other else .ok (u : Int) := by
  obtain ⟨c, cs, hform, hdig, hcs⟩ := durMag_head u
  have hl := adds_durMag u hu0 0 _ (by rw [Nat.zero_add]; exact hu) (Nat.lt_succ_self _)
  rw [Nat.zero_add] at hl
  exact parseDuration_of_loop hform hdig hcs hl

theorem parseDuration_durString (d : Int) (hlo : -(2 ^ 63 : Int) ≤ d) (hhi : d < 2 ^ 63) :
    parseDuration (durString d) = .ok d := by
  unfold durString
  split
  · have e : ((-d).toNat : Int) = -d := Int.toNat_of_nonneg (by omega)
    rw [(parseDuration_durMag (-d).toNat (by omega) (by omega)).1, e, Int.neg_neg]
  · by_cases h0 : d = 0
    · subst h0; decide
    · have e : (d.toNat : Int) = d := Int.toNat_of_nonneg (by omega)
      rw [(parseDuration_durMag d.toNat (by omega) (by omega)).2, if_neg (by omega), e]

theorem durString_length (d : Int) : 2 ≤ (durString d).length := by
  unfold durString
  split
  · obtain ⟨c, cs, hform, _, _⟩ := durMag_head (-d).toNat
    rw [hform]; simp
  · obtain ⟨c, cs, hform, _, hcs⟩ := durMag_head d.toNat
    have := List.length_pos_iff.2 hcs
    rw [hform, List.length_cons]; omega

end Nv.C20
