import Nv.Model.C03Cow
/-!
C03, layer B — the frame discipline of copy-on-write. Fix the store `H0` at the start of an operation
of the tree tagged `cow`. A cell is *writable* if it lies beyond `H0`, is owned by `cow` in `H0`, or is
parked in `H0`'s free list. `Inv` says the current store still agrees with `H0` on every other cell, and
that every cell currently owned by `cow` or parked is writable. Every primitive preserves `Inv`
provided its write targets are writable, and `mutableFor`/`newNode` only ever return writable cells.

Every store a primitive produces is the old one with one cell replaced (`Inv.set`) or one cell appended
(`Inv.push`). The operations are walked once, primitive by primitive, for any discipline that answers for the four
primitives (`Rules`, `Keeps`): which cells may be overwritten, and which may be stored as children. The frame
discipline (`frame`) lets every cell be stored; the closure discipline of `Nv.Proofs.C03Cow4` does not.
-/
namespace Nv.C03.Cow
open Nv.C03

def Writable (H0 : Heap) (cow : Nat) (id : Nat) : Prop :=
  H0.size ≤ id ∨ H0.tag id = some cow ∨ id ∈ H0.free

structure Inv (H0 : Heap) (cow : Nat) (H : Heap) : Prop where
  size : H0.size ≤ H.size
  agree : ∀ id, id < H0.size → ¬ Writable H0 cow id → H.get id = H0.get id
  tagW : ∀ id, H.tag id = some cow → Writable H0 cow id
  freeW : ∀ id ∈ H.free, Writable H0 cow id
  tagF : ∀ id c, H.tag id = some c → H0.tag id = some c ∨ c = cow

theorem Inv.init (H0 : Heap) (cow : Nat) : Inv H0 cow H0 :=
  ⟨Nat.le_refl _, fun _ _ _ => rfl, fun _ h => Or.inr (Or.inl h), fun _ h => Or.inr (Or.inr h), fun _ _ h => Or.inl h⟩

def Pres {α : Type} (H0 : Heap) (cow : Nat) (m : M α) (Q : α → Prop) : Prop :=
  ∀ H, Inv H0 cow H → Inv H0 cow (m H).2 ∧ Q (m H).1

variable {H0 : Heap} {cow : Nat}

theorem Pres.weaken {α : Type} {m : M α} {Q R : α → Prop} (hm : Pres H0 cow m Q) (h : ∀ a, Q a → R a) :
    Pres H0 cow m R := fun H hi => ⟨(hm H hi).1, h _ (hm H hi).2⟩

theorem Pres.rd (id : Nat) : Pres H0 cow (rd id) (fun _ => True) := fun _ hi => ⟨hi, trivial⟩

theorem getD_set (l : List HNode) (id j : Nat) (n : HNode) :
    (l.set id n).getD j HNode.empty = if j = id ∧ id < l.length then n else l.getD j HNode.empty := by
  rw [List.getD_eq_getElem?_getD, List.getD_eq_getElem?_getD, List.getElem?_set]
  by_cases hji : id = j
  · subst hji
    by_cases hl : id < l.length
    · simp [hl]
    · simp [hl]
  · simp [hji, Ne.symm hji]

/-- beyond the appended cell both sides are the empty cell -/
theorem getD_push (l : List HNode) (j : Nat) (n : HNode) :
    (l ++ [n]).getD j HNode.empty = if j = l.length then n else l.getD j HNode.empty := by
  rw [List.getD_eq_getElem?_getD, List.getD_eq_getElem?_getD]
  rcases Nat.lt_trichotomy j l.length with h | h | h
  · rw [List.getElem?_append_left h, if_neg (Nat.ne_of_lt h)]
  · rw [if_pos h, h, List.getElem?_concat_length]; rfl
  · rw [if_neg (Nat.ne_of_gt h), List.getElem?_eq_none (Nat.le_of_lt h),
      List.getElem?_eq_none (by rw [List.length_append]; exact h)]

theorem get_set_self (l : List HNode) (id : Nat) (n : HNode) (h : id < l.length) : (l.set id n).getD id HNode.empty = n := by
  rw [getD_set, if_pos ⟨rfl, h⟩]

theorem get_set_ne (l : List HNode) (id j : Nat) (n : HNode) (h : j ≠ id) :
    (l.set id n).getD j HNode.empty = l.getD j HNode.empty := by
  rw [getD_set, if_neg (fun e => h e.1)]

theorem get_ge (l : List HNode) (j : Nat) (h : l.length ≤ j) : l.getD j HNode.empty = HNode.empty := by
  rw [List.getD_eq_getElem?_getD, List.getElem?_eq_none h]; rfl

theorem get_wr (H : Heap) (id y : Nat) (is : List Item) (cs : List Nat) :
    ((Cow.wr id is cs) H).2.get y = if y = id ∧ id < H.size then ⟨is, cs, (H.get id).cow⟩ else H.get y :=
  getD_set _ _ _ _

theorem tag_some_lt (H : Heap) (id c : Nat) (h : H.tag id = some c) : id < H.size := by
  by_cases hl : id < H.size
  · exact hl
  · rw [Heap.tag, Heap.get, get_ge _ _ (Nat.le_of_not_lt hl)] at h
    cases h

theorem not_writable_lt {id : Nat} (h : ¬ Writable H0 cow id) : id < H0.size := by
  by_cases hl : id < H0.size
  · exact hl
  · exact absurd (Or.inl (by omega)) h

theorem Inv.set {H : Heap} (hi : Inv H0 cow H) {id : Nat} (hw : Writable H0 cow id) {n : HNode}
    (hn : ∀ c, n.cow = some c → H.tag id = some c ∨ c = cow) {fr : List Nat}
    (hfr : ∀ j ∈ fr, Writable H0 cow j) (cp : Nat) : Inv H0 cow ⟨H.nodes.set id n, fr, cp⟩ := by
  have hget : ∀ j, Heap.get ⟨H.nodes.set id n, fr, cp⟩ j = if j = id ∧ id < H.size then n else H.get j :=
    fun j => getD_set _ _ _ _
  refine ⟨by simpa [Heap.size] using hi.size, fun j hj hnw => ?_, fun j hj => ?_, hfr, fun j c hj => ?_⟩
  · have hne : ¬ (j = id ∧ id < H.size) := fun e => hnw (e.1 ▸ hw)
    rw [hget, if_neg hne]
    exact hi.agree j hj hnw
  · rw [Heap.tag, hget] at hj
    split at hj
    · rename_i e; exact e.1 ▸ hw
    · exact hi.tagW j hj
  · rw [Heap.tag, hget] at hj
    split at hj
    · rename_i e
      rcases hn c hj with h1 | h1
      · exact hi.tagF j c (e.1 ▸ h1)
      · exact Or.inr h1
    · exact hi.tagF j c hj

theorem Inv.push {H : Heap} (hi : Inv H0 cow H) (is : List Item) (cs : List Nat) {fr : List Nat}
    (hfr : ∀ j ∈ fr, Writable H0 cow j) (cp : Nat) : Inv H0 cow ⟨H.nodes ++ [⟨is, cs, some cow⟩], fr, cp⟩ := by
  have hget : ∀ j, Heap.get ⟨H.nodes ++ [⟨is, cs, some cow⟩], fr, cp⟩ j =
      if j = H.size then ⟨is, cs, some cow⟩ else H.get j := fun j => getD_push _ _ _
  have hsz : H.size ≤ Heap.size ⟨H.nodes ++ [⟨is, cs, some cow⟩], fr, cp⟩ := by
    rw [Heap.size, Heap.size, List.length_append]; exact Nat.le_add_right _ _
  refine ⟨Nat.le_trans hi.size hsz, fun j hj hnw => ?_, fun j hj => ?_, hfr, fun j c hj => ?_⟩
  · rw [hget, if_neg (Nat.ne_of_lt (Nat.lt_of_lt_of_le hj hi.size))]
    exact hi.agree j hj hnw
  · rw [Heap.tag, hget] at hj
    split at hj
    · rename_i e; exact Or.inl (e ▸ hi.size)
    · exact hi.tagW j hj
  · rw [Heap.tag, hget] at hj
    split at hj
    · exact Or.inr (Option.some.inj hj).symm
    · exact hi.tagF j c hj

theorem freeNode_snd (cow id : Nat) (H : Heap) : (freeNode cow id H).2 = (freeNodeT cow id H).2 := by
  simp only [Cow.freeNode, Cow.freeNodeT, apply_ite Prod.snd]

theorem size_wr (id : Nat) (is : List Item) (cs : List Nat) (H : Heap) : ((wr id is cs) H).2.size = H.size :=
  List.length_set ..

theorem size_newNode (cow : Nat) (H : Heap) : H.size ≤ ((newNode cow) H).2.size := by
  unfold Cow.newNode
  split
  · rw [Heap.size, Heap.size, List.length_append]; exact Nat.le_add_right _ _
  · exact Nat.le_of_eq (List.length_set ..).symm

theorem size_freeNodeT (cow id : Nat) (H : Heap) : ((freeNodeT cow id) H).2.size = H.size := by
  unfold Cow.freeNodeT
  split
  · split
    · exact List.length_set ..
    · exact List.length_set ..
  · rfl

theorem Inv.newNode {H : Heap} (hi : Inv H0 cow H) :
    Inv H0 cow ((newNode cow) H).2 ∧ Writable H0 cow ((newNode cow) H).1 := by
  unfold Cow.newNode
  cases hf : H.free with
  | nil => exact ⟨hi.push [] [] (by simp) _, Or.inl hi.size⟩
  | cons id rest =>
    have hw : Writable H0 cow id := hi.freeW id (by simp [hf])
    exact ⟨hi.set hw (fun _ h => Or.inr (Option.some.inj h).symm) (fun j hj => hi.freeW j (by simp [hf, hj])) _, hw⟩

theorem Inv.freeNodeT {H : Heap} (hi : Inv H0 cow H) (id : Nat) : Inv H0 cow ((freeNodeT cow id) H).2 := by
  unfold Cow.freeNodeT
  split
  · rename_i ho
    have hw : Writable H0 cow id := hi.tagW id ho
    have hn : ∀ c, HNode.empty.cow = some c → H.tag id = some c ∨ c = cow := fun _ h => nomatch h
    split
    · exact hi.set hw hn (fun j hj => (List.mem_cons.1 hj).elim (fun e => e ▸ hw) (hi.freeW j)) _
    · exact hi.set hw hn hi.freeW _
  · exact hi

theorem Pres.freeNode (id : Nat) : Pres H0 cow (freeNode cow id) (fun _ => True) :=
  fun H hi => ⟨freeNode_snd cow id H ▸ hi.freeNodeT id, trivial⟩

/-- What a walk through an operation of the tree tagged `cow` uses of the invariant it maintains: the invariant `I`,
    the cells `W` that may be overwritten, the cells `K s` that may be stored as children in a store of size `s`, and
    what the four primitives do to them. -/
structure Rules (cow : Nat) where
  I : Heap → Prop
  W : Nat → Prop
  K : Nat → Nat → Prop
  mono : ∀ {s s' id : Nat}, K s id → s ≤ s' → K s' id
  rd : ∀ {H : Heap} (id : Nat), I H →
    ((H.get id).cow = some cow → W id) ∧ (∀ {s : Nat}, K s id → ∀ x ∈ (H.get id).children, K H.size x)
  wr : ∀ {H : Heap} {id : Nat} (is : List Item) {cs : List Nat}, I H → W id → (∀ x ∈ cs, K H.size x) →
    I ((Cow.wr id is cs) H).2
  new : ∀ {H : Heap}, I H →
    I ((newNode cow) H).2 ∧ K ((newNode cow) H).2.size ((newNode cow) H).1 ∧ W ((newNode cow) H).1
  free : ∀ {H : Heap} (id : Nat), I H → I ((freeNodeT cow id) H).2

/-- `Q result finalSize`: sizes are carried because a cell must exist to be storable, and allocation makes more cells
    exist -/
def Keeps {α : Type} (R : Rules cow) (s : Nat) (m : M α) (Q : α → Nat → Prop) : Prop :=
  ∀ H, R.I H → H.size = s → R.I (m H).2 ∧ s ≤ (m H).2.size ∧ Q (m H).1 (m H).2.size

variable {R : Rules cow}

theorem Keeps.pure {α : Type} {s : Nat} {Q : α → Nat → Prop} (a : α) (h : Q a s) : Keeps R s (Pure.pure a : M α) Q := by
  rintro H hi rfl
  exact ⟨hi, Nat.le_refl _, h⟩

theorem Keeps.bind {α β : Type} {s : Nat} {m : M α} {f : α → M β} {Q : α → Nat → Prop} {P : β → Nat → Prop}
    (hm : Keeps R s m Q) (hf : ∀ a s', s ≤ s' → Q a s' → Keeps R s' (f a) P) : Keeps R s (m >>= f) P := by
  intro H hi hs
  obtain ⟨h1, h2, h3⟩ := hm H hi hs
  obtain ⟨g1, g2, g3⟩ := hf _ _ h2 h3 _ h1 rfl
  exact ⟨g1, Nat.le_trans h2 g2, g3⟩

theorem Keeps.seq {α β : Type} {s : Nat} {m : M α} {f : α → M β} {P : β → Nat → Prop}
    (hm : Keeps R s m (fun _ s' => s' = s)) (hf : ∀ a, Keeps R s (f a) P) : Keeps R s (m >>= f) P :=
  hm.bind (fun a _ _ e => e ▸ hf a)

theorem Keeps.weaken {α : Type} {s : Nat} {m : M α} {Q P : α → Nat → Prop} (hm : Keeps R s m Q)
    (h : ∀ a s', s ≤ s' → Q a s' → P a s') : Keeps R s m P :=
  fun H hi hs => ⟨(hm H hi hs).1, (hm H hi hs).2.1, h _ _ (hm H hi hs).2.1 (hm H hi hs).2.2⟩

theorem Keeps.ite {α : Type} {s : Nat} {p : Prop} [Decidable p] {m1 m2 : M α} {Q : α → Nat → Prop}
    (h1 : p → Keeps R s m1 Q) (h2 : ¬ p → Keeps R s m2 Q) : Keeps R s (if p then m1 else m2) Q := by
  split
  · exact h1 ‹_›
  · exact h2 ‹_›

theorem Keeps.foldlM {α β : Type} (f : β → α → M β) (hf : ∀ b a s, Keeps R s (f b a) (fun _ _ => True)) :
    ∀ (l : List α) (b : β) (s : Nat), Keeps R s (l.foldlM f b) (fun _ _ => True)
  | [], b, _ => Keeps.pure b trivial
  | a :: l, b, s => Keeps.bind (hf b a s) (fun b' s' _ _ => Keeps.foldlM f hf l b' s')

theorem Keeps.read {α : Type} {s : Nat} (f : Heap → α) : Keeps R s (fun H => (f H, H) : M α) (fun _ s' => s' = s) :=
  fun _ hi hs => ⟨hi, Nat.le_of_eq hs.symm, hs⟩

theorem Keeps.rd_bind {β : Type} {s : Nat} (id : Nat) (f : HNode → M β) (P : β → Nat → Prop)
    (hf : ∀ nd : HNode, (nd.cow = some cow → R.W id) → (∀ {s0 : Nat}, R.K s0 id → ∀ x ∈ nd.children, R.K s x) →
      Keeps R s (f nd) P) :
    Keeps R s (Cow.rd id >>= f) P := by
  rintro H hi rfl
  exact hf (H.get id) (R.rd id hi).1 (R.rd id hi).2 H hi rfl

theorem Keeps.wr {s : Nat} (id : Nat) (is : List Item) (cs : List Nat) (hw : R.W id) (hcs : ∀ x ∈ cs, R.K s x) :
    Keeps R s (Cow.wr id is cs) (fun _ s' => s' = s) := by
  rintro H hi rfl
  exact ⟨R.wr is hi hw hcs, Nat.le_of_eq (size_wr ..).symm, size_wr ..⟩

theorem Keeps.newNode {s : Nat} : Keeps R s (Cow.newNode cow) (fun id s' => R.K s' id ∧ R.W id) := by
  rintro H hi rfl
  exact ⟨(R.new hi).1, size_newNode cow H, (R.new hi).2⟩

theorem Keeps.freeNodeT {s : Nat} (id : Nat) : Keeps R s (Cow.freeNodeT cow id) (fun _ s' => s' = s) := by
  rintro H hi rfl
  exact ⟨R.free id hi, Nat.le_of_eq (size_freeNodeT ..).symm, size_freeNodeT ..⟩

theorem Keeps.freeNode {s : Nat} (id : Nat) : Keeps R s (Cow.freeNode cow id) (fun _ s' => s' = s) := by
  intro H hi hs
  have h := Keeps.freeNodeT id H hi hs
  rw [← freeNode_snd] at h
  exact h

def Rules.All (R : Rules cow) (s : Nat) (l : List Nat) : Prop := ∀ x ∈ l, R.K s x

theorem Rules.All.mono {s s' : Nat} {l : List Nat} (h : R.All s l) (hs : s ≤ s') : R.All s' l := fun x hx => R.mono (h x hx) hs
theorem Rules.All.nil {s : Nat} : R.All s [] := fun _ h => nomatch h
theorem Rules.All.sub {s : Nat} {l l' : List Nat} (h : R.All s l) (hsub : ∀ x ∈ l', x ∈ l) : R.All s l' :=
  fun x hx => h x (hsub x hx)
theorem Rules.All.take {s i : Nat} {l : List Nat} (h : R.All s l) : R.All s (l.take i) := h.sub fun _ => List.mem_of_mem_take
theorem Rules.All.drop {s i : Nat} {l : List Nat} (h : R.All s l) : R.All s (l.drop i) := h.sub fun _ => List.mem_of_mem_drop
theorem Rules.All.append {s : Nat} {l l' : List Nat} (h : R.All s l) (h' : R.All s l') : R.All s (l ++ l') :=
  fun x hx => (List.mem_append.1 hx).elim (h x) (h' x)
theorem Rules.All.cons {s a : Nat} {l : List Nat} (ha : R.K s a) (h : R.All s l) : R.All s (a :: l) :=
  fun x hx => (List.mem_cons.1 hx).elim (fun e => e ▸ ha) (h x)
theorem Rules.All.setAt {s i a : Nat} {l : List Nat} (h : R.All s l) (ha : R.K s a) : R.All s (setAt l i a) :=
  h.take.append (Rules.All.cons ha h.drop)
theorem Rules.All.insertAt {s i a : Nat} {l : List Nat} (h : R.All s l) (ha : R.K s a) : R.All s (insertAt l i a) :=
  h.take.append (Rules.All.cons ha h.drop)
theorem Rules.All.removeAt {s i : Nat} {l : List Nat} (h : R.All s l) : R.All s (removeAt l i) := h.take.append h.drop
theorem Rules.All.getD {s i d : Nat} {l : List Nat} (h : R.All s l) (hd : R.K s d) : R.K s (l.getD i d) := by
  rw [List.getD_eq_getElem?_getD]
  cases hx : l[i]? with
  | none => exact hd
  | some x => exact h x (List.mem_of_getElem? hx)

theorem Keeps.mutableFor {s : Nat} (id : Nat) (hk : R.K s id) :
    Keeps R s (mutableFor cow id) (fun out s' => R.K s' out ∧ R.W out) := by
  unfold Cow.mutableFor
  apply Keeps.rd_bind; intro nd how hch
  apply Keeps.ite
  · intro h; exact Keeps.pure _ ⟨hk, how h⟩
  · intro _
    apply Keeps.bind Keeps.newNode; intro out s1 hs1 hq
    apply Keeps.seq (Keeps.wr out _ _ hq.2 (fun x hx => R.mono (hch hk x hx) hs1)); intro _
    exact Keeps.pure _ hq

theorem Keeps.mutableChild {s : Nat} (n i : Nat) (hk : R.K s n) (hw : R.W n) :
    Keeps R s (mutableChild cow n i) (fun ch s' => R.K s' ch ∧ R.W ch) := by
  unfold Cow.mutableChild
  apply Keeps.rd_bind; intro nd _ hch
  have hall : R.All s nd.children := hch hk
  apply Keeps.bind (Keeps.mutableFor _ (hall.getD hk)); intro ch s1 hs1 hq
  apply Keeps.seq (Keeps.wr n _ _ hw ((hall.mono hs1).setAt hq.1)); intro _
  exact Keeps.pure _ hq

theorem Keeps.splitB {s : Nat} (n i : Nat) (hk : R.K s n) (hw : R.W n) :
    Keeps R s (splitB cow n i) (fun r s' => R.K s' r.2 ∧ R.W r.2) := by
  unfold Cow.splitB
  apply Keeps.rd_bind; intro nd _ hch
  have hall : R.All s nd.children := hch hk
  apply Keeps.bind Keeps.newNode; intro next s1 hs1 hq
  apply Keeps.seq (Keeps.wr next _ _ hq.2 (hall.mono hs1).drop); intro _
  apply Keeps.seq (Keeps.wr n _ _ hw (hall.mono hs1).take); intro _
  exact Keeps.pure _ hq

theorem Keeps.insertHere {s : Nat} (n : Nat) (nd : HNode) (x : Item) (hw : R.W n)
    (hall : R.All s nd.children) : Keeps R s (insertHere n nd x) (fun _ _ => True) := by
  unfold Cow.insertHere
  apply Keeps.ite
  · intro _
    apply Keeps.seq (Keeps.wr n _ _ hw hall); intro _
    exact Keeps.pure _ trivial
  · intro _
    apply Keeps.seq (Keeps.wr n _ _ hw Rules.All.nil); intro _
    exact Keeps.pure _ trivial

theorem Keeps.insertB (mx : Nat) (x : Item) : ∀ (fuel n s : Nat), R.K s n → R.W n →
    Keeps R s (insertB cow mx x fuel n) (fun _ _ => True) := by
  intro fuel
  induction fuel with
  | zero =>
    intro n s hk hw
    unfold Cow.insertB
    apply Keeps.rd_bind; intro nd _ hch
    apply Keeps.ite
    · intro _; exact Keeps.insertHere _ _ _ hw (hch hk)
    · intro _; exact Keeps.pure _ trivial
  | succ fuel ih =>
    intro n s hk hw
    unfold Cow.insertB
    apply Keeps.rd_bind; intro nd _ hch
    apply Keeps.ite
    · intro _; exact Keeps.insertHere _ _ _ hw (hch hk)
    · intro _
      apply Keeps.rd_bind; intro cn _ _
      apply Keeps.ite
      · intro _
        apply Keeps.bind (Keeps.mutableChild _ _ hk hw); intro ch s1 _ hq
        exact ih ch s1 hq.1 hq.2
      · intro _
        apply Keeps.bind (Keeps.mutableChild _ _ hk hw); intro first s1 hs1 hq1
        apply Keeps.bind (Keeps.splitB _ _ hq1.1 hq1.2); intro sp s2 hs2 hq2
        have hk2 : R.K s2 n := R.mono hk (Nat.le_trans hs1 hs2)
        apply Keeps.rd_bind; intro nd1 _ hch1
        apply Keeps.seq (Keeps.wr n _ _ hw (Rules.All.insertAt (hch1 hk) hq2.1)); intro _
        apply Keeps.ite
        · intro _
          apply Keeps.bind (Keeps.mutableChild _ _ hk2 hw); intro ch s4 _ hq
          exact ih ch s4 hq.1 hq.2
        · intro _
          apply Keeps.ite
          · intro _
            apply Keeps.bind (Keeps.mutableChild _ _ hk2 hw); intro ch s4 _ hq
            exact ih ch s4 hq.1 hq.2
          · intro _
            apply Keeps.rd_bind; intro nd2 _ hch2
            apply Keeps.seq (Keeps.wr n _ _ hw (hch2 hk)); intro _
            exact Keeps.pure _ trivial

theorem Keeps.growB {s : Nat} (mn n i : Nat) (hk : R.K s n) (hw : R.W n) :
    Keeps R s (growB cow mn n i) (fun _ _ => True) := by
  unfold Cow.growB
  apply Keeps.rd_bind; intro nd _ _
  apply Keeps.rd_bind; intro left _ _
  apply Keeps.rd_bind; intro right _ _
  apply Keeps.ite
  · intro _
    apply Keeps.bind (Keeps.mutableChild _ _ hk hw); intro child s1 hs1 hqc
    apply Keeps.bind (Keeps.mutableChild _ _ (R.mono hk hs1) hw); intro sfid s2 hs2 hqs
    apply Keeps.rd_bind; intro sf _ hsf
    apply Keeps.rd_bind; intro ch _ hchc
    apply Keeps.rd_bind; intro nd1 _ hn1
    have asf : R.All s2 sf.children := hsf hqs.1
    have ach : R.All s2 ch.children := hchc hqc.1
    apply Keeps.seq (Keeps.wr sfid _ _ hqs.2 (asf.sub fun _ hx => (List.dropLast_sublist _).subset hx)); intro _
    have alast : R.All s2 sf.children.getLast?.toList :=
      asf.sub fun _ hx => List.mem_of_getLast? (Option.mem_toList.1 hx)
    apply Keeps.seq (Keeps.wr child _ _ hqc.2 (alast.append ach)); intro _
    exact (Keeps.wr n _ _ hw (hn1 hk)).weaken (fun _ _ _ _ => trivial)
  · intro _
    apply Keeps.ite
    · intro _
      apply Keeps.bind (Keeps.mutableChild _ _ hk hw); intro child s1 hs1 hqc
      apply Keeps.bind (Keeps.mutableChild _ _ (R.mono hk hs1) hw); intro sfid s2 hs2 hqs
      apply Keeps.rd_bind; intro sf _ hsf
      apply Keeps.rd_bind; intro ch _ hchc
      apply Keeps.rd_bind; intro nd1 _ hn1
      have asf : R.All s2 sf.children := hsf hqs.1
      have ach : R.All s2 ch.children := hchc hqc.1
      apply Keeps.seq (Keeps.wr sfid _ _ hqs.2 asf.drop); intro _
      apply Keeps.seq (Keeps.wr child _ _ hqc.2 (ach.append asf.take)); intro _
      exact (Keeps.wr n _ _ hw (hn1 hk)).weaken (fun _ _ _ _ => trivial)
    · intro _
      apply Keeps.bind (Keeps.mutableChild _ _ hk hw); intro child s1 hs1 hqc
      apply Keeps.rd_bind; intro nd1 _ hn1
      have an1 : R.All s1 nd1.children := hn1 hk
      apply Keeps.rd_bind; intro mc _ hmc
      apply Keeps.rd_bind; intro ch _ hchc
      have amc : R.All s1 mc.children := hmc (an1.getD (R.mono hk hs1))
      have ach : R.All s1 ch.children := hchc hqc.1
      apply Keeps.seq (Keeps.wr n _ _ hw an1.removeAt); intro _
      apply Keeps.seq (Keeps.wr child _ _ hqc.2 (ach.append amc)); intro _
      exact (Keeps.freeNode _).weaken (fun _ _ _ _ => trivial)

theorem Keeps.removeLeaf {s : Nat} (n : Nat) (nd : HNode) (typ : Rm) (hw : R.W n) :
    Keeps R s (removeLeaf n nd typ) (fun _ _ => True) := by
  unfold Cow.removeLeaf
  apply Keeps.seq (Keeps.wr n _ _ hw Rules.All.nil); intro _
  exact Keeps.pure _ trivial

theorem Keeps.removeB (mn : Nat) : ∀ (fuel n s : Nat) (typ : Rm), R.K s n → R.W n →
    Keeps R s (removeB cow mn fuel n typ) (fun _ _ => True) := by
  intro fuel
  induction fuel with
  | zero =>
    intro n s typ hk hw
    unfold Cow.removeB
    apply Keeps.rd_bind; intro nd _ _
    apply Keeps.ite
    · intro _; exact Keeps.removeLeaf _ _ _ hw
    · intro _; exact Keeps.pure _ trivial
  | succ fuel ih =>
    intro n s typ hk hw
    unfold Cow.removeB
    apply Keeps.rd_bind; intro nd _ _
    apply Keeps.ite
    · intro _; exact Keeps.removeLeaf _ _ _ hw
    · intro _
      apply Keeps.rd_bind; intro cn _ _
      apply Keeps.bind (Q := fun _ _ => True)
      · apply Keeps.ite
        · intro _; exact Keeps.growB _ _ _ hk hw
        · intro _; exact Keeps.pure _ trivial
      · intro _ s1 hs1 _
        apply Keeps.rd_bind; intro nd1 _ _
        apply Keeps.bind (Keeps.mutableChild _ _ (R.mono hk hs1) hw); intro child s2 hs2 hq
        apply Keeps.ite
        · intro _
          apply Keeps.bind (ih child s2 .max hq.1 hq.2); intro p s3 hs3 _
          apply Keeps.rd_bind; intro nd2 _ hch2
          apply Keeps.seq (Keeps.wr n _ _ hw (hch2 hk)); intro _
          exact Keeps.pure _ trivial
        · intro _; exact ih child s2 typ hq.1 hq.2

def RootOk (R : Rules cow) (r : HTree × Option Item) (s' : Nat) : Prop :=
  (∀ rt, r.1.root = some rt → R.K s' rt) ∧ r.1.cow = cow

theorem Keeps.replaceOrInsertB {s : Nat} (t : HTree) (x : Item) (ht : t.cow = cow)
    (hk0 : ∀ r0, t.root = some r0 → R.K s r0) : Keeps R s (replaceOrInsertB t x) (RootOk R) := by
  subst ht
  unfold Cow.replaceOrInsertB
  cases hr : t.root with
  | none =>
    simp only []
    apply Keeps.bind Keeps.newNode; intro r s1 _ hq
    apply Keeps.seq (Keeps.wr r _ _ hq.2 Rules.All.nil); intro _
    exact Keeps.pure _ ⟨fun rt h => Option.some.inj h ▸ hq.1, rfl⟩
  | some r0 =>
    simp only []
    apply Keeps.bind (Keeps.mutableFor _ (hk0 r0 hr)); intro r s1 hs1 hq
    apply Keeps.rd_bind; intro nd _ _
    apply Keeps.bind (Q := fun root s' => R.K s' root ∧ R.W root)
    · apply Keeps.ite
      · intro _
        apply Keeps.bind (Keeps.splitB _ _ hq.1 hq.2); intro sp s2 hs2 hq2
        apply Keeps.bind Keeps.newNode; intro nr s3 hs3 hq3
        have hall : R.All s3 [r, sp.2] :=
          Rules.All.cons (R.mono hq.1 (Nat.le_trans hs2 hs3)) (Rules.All.cons (R.mono hq2.1 hs3) Rules.All.nil)
        apply Keeps.seq (Keeps.wr nr _ _ hq3.2 hall); intro _
        exact Keeps.pure _ hq3
      · intro _; exact Keeps.pure _ hq
    · intro root s2 _ hqr
      apply Keeps.seq (Keeps.read _); intro h
      apply Keeps.bind (Keeps.insertB _ _ _ _ _ hqr.1 hqr.2); intro out s4 hs4 _
      exact Keeps.pure _ ⟨fun rt h => Option.some.inj h ▸ R.mono hqr.1 hs4, rfl⟩

theorem Keeps.deleteItemB {s : Nat} (t : HTree) (typ : Rm) (ht : t.cow = cow)
    (hk0 : ∀ r0, t.root = some r0 → R.K s r0) : Keeps R s (deleteItemB t typ) (RootOk R) := by
  subst ht
  unfold Cow.deleteItemB
  cases hr : t.root with
  | none => exact Keeps.pure _ ⟨fun rt h => hk0 rt (hr ▸ h), rfl⟩
  | some r0 =>
    simp only []
    apply Keeps.rd_bind; intro nd0 _ _
    apply Keeps.ite
    · intro _; exact Keeps.pure _ ⟨fun rt h => hk0 rt (hr ▸ h), rfl⟩
    · intro _
      apply Keeps.bind (Keeps.mutableFor _ (hk0 r0 hr)); intro r s1 hs1 hq
      apply Keeps.seq (Keeps.read _); intro h
      apply Keeps.bind (Keeps.removeB _ _ _ _ _ hq.1 hq.2); intro out s3 hs3 _
      apply Keeps.rd_bind; intro nd _ hch
      have hall : R.All s3 nd.children := hch hq.1
      apply Keeps.bind (Q := fun root s' => R.K s' root)
      · split
        · rename_i ch _ _ hcs
          apply Keeps.seq (Keeps.freeNode _); intro _
          exact Keeps.pure _ (hall ch (hcs ▸ List.mem_cons_self))
        · exact Keeps.pure _ (R.mono hq.1 hs3)
      · intro root s4 _ hqr
        exact Keeps.pure _ ⟨fun rt h => Option.some.inj h ▸ hqr, rfl⟩

theorem Keeps.resetB : ∀ (fuel id s : Nat), Keeps R s (resetB cow fuel id) (fun _ _ => True) := by
  intro fuel
  induction fuel with
  | zero =>
    intro id s
    unfold Cow.resetB
    apply Keeps.seq (Keeps.freeNodeT _); intro _
    exact Keeps.pure _ trivial
  | succ fuel ih =>
    intro id s
    unfold Cow.resetB
    apply Keeps.rd_bind; intro nd _ _
    apply Keeps.bind
      (Keeps.foldlM _ (fun acc ch s => Keeps.ite (fun _ => ih ch s) (fun _ => Keeps.pure _ trivial)) _ _ _)
    intro go s1 _ _
    apply Keeps.ite
    · intro _
      apply Keeps.seq (Keeps.freeNodeT _); intro _
      exact Keeps.pure _ trivial
    · intro _; exact Keeps.pure _ trivial

theorem Keeps.clearB {s : Nat} (t : HTree) (add : Bool) (ht : t.cow = cow) :
    Keeps R s (clearB t add) (RootOk R) := by
  subst ht
  unfold Cow.clearB
  cases t.root with
  | none => exact Keeps.pure _ ⟨fun _ h => (nomatch h), rfl⟩
  | some r =>
    simp only []
    apply Keeps.seq (Keeps.read _); intro h
    apply Keeps.bind (Q := fun _ _ => True)
    · apply Keeps.ite
      · intro _; exact Keeps.resetB _ _ _
      · intro _; exact Keeps.pure _ trivial
    · intro _ _ _ _; exact Keeps.pure _ ⟨fun _ h => (nomatch h), rfl⟩

/-- every cell may be stored: the frame invariant says nothing about child lists -/
def frame (H0 : Heap) (cow : Nat) : Rules cow where
  I := Inv H0 cow
  W := Writable H0 cow
  K := fun _ _ => True
  mono := fun _ _ => trivial
  rd := fun id hi => ⟨hi.tagW id, fun _ _ _ => trivial⟩
  wr := fun {H id} is cs hi hw _ => hi.set (n := ⟨is, cs, (H.get id).cow⟩) hw (fun _ h => Or.inl h) hi.freeW _
  new := fun hi => ⟨hi.newNode.1, trivial, hi.newNode.2⟩
  free := fun id hi => hi.freeNodeT id

theorem Pres.of_keeps {α : Type} {m : M α} {Q : α → Prop} (h : ∀ s, Keeps (frame H0 cow) s m (fun a _ => Q a)) :
    Pres H0 cow m Q :=
  fun H hi => ⟨(h H.size H hi rfl).1, (h H.size H hi rfl).2.2⟩

theorem Pres.mutableFor (id : Nat) : Pres H0 cow (mutableFor cow id) (Writable H0 cow) :=
  Pres.of_keeps fun _ => (Keeps.mutableFor id trivial).weaken fun _ _ _ h => h.2

end Nv.C03.Cow
