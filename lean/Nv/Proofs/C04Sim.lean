import Nv.Proofs.C04
import Nv.Proofs.C04Wide
/-!
C04 — one step of the implementation-shaped model simulates one step of the ideal LRU
(and keeps the invariant), for every operation inside the property's quantifier.
-/
namespace Nv.C04

theorem inv_refresh {kd : Kind} {s : Lru} (hi : Inv kd s) {k : Nat} {old : Entry} (hf : find? k s.list = some old)
    (v : Nat) : Inv kd { s with list := ⟨k, v, old.size⟩ :: removeKey k s.list } := by
  have hm := (find_some hf).1
  have ht : old.size + total (removeKey k s.list) = total s.list := by
    rw [total_removeKey hf, Int.add_comm, Int.sub_add_cancel]
  have hp : Pre kd { s with list := ⟨k, v, old.size⟩ :: removeKey k s.list, size := s.size } :=
    pre_push hi k v old.size (hi.entry_range hm) (fun h => hi.unit h old hm) _ (removeKey_sublist k s.list)
      (key_not_mem_removeKey k s.list hi.nodup) _ (by rw [ht]; exact hi.size_eq)
  exact hp.toInv (by show old.size + total (removeKey k s.list) ≤ s.capacity; rw [ht]; exact hi.fits)

theorem addNew_sim {c : Cfg} {kd : Kind} {s : Lru} (hc : c.evictWhile = .gt) (hi : Inv kd s)
    (k v : Nat) (sz : Int) (hsz : 0 ≤ sz ∧ sz < 2 ^ 62) (hf : find? k s.list = none) :
    Agrees kd (addNew c kd s k v sz) ((abs s).insert kd k v sz) := by
  have := checkCapacity_agrees hc
    (pre_push hi k v (szOf kd sz) (szOf_range kd hsz) (by intro h; subst h; rfl) s.list (List.Sublist.refl _)
      (find_none hf).1 (wrap64 (s.size + szOf kd sz)) (by rw [hi.size_add (szOf_range kd hsz), Int.add_comm]))
  rw [Ideal.insert, abs_entries, (find_none hf).2]
  exact this

theorem update_sim {c : Cfg} {kd : Kind} {s : Lru} (hc : Proved kd c) (hi : Inv kd s)
    (k v : Nat) (sz : Int) (hsz : 0 ≤ sz ∧ sz < 2 ^ 62) {old : Entry} (hf : find? k s.list = some old) :
    Agrees kd (updateInPlace c kd s old v sz) ((abs s).insert kd k v sz) := by
  obtain ⟨hgt, -, -, -, hupd⟩ := hc
  have ⟨hm, hk⟩ := find_some hf
  subst hk
  cases kd with
  | sized =>
    have := checkCapacity_agrees hgt
      (pre_push hi old.key v sz hsz (by intro h; cases h) _ (removeKey_sublist _ _)
        (key_not_mem_removeKey _ _ hi.nodup) (wrap64 (s.size + wrap64 (sz - old.size)))
        (by rw [hi.size_update hm hsz, total_removeKey hf, Int.add_comm]))
    rw [updateInPlace, hupd rfl, if_pos rfl]
    exact this
  | tiny =>
    -- the size stays 1, so nothing is evicted whether or not the update re-checks the capacity
    have hi1 := inv_refresh hi hf v
    rw [hi.unit rfl _ hm] at hi1
    have hres : updateInPlace c .tiny s old v sz =
        ({ s with list := ⟨old.key, v, 1⟩ :: removeKey old.key s.list }, [], false) := by
      cases hu : c.updateChecks with
      | true => simp only [updateInPlace, hu, if_true, checkCapacity_noop (c := c) hgt hi1]
      | false => simp only [updateInPlace, hu]; rfl
    rw [hres]
    exact agrees_of_inv hi1

theorem upsert_sim {c : Cfg} {kd : Kind} {s : Lru} (hc : Proved kd c) (hi : Inv kd s) (k v : Nat) (sz : Int)
    (hsz : 0 ≤ sz ∧ sz < 2 ^ 62) : Agrees kd (upsert c kd s k v sz) ((abs s).insert kd k v sz) := by
  rw [upsert]
  cases hf : find? k s.list with
  | some old => exact update_sim hc hi k v sz hsz hf
  | none => exact addNew_sim hc.1 hi k v sz hsz hf

theorem sizeOk_bounds {x : Int} (h : (decide (0 ≤ x) && decide (x < 2 ^ 62)) = true) : 0 ≤ x ∧ x < 2 ^ 62 := by
  simpa using h

theorem step_sim {c : Cfg} {kd : Kind} (hc : Proved kd c) (s : Lru) (op : Op) (hi : Inv kd s) (hok : op.sizeOk = true) :
    Inv kd (step c kd s op).1 ∧ abs (step c kd s op).1 = (specStep kd (abs s) op).1 ∧
      (step c kd s op).2 = (specStep kd (abs s) op).2 := by
  obtain ⟨hgt, hget, hpeek, hsia, -⟩ := id hc
  have touch : ∀ {k e}, find? k s.list = some e → Inv kd (moveToFront s e) := by
    intro k e hf
    have := inv_refresh hi hf e.val
    rwa [← (find_some hf).2] at this
  cases op with
  | set k v sz =>
    have h := upsert_sim hc hi k v sz (sizeOk_bounds hok)
    exact ⟨h.inv, h.state, h.out .unit⟩
  | setGetRemoved k v sz =>
    have h := upsert_sim hc hi k v sz (sizeOk_bounds hok)
    exact ⟨h.inv, h.state, (h.out _).trans (congrArg Out.removed h.removed)⟩
  | setIfAbsent k v sz =>
    simp only [step, specStep, abs_entries]
    cases hf : find? k s.list with
    | some old => simp only [hsia, if_true, and_true]; exact ⟨touch hf, rfl⟩
    | none =>
      have h := addNew_sim hgt hi k v sz (sizeOk_bounds hok) hf
      exact ⟨h.inv, h.state, h.out .unit⟩
  | get k =>
    simp only [step, specStep, abs_entries]
    cases hf : find? k s.list with
    | some e => simp only [hget, if_true, and_true]; exact ⟨touch hf, rfl⟩
    | none => exact ⟨hi, rfl, rfl⟩
  | peek k =>
    simp only [step, specStep, abs_entries]
    cases hf : find? k s.list with
    | some e => simp only [hpeek]; exact ⟨hi, rfl, rfl⟩
    | none => exact ⟨hi, rfl, rfl⟩
  | exist k => exact ⟨hi, rfl, rfl⟩
  | delete k =>
    simp only [step, specStep, abs_entries]
    cases hf : find? k s.list with
    | some e =>
      have hm := (find_some hf).1
      have hp : Pre kd { s with list := removeKey k s.list, size := wrap64 (s.size - decOf kd e) } :=
        hi.toPre.of_sublist (removeKey_sublist k s.list)
          (by rw [dec_eq hi.unit e hm, hi.size_sub hm, total_removeKey hf]) hi.cap_nonneg hi.cap_lt
      exact ⟨hp.toInv (Int.le_trans (total_sublist_le (removeKey_sublist k s.list) hi.nonneg) hi.fits), rfl, rfl⟩
    | none => exact ⟨hi, by rw [(find_none hf).2]; rfl, rfl⟩
  | clear =>
    have hp : Pre kd { s with list := [], size := 0 } :=
      hi.toPre.of_sublist (List.nil_sublist _) rfl hi.cap_nonneg hi.cap_lt
    exact ⟨hp.toInv hi.cap_nonneg, rfl, rfl⟩
  | setCapacity cap =>
    have hb := sizeOk_bounds hok
    have h := checkCapacity_agrees (c := c) hgt
      (hi.toPre.of_sublist (s' := { s with capacity := cap }) (List.Sublist.refl _) hi.size_eq hb.1 hb.2)
    exact ⟨h.inv, h.state, h.out .unit⟩
  | setF k => exact ⟨hi, rfl, rfl⟩
  | setGetRemovedF k => exact ⟨hi, rfl, rfl⟩
  | setIfAbsentF k =>
    simp only [step, specStep, abs_entries]
    cases hf : find? k s.list with
    | some old => simp only [hsia, if_true, and_true]; exact ⟨touch hf, rfl⟩
    | none => exact ⟨hi, rfl, rfl⟩
  | keys => exact ⟨hi, rfl, rfl⟩
  | items => exact ⟨hi, rfl, rfl⟩
  | stats => exact ⟨hi, rfl, by simp [step, specStep, abs, hi.size_eq]⟩

theorem inv_new (kd : Kind) (cap : Int) (h : 0 ≤ cap) (h2 : cap < 2 ^ 62) : Inv kd (Lru.new cap) :=
  ⟨rfl, fun _ he => (List.not_mem_nil he).elim, h, h, fun _ _ he => (List.not_mem_nil he).elim, List.nodup_nil, h2⟩

theorem lru_sim (kd : Kind) (c : Cfg) (hc : Proved kd c) (cap : Int) (hcap : 0 ≤ cap) (hcap2 : cap < 2 ^ 62)
    (ops : List Op) (hok : ∀ o ∈ ops, o.sizeOk = true) :
    outs (step c kd) (Lru.new cap) ops = outs (specStep kd) (Ideal.new cap) ops ∧
      Inv kd (final (step c kd) (Lru.new cap) ops) ∧
      abs (final (step c kd) (Lru.new cap) ops) = final (specStep kd) (Ideal.new cap) ops :=
  sim_outs (step c kd) (specStep kd) (fun s t => Inv kd s ∧ abs s = t) (fun o => o.sizeOk = true)
    (fun s t o hr ho => by
      obtain ⟨hi, rfl⟩ := hr
      have := step_sim hc s o hi ho
      exact ⟨⟨this.1, this.2.1⟩, this.2.2⟩)
    ops _ _ ⟨inv_new kd cap hcap hcap2, rfl⟩ hok

end Nv.C04
