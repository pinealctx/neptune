import Nv.Proofs.C06Bits
/-!
C06 — one call of each generator.

`HardNode.Generate` and `MonoNode.Generate` return their new state packed, keep the node, and move the pair
(time, step) forward in lexicographic order: to a later time, or one step up at the same time. Packed ids are
ordered as (time, step) (`join_lt_join`), so the id lies above the id the old state stands for. That is the whole
argument; the two generators differ in how they reach a later time (the clock, the carry of the step counter, the
reading that ends the spin loop). `GenIDByTS` is the same without fields.
-/
namespace Nv.C06

structure WF (nb : BitVec 8) (st : HState) : Prop where
  time : st.time.toNat < 2 ^ tsWidth nb
  node : st.node.toNat < 2 ^ nb.toNat
  step : st.step.toNat < 4096

structure MWF (nb : BitVec 8) (st : MState) : Prop where
  time : st.time.toNat < 2 ^ tsWidth nb
  node : st.node.toNat < 2 ^ nb.toNat
  step : st.step.toNat < 4096

theorem time_toInt {nb : BitVec 8} {t : BitVec 64} (ht : t.toNat < 2 ^ tsWidth nb) :
    t.toInt = (t.toNat : Int) ∧ t.toNat < 2 ^ 51 := by
  have : t.toNat < 2 ^ 51 := Nat.lt_of_lt_of_le ht (Nat.pow_le_pow_right Nat.zero_lt_two (Nat.sub_le 51 _))
  exact ⟨toInt_eq_toNat_of_lt (by omega), this⟩

theorem toInt_add_one {x : BitVec 64} (h : x.toInt < 2 ^ 63 - 1) : (x + 1#64).toInt = x.toInt + 1 := by
  have := BitVec.le_toInt (x := x)
  rw [BitVec.toInt_add, show (1#64).toInt = 1 by decide]
  apply Int.bmod_eq_of_le <;> omega

theorem step_succ_toNat (s : BitVec 64) : ((s + 1#64) &&& 4095#64).toNat = (s.toNat + 1) % 4096 := by
  rw [stepMask_toNat, BitVec.toNat_add]
  exact Nat.mod_mod_of_dvd _ (by decide)

theorem step_succ_lt (s : BitVec 64) : ((s + 1#64) &&& 4095#64).toNat < 4096 :=
  step_succ_toNat s ▸ Nat.mod_lt _ (by decide)

theorem step_succ_gt {s : BitVec 64} (hs : s.toNat < 4096) (hz : ¬ ((s + 1#64) &&& 4095#64 == 0#64) = true) :
    s.toNat < ((s + 1#64) &&& 4095#64).toNat := by
  have : ((s + 1#64) &&& 4095#64).toNat ≠ 0 := fun h0 => hz (beq_iff_eq.2 (BitVec.eq_of_toNat_eq h0))
  rw [step_succ_toNat] at this ⊢
  omega

theorem join_lt_join {nb : BitVec 8} (hl : LayoutOk nb) (nal : Bool) {t s t' s' n : BitVec 64}
    (ht : t.toNat < 2 ^ tsWidth nb) (hn : n.toNat < 2 ^ nb.toNat) (hs : s.toNat < 4096)
    (ht' : t'.toNat < 2 ^ tsWidth nb) (hs' : s'.toNat < 4096)
    (h : t.toInt < t'.toInt ∨ (t = t' ∧ s.toNat < s'.toNat)) :
    (join nb nal t n s).toInt < (join nb nal t' n s').toInt := by
  rw [toInt_eq_toNat_of_lt (join_lt hl nal ht hn hs), toInt_eq_toNat_of_lt (join_lt hl nal ht' hn hs'),
    join_toNat hl nal ht hn hs, join_toNat hl nal ht' hn hs']
  have hlow := lowNat_lt nb nal hn hs
  rcases h with h | ⟨rfl, h⟩
  · rw [(time_toInt ht).1, (time_toInt ht').1] at h
    have := Nat.mul_le_mul_right (2 ^ tsShift nb) (Nat.succ_le_of_lt (Int.ofNat_lt.1 h))
    rw [Nat.succ_mul] at this
    omega
  · have : lowNat nb nal n.toNat s.toNat < lowNat nb nal n.toNat s'.toNat := by
      cases nal
      · exact Nat.add_lt_add_left h _
      · exact Nat.add_lt_add_right (Nat.mul_lt_mul_of_pos_right h (Nat.two_pow_pos _)) _
    omega

/-- `Generate` touches neither the epoch nor the node -/
theorem hardCore_keeps (nb : BitVec 8) (nal : Bool) (st : HState) (now : BitVec 64) :
    (hardCore nb nal st now).1 =
      { st with time := (hardCore nb nal st now).1.time, step := (hardCore nb nal st now).1.step } := by
  unfold hardCore
  split
  · rfl
  · split <;> rfl

/-- The only hypothesis besides a well-formed pre-state is that the *new* time is still inside the timestamp width. -/
theorem hardCore_step {nb : BitVec 8} (hl : LayoutOk nb) (nal : Bool) {st st' : HState} (wf : WF nb st)
    {now id : BitVec 64} (h : hardCore nb nal st now = (st', id)) (hpost : st'.time.toNat < 2 ^ tsWidth nb) :
    WF nb st' ∧ st'.node = st.node ∧ id = join nb nal st'.time st'.node st'.step ∧
      (join nb nal st.time st.node st.step).toInt < id.toInt ∧ now.toInt ≤ st'.time.toInt := by
  have hs' := step_succ_lt st.step
  have h0 : (0#64).toNat < 4096 := by decide
  unfold hardCore at h
  split at h
  · next hlt =>
    cases h
    exact ⟨⟨hpost, wf.node, h0⟩, rfl, rfl,
      join_lt_join hl nal wf.time wf.node wf.step hpost h0 (Or.inl (BitVec.slt_iff_toInt_lt.1 hlt)), Int.le_refl _⟩
  · next hlt =>
    have hle : now.toInt ≤ st.time.toInt := Int.not_lt.1 (fun h => hlt (BitVec.slt_iff_toInt_lt.2 h))
    split at h
    · -- the step counter wrapped: carry into time
      cases h
      have ht := time_toInt wf.time
      have h1 : (st.time + 1#64).toInt = st.time.toInt + 1 := toInt_add_one (by omega)
      have hlt : st.time.toInt < (st.time + 1#64).toInt := by omega
      exact ⟨⟨hpost, wf.node, hs'⟩, rfl, rfl,
        join_lt_join hl nal wf.time wf.node wf.step hpost hs' (Or.inl hlt), Int.le_trans hle (Int.le_of_lt hlt)⟩
    · next hz =>
      cases h
      exact ⟨⟨wf.time, wf.node, hs'⟩, rfl, rfl,
        join_lt_join hl nal wf.time wf.node wf.step wf.time hs' (Or.inr ⟨rfl, step_succ_gt wf.step hz⟩), hle⟩

/-- the reading that ends the spin loop is accepted by the model only if it is past `time` -/
theorem monoGen_step {nb : BitVec 8} (hl : LayoutOk nb) (nal : Bool) {st st' : MState} (wf : MWF nb st)
    {now spin id : BitVec 64} (hmono : st.time.toInt ≤ now.toInt)
    (h : monoGen nb nal st now spin = some (st', id)) (hpost : st'.time.toNat < 2 ^ tsWidth nb) :
    MWF nb st' ∧ st'.node = st.node ∧ id = join nb nal st'.time st'.node st'.step ∧
      (join nb nal st.time st.node st.step).toInt < id.toInt := by
  have hs' := step_succ_lt st.step
  have h0 : (0#64).toNat < 4096 := by decide
  unfold monoGen at h
  split at h
  · next heq =>
    obtain rfl : now = st.time := eq_of_beq heq
    split at h
    · split at h
      · cases h
      · next hsp =>
        cases h
        have hgt : st.time.toInt < spin.toInt := Int.not_le.1 (fun h => hsp (BitVec.sle_iff_toInt_le.2 h))
        exact ⟨⟨hpost, wf.node, h0⟩, rfl, rfl, join_lt_join hl nal wf.time wf.node wf.step hpost h0 (Or.inl hgt)⟩
    · next hz =>
      cases h
      exact ⟨⟨wf.time, wf.node, hs'⟩, rfl, rfl,
        join_lt_join hl nal wf.time wf.node wf.step wf.time hs' (Or.inr ⟨rfl, step_succ_gt wf.step hz⟩)⟩
  · next hne =>
    cases h
    have hlt : st.time.toInt < now.toInt :=
      Int.lt_iff_le_and_ne.2 ⟨hmono, fun h => hne (beq_iff_eq.2 (BitVec.toInt_inj.1 h.symm))⟩
    exact ⟨⟨hpost, wf.node, h0⟩, rfl, rfl, join_lt_join hl nal wf.time wf.node wf.step hpost h0 (Or.inl hlt)⟩

theorem nanoGen_step (ts cur : BitVec 64) (h : cur.toInt < 2 ^ 63 - 1) :
    cur.toInt < (nanoGen ts cur).1.toInt ∧ (nanoGen ts cur).2 = (nanoGen ts cur).1 ∧ ts.toInt ≤ (nanoGen ts cur).1.toInt := by
  unfold nanoGen
  split
  · next hlt => exact ⟨BitVec.slt_iff_toInt_lt.1 hlt, rfl, Int.le_refl _⟩
  · next hge =>
    have hle : ts.toInt ≤ cur.toInt := Int.not_lt.1 (fun h => hge (BitVec.slt_iff_toInt_lt.2 h))
    show cur.toInt < (cur + 1#64).toInt ∧ _ ∧ ts.toInt ≤ (cur + 1#64).toInt
    rw [toInt_add_one h]
    exact ⟨Int.lt_succ _, rfl, Int.le_trans hle (Int.le_of_lt (Int.lt_succ _))⟩

theorem increasing_cons {v : Int} {id : BitVec 64} {ids : List (BitVec 64)} (h : v < id.toInt)
    (hp : ids.Pairwise (fun a b => a.toInt < b.toInt)) (ha : ∀ x ∈ ids, id.toInt < x.toInt) :
    (id :: ids).Pairwise (fun a b => a.toInt < b.toInt) ∧ ∀ x ∈ id :: ids, v < x.toInt :=
  ⟨List.pairwise_cons.2 ⟨ha, hp⟩, List.forall_mem_cons.2 ⟨h, fun x hx => Int.lt_trans h (ha x hx)⟩⟩

theorem nodup_of_increasing {ids : List (BitVec 64)} (h : ids.Pairwise (fun a b => a.toInt < b.toInt)) : ids.Nodup :=
  h.imp (fun {a b} hlt (e : a = b) => Int.lt_irrefl b.toInt (e ▸ hlt))

end Nv.C06
