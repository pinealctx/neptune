import Nv.Proofs.C03RefCells
/-!
C03 — refinement B → A: what the store primitives do cell by cell, and the steps every write is made of: making a
child mutable, splitting a node, reading back a node in which a range of children was replaced, descending into a
child. `Step` is what each operation on a subtree guarantees about the rest of the store; `Refines` adds that the
subtree afterwards denotes what the layer-A function computes.
-/
namespace Nv.C03.Cow

theorem wr_owned (H : Heap) (id cow : Nat) (is : List Item) (cs : List Nat) (ht : H.tag id = some cow) (hw : WFree H) :
    ∃ H', ((Cow.wr id is cs) H).2 = H' ∧ H'.get id = ⟨is, cs, some cow⟩ ∧ (∀ j, j ≠ id → H'.get j = H.get j) ∧
      H'.size = H.size ∧ WFree H' := by
  have ht' : (H.get id).cow = some cow := ht
  have hget : ∀ j, j ≠ id → ((Cow.wr id is cs) H).2.get j = H.get j := fun j hj => by rw [get_wr]; simp [hj]
  have hsz : ((Cow.wr id is cs) H).2.size = H.size := by simp [Cow.wr, Heap.size]
  refine ⟨_, rfl, by rw [get_wr, if_pos ⟨rfl, tag_some_lt H id cow ht⟩, ht'], hget, hsz, hw.1, fun j hj => ?_⟩
  rw [hsz, hget j (fun e => not_free_of_tag hw ht (e ▸ hj))]
  exact hw.2 j hj

theorem newNode_spec (cow : Nat) (H : Heap) (hw : WFree H) :
    ∃ id H', ((Cow.newNode cow) H).1 = id ∧ ((Cow.newNode cow) H).2 = H' ∧
      H'.get id = ⟨[], [], some cow⟩ ∧ H.get id = HNode.empty ∧ (∀ j, j ≠ id → H'.get j = H.get j) ∧
      H.size ≤ H'.size ∧ WFree H' := by
  unfold Cow.newNode
  cases hf : H.free with
  | nil =>
    simp only
    refine ⟨_, _, rfl, rfl, by simp [Heap.get, List.getD], get_ge _ _ (Nat.le_refl _), ?_, by simp [Heap.size],
      by simp, fun j hj => by simp at hj⟩
    intro j hj
    by_cases hjl : j < H.nodes.length
    · simp [Heap.get, List.getD, List.getElem?_append_left hjl]
    · have h1 : (H.nodes ++ [(⟨[], [], some cow⟩ : HNode)]).length ≤ j := by simp; omega
      show (H.nodes ++ [(⟨[], [], some cow⟩ : HNode)]).getD j HNode.empty = H.nodes.getD j HNode.empty
      rw [get_ge _ _ h1, get_ge _ _ (by omega)]
  | cons id rest =>
    simp only
    have hid := hw.2 id (by rw [hf]; simp)
    have hnd : (id :: rest).Nodup := hf ▸ hw.1
    refine ⟨_, _, rfl, rfl, get_set_self _ _ _ hid.1, hid.2, fun j hj => get_set_ne _ _ _ _ hj, by simp [Heap.size],
      (List.nodup_cons.1 hnd).2, fun j hj => ?_⟩
    have hjf := hw.2 j (by rw [hf]; simp [hj])
    have hne : j ≠ id := fun e => (List.nodup_cons.1 hnd).1 (e ▸ hj)
    refine ⟨by simpa [Heap.size] using hjf.1, ?_⟩
    show (H.nodes.set id _).getD j HNode.empty = HNode.empty
    rw [get_set_ne _ _ _ _ hne]; exact hjf.2

theorem freeNode_spec (cow id : Nat) (H : Heap) (hw : WFree H) :
    ∃ H', ((Cow.freeNode cow id) H).2 = H' ∧ (∀ x, x ≠ id → H'.get x = H.get x) ∧ H'.size = H.size ∧ WFree H' := by
  refine ⟨_, rfl, ?_⟩
  unfold Cow.freeNode
  by_cases ho : (H.get id).cow = some cow
  · rw [if_pos ho]
    have hlt : id < H.nodes.length := tag_some_lt H id cow ho
    have hget : ∀ j, j ∈ H.free ∨ j = id → (H.nodes.set id HNode.empty).getD j HNode.empty = HNode.empty := by
      intro j hj
      by_cases e : j = id
      · rw [e]; exact get_set_self _ _ _ hlt
      · rw [get_set_ne _ _ _ _ e]
        exact (hw.2 j (hj.resolve_right e)).2
    have hsize : ∀ j ∈ H.free, j < (H.nodes.set id HNode.empty).length := fun j hj => by
      simpa [Heap.size] using (hw.2 j hj).1
    simp only []
    split
    · refine ⟨fun x hx => get_set_ne _ _ _ _ hx, by simp [Heap.size], List.nodup_cons.2 ⟨not_free_of_tag hw ho, hw.1⟩, ?_⟩
      intro j hj
      rcases List.mem_cons.1 hj with e | hj
      · exact ⟨by simpa [Heap.size, e] using hlt, hget j (Or.inr e)⟩
      · exact ⟨hsize j hj, hget j (Or.inl hj)⟩
    · exact ⟨fun x hx => get_set_ne _ _ _ _ hx, by simp [Heap.size], hw.1, fun j hj => ⟨hsize j hj, hget j (Or.inl hj)⟩⟩
  · rw [if_neg ho]; exact ⟨fun _ _ => rfl, rfl, hw⟩

theorem run_bind {α β : Type} (m : M α) (f : α → M β) (H : Heap) : (m >>= f) H = f (m H).1 (m H).2 := rfl
theorem run_pure {α : Type} (a : α) (H : Heap) : (pure a : M α) H = (a, H) := rfl
theorem run_rd (id : Nat) (H : Heap) : (Cow.rd id) H = (H.get id, H) := rfl
theorem run_ite {α : Type} (p : Prop) [Decidable p] (m1 m2 : M α) (H : Heap) :
    (if p then m1 else m2) H = if p then m1 H else m2 H := by split <;> rfl

/-- the store went from `H` to `H'` by an operation on the subtree of depth `f` at `n` that ends with the subtree of
    depth `f'` at the owned cell `n'`: cells that held something and lie outside the old subtree are untouched, and the
    new subtree is made of cells of the old one and of cells that held nothing -/
structure Step (cow : Nat) (H : Heap) (f n : Nat) (H' : Heap) (f' n' : Nat) : Prop where
  own : H'.tag n' = some cow
  wf : WFree H'
  size : H.size ≤ H'.size
  frame : Frame H H' (InSub H f n)
  subs : ∀ y, InSub H' f' n' y → InSub H f n y ∨ H.get y = HNode.empty

theorem Step.trans {cow : Nat} {H H1 H2 : Heap} {f n f1 n1 f2 n2 : Nat} (a : Step cow H f n H1 f1 n1)
    (b : Step cow H1 f1 n1 H2 f2 n2) : Step cow H f n H2 f2 n2 :=
  ⟨b.own, b.wf, Nat.le_trans a.size b.size, Frame.trans a.frame b.frame a.subs,
    fun y hy => (b.subs y hy).elim (a.subs y) (frame_empty a.frame y)⟩

structure Refines (cow : Nat) (H : Heap) (fuel n : Nat) {α : Type} (r : α × Heap) (a : Node × α) : Prop
    extends Step cow H fuel n r.2 fuel n where
  abs : absNode r.2 fuel n = a.1
  ret : r.1 = a.2

theorem Refines.of_eq {cow : Nat} {H : Heap} {fuel n : Nat} {α : Type} {r : α × Heap} {a b : Node × α}
    (o : Refines cow H fuel n r a) (e : a = b) : Refines cow H fuel n r b := e ▸ o

theorem leaf_write {mn cow : Nat} {H : Heap} {n : Nat} (h : Sub mn cow H 0 n) (is' : List Item) {α : Type} (ret : α) :
    Refines cow H 0 n (ret, ((Cow.wr n is' []) H).2) (.mk is' [], ret) := by
  obtain ⟨H', e, w1, w2, w3, w4⟩ := wr_owned H n cow is' [] h.own h.wf
  rw [e]
  exact ⟨⟨by simp only [Heap.tag]; rw [w1], w4, Nat.le_of_eq w3.symm, fun y hy _ => w2 y hy, fun y hy => Or.inl hy⟩,
    by simp [absNode, w1], rfl⟩

theorem mutableFor_eq (cow c : Nat) (H : Heap) :
    (Cow.mutableFor cow c) H = if (H.get c).cow = some cow then (c, H)
      else ((Cow.newNode cow H).1,
        ((Cow.wr (Cow.newNode cow H).1 (H.get c).items (H.get c).children) (Cow.newNode cow H).2).2) := by
  unfold Cow.mutableFor
  rw [run_bind, run_rd]
  simp only []
  rw [run_ite]
  split <;> rfl

theorem mutableFor_spec (mn mx cow : Nat) (hmn : 1 ≤ mn) (H : Heap) (f c : Nat) (hw : WFree H)
    (hk : KidsOk mn mx f (absNode H f c)) :
    ∃ ch H1, ((Cow.mutableFor cow c) H).1 = ch ∧ ((Cow.mutableFor cow c) H).2 = H1 ∧
      H1.get ch = ⟨(H.get c).items, (H.get c).children, some cow⟩ ∧ (ch = c ∨ H.get ch = HNode.empty) ∧
      Frame H H1 (fun _ => False) ∧ H.size ≤ H1.size ∧ WFree H1 ∧
      absNode H1 f ch = absNode H f c ∧ (∀ y, InSub H1 f ch y → y = ch ∨ InSub H f c y) := by
  have cell : ∃ ch H1, ((Cow.mutableFor cow c) H).1 = ch ∧ ((Cow.mutableFor cow c) H).2 = H1 ∧
      H1.get ch = ⟨(H.get c).items, (H.get c).children, some cow⟩ ∧ (ch = c ∨ H.get ch = HNode.empty) ∧
      Frame H H1 (fun _ => False) ∧ H.size ≤ H1.size ∧ WFree H1 := by
    rw [mutableFor_eq]
    by_cases ho : (H.get c).cow = some cow
    · rw [if_pos ho]
      exact ⟨_, _, rfl, rfl, by rw [← ho], Or.inl rfl, Frame.refl _ _, Nat.le_refl _, hw⟩
    · rw [if_neg ho]
      obtain ⟨out, H1, e1, e2, n1, n2, n3, n4, n5⟩ := newNode_spec cow H hw
      rw [e1, e2]
      obtain ⟨H2, e, w1, w2, w3, w4⟩ := wr_owned H1 out cow (H.get c).items (H.get c).children
        (by simp only [Heap.tag]; rw [n1]) n5
      refine ⟨_, _, rfl, e, w1, Or.inr n2, fun j _ hne => ?_, by rw [w3]; exact n4, w4⟩
      have hj : j ≠ out := fun e => hne (e ▸ n2)
      rw [w2 j hj, n3 j hj]
  obtain ⟨ch, H1, e1, e2, m1, m2, m3, m4, m5⟩ := cell
  refine ⟨ch, H1, e1, e2, m1, m2, m3, m4, m5, ?_⟩
  cases f with
  | zero => exact ⟨by simp [absNode, m1], fun y hy => Or.inl hy⟩
  | succ f =>
    have hg : ∀ g ∈ (H.get c).children, absNode H1 f g = absNode H f g ∧ ∀ y, InSub H1 f g y → InSub H f g y :=
      fun g hg => abs_frame mn mx hmn m3 f g ((kids_succ hk).2 g hg) (fun _ _ e => e)
    constructor
    · rw [abs_succ, abs_succ, m1]
      congr 1
      exact List.map_congr_left (fun g hg' => (hg g hg').1)
    · rintro y (rfl | ⟨g, hg', hy⟩)
      · exact Or.inl rfl
      · rw [m1] at hg'
        exact Or.inr (InSub.child hg' ((hg g hg').2 y hy))

theorem mutableChild_eq (cow n i : Nat) (H : Heap) :
    (Cow.mutableChild cow n i) H =
      (((Cow.mutableFor cow ((H.get n).children.getD i n)) H).1,
       ((Cow.wr n (H.get n).items (setAt (H.get n).children i ((Cow.mutableFor cow ((H.get n).children.getD i n)) H).1))
          ((Cow.mutableFor cow ((H.get n).children.getD i n)) H).2).2) := rfl

theorem map_setAt {α β} (f : α → β) (l : List α) (i : Nat) (a : α) : (setAt l i a).map f = setAt (l.map f) i (f a) := by
  simp [setAt, List.map_take, List.map_drop]

theorem map_setAt_same {α β} (f g : α → β) (l : List α) (i : Nat) (a d : α) (hi : i < l.length)
    (hrest : ∀ y ∈ l, f y = g y) (ha : f a = g (l.getD i d)) : (setAt l i a).map f = l.map g := by
  have hsplit := list_split_at l i d hi
  conv => rhs; rw [hsplit]
  simp only [setAt, List.map_append, List.map_cons, ha]
  congr 1
  · exact List.map_congr_left (fun y hy => hrest y (List.mem_of_mem_take hy))
  · congr 1
    exact List.map_congr_left (fun y hy => hrest y (List.mem_of_mem_drop hy))

/-- the store `H1` and the cell `ch` after `mutableChild n i`, where child `i` of `n` was the cell `c` -/
structure MutChild (cow : Nat) (H : Heap) (fuel n i c ch : Nat) (H1 : Heap) : Prop where
  node : H1.get n = ⟨(H.get n).items, setAt (H.get n).children i ch, some cow⟩
  cell : H1.get ch = ⟨(H.get c).items, (H.get c).children, some cow⟩
  abs : absNode H1 fuel ch = absNode H fuel c
  same : absNode H1 (fuel + 1) n = absNode H (fuel + 1) n
  wf : WFree H1
  size : H.size ≤ H1.size
  frame : Frame H H1 (fun x => x = n)
  subs : ∀ y, InSub H1 fuel ch y → y = ch ∨ InSub H fuel c y
  src : ch = c ∨ H.get ch = HNode.empty
  ne : ch ≠ n

theorem mutableChild_spec {mn : Nat} (cow : Nat) (hmn : 1 ≤ mn) (H : Heap) (fuel n i : Nat) (h : Inner mn cow H fuel n)
    (hi : i < (H.get n).children.length) :
    ∃ ch H1, ((Cow.mutableChild cow n i) H).1 = ch ∧ ((Cow.mutableChild cow n i) H).2 = H1 ∧
      MutChild cow H fuel n i ((H.get n).children.getD i n) ch H1 := by
  rw [mutableChild_eq]
  have hcm : (H.get n).children.getD i n ∈ (H.get n).children := getD_mem _ i n hi
  generalize hc : (H.get n).children.getD i n = c at hcm ⊢
  obtain ⟨ch, Hm, e1, e2, m1, m2, m3, m4, m5, a1, a2⟩ :=
    mutableFor_spec mn _ cow hmn H fuel c h.wf ((nodeOk_iff _ _ _ _).1 (h.childOk hcm)).2.2
  rw [e1, e2]
  -- the new child is the old child (and the node is not its own child), or it held nothing
  have hchn : ch ≠ n := by
    intro e
    rcases m2 with e2 | e2
    · exact h.notInChild hmn hcm (by rw [← e2, e]; exact InSub.self H fuel n)
    · exact h.ne_empty' (by rw [← e]; exact e2)
  have hnm : Hm.get n = H.get n := m3 n (fun hf => hf) h.ne_empty'
  obtain ⟨H1, e, w1, w2, w3, w4⟩ := wr_owned Hm n cow (H.get n).items (setAt (H.get n).children i ch)
    (by simp only [Heap.tag]; rw [hnm]; exact h.own) m5
  have hframe : Frame H H1 (fun x => x = n) := fun x hx hne => by rw [w2 x hx]; exact m3 x (fun hf => hf) hne
  -- writing the node's cell does not touch the subtree of the new child
  obtain ⟨b1, b2⟩ := sub_agree Hm H1 fuel ch (fun x hx => w2 x (fun e => by
    rcases a2 x hx with e2 | e2
    · exact hchn (e2 ▸ e)
    · exact h.notInChild hmn hcm (e ▸ e2)))
  refine ⟨ch, H1, rfl, e, w1, by rw [w2 ch hchn]; exact m1, b1.trans a1, ?_, w4, by rw [w3]; exact m4, hframe,
    fun y hy => a2 y (b2 y hy), m2, hchn⟩
  rw [abs_succ, abs_succ, w1]
  congr 1
  exact map_setAt_same _ _ _ i ch n hi (fun c' hc' => (h.child_frame hmn hframe hc').1) (by rw [b1, a1, hc])

namespace MutChild
variable {mn cow : Nat} {H H1 : Heap} {fuel n i c ch : Nat}

theorem inner (M : MutChild cow H fuel n i c ch H1) (h : Inner mn cow H fuel n) : Inner mn cow H1 fuel n :=
  ⟨by rw [M.same]; exact h.kids, by rw [M.same]; exact h.sorted, by simp only [Heap.tag]; rw [M.node], M.wf⟩

theorem own (M : MutChild cow H fuel n i c ch H1) : H1.tag ch = some cow := by simp only [Heap.tag]; rw [M.cell]

theorem sub (M : MutChild cow H fuel n i c ch H1) (hmn : 1 ≤ mn) (h : Inner mn cow H fuel n)
    (hc : c ∈ (H.get n).children) : Sub mn cow H1 fuel ch := h.childSub hmn hc M.abs M.own M.wf

end MutChild

def Mid (H : Heap) (fuel n a b : Nat) (x : Nat) : Prop :=
  ∃ j c, a ≤ j ∧ j < b ∧ (H.get n).children[j]? = some c ∧ InSub H fuel c x

theorem Mid.sub {H : Heap} {fuel n a b x : Nat} (h : Mid H fuel n a b x) : InSub H (fuel + 1) n x := by
  obtain ⟨_, c, _, _, hc, hx⟩ := h
  exact InSub.child (List.mem_of_getElem? hc) hx

theorem MutChild.cells {cow : Nat} {H H1 : Heap} {fuel n i c ch : Nat} (M : MutChild cow H fuel n i c ch H1)
    (hc : (H.get n).children[i]? = some c) (y : Nat) (hy : InSub H1 fuel ch y) :
    Mid H fuel n i (i + 1) y ∨ H.get y = HNode.empty := by
  rcases M.subs y hy with e | e
  · rcases M.src with e2 | e2
    · exact Or.inl ⟨i, c, Nat.le_refl _, Nat.lt_succ_self _, hc, by rw [e, e2]; exact InSub.self H fuel c⟩
    · exact Or.inr (by rw [e]; exact e2)
  · exact Or.inl ⟨i, c, Nat.le_refl _, Nat.lt_succ_self _, hc, e⟩

theorem mem_take_pos {α} {l : List α} {i : Nat} {a : α} (h : a ∈ l.take i) : ∃ j, j < i ∧ l[j]? = some a := by
  obtain ⟨j, hm, e⟩ := List.mem_take_iff_getElem.1 h
  exact ⟨j, (Nat.lt_min.1 hm).1, by rw [List.getElem?_eq_getElem (Nat.lt_min.1 hm).2, e]⟩

theorem mem_drop_pos {α} {l : List α} {k : Nat} {a : α} (h : a ∈ l.drop k) : ∃ j, k ≤ j ∧ l[j]? = some a := by
  obtain ⟨j, hm, e⟩ := List.mem_drop_iff_getElem.1 h
  exact ⟨k + j, Nat.le_add_right k j, by rw [List.getElem?_eq_getElem (Nat.add_comm j k ▸ hm), e]⟩

theorem getD_map {α β} [Inhabited β] (f : α → β) (l : List α) (i : Nat) (d : α) (hi : i < l.length) :
    (l.map f).getD i default = f (l.getD i d) := by
  simp [List.getD, hi]

theorem getD_getElem? {α} (l : List α) (i : Nat) (d : α) (hi : i < l.length) : l[i]? = some (l.getD i d) := by
  simp [List.getD, hi]

namespace Inner

theorem rebuild {mn cow : Nat} (hmn : 1 ≤ mn) {H H' : Heap} {fuel n : Nat} (h : Inner mn cow H fuel n)
    {a b : Nat} {is' : List Item} {new : List Nat}
    (hn : H'.get n = ⟨is', (H.get n).children.take a ++ new ++ (H.get n).children.drop b, some cow⟩)
    (hf : Frame H H' (fun x => x = n ∨ Mid H fuel n a b x))
    (hnew : ∀ c' ∈ new, ∀ y, InSub H' fuel c' y → Mid H fuel n a b y ∨ H.get y = HNode.empty)
    (hwf : WFree H') (hsz : H.size ≤ H'.size) :
    absNode H' (fuel + 1) n = .mk is' (((H.get n).children.map (absNode H fuel)).take a ++ new.map (absNode H' fuel) ++
      ((H.get n).children.map (absNode H fuel)).drop b) ∧
    Step cow H (fuel + 1) n H' (fuel + 1) n ∧ ∀ c' ∈ (H'.get n).children, ¬ InSub H' fuel c' n := by
  -- the children outside the range are apart from everything that changed
  have hsib : ∀ c', (c' ∈ (H.get n).children.take a ∨ c' ∈ (H.get n).children.drop b) →
      absNode H' fuel c' = absNode H fuel c' ∧ ∀ y, InSub H' fuel c' y → InSub H fuel c' y := by
    intro c' hc'
    have hpos : ∃ j, (j < a ∨ b ≤ j) ∧ (H.get n).children[j]? = some c' := by
      rcases hc' with hc' | hc'
      · obtain ⟨j, hj, e⟩ := mem_take_pos hc'; exact ⟨j, Or.inl hj, e⟩
      · obtain ⟨j, hj, e⟩ := mem_drop_pos hc'; exact ⟨j, Or.inr hj, e⟩
    obtain ⟨j, hj, hjc⟩ := hpos
    have hm := List.mem_of_getElem? hjc
    apply abs_frame mn _ hmn hf fuel c' (h.childOk hm)
    rintro x hx (e | ⟨k, c, hk1, hk2, hkc, hxc⟩)
    · exact h.notInChild hmn hm (e ▸ hx)
    · exact siblings_disjoint mn _ hmn H fuel n h.kids h.sorted j k c' c x
        (hj.elim (fun h => Nat.ne_of_lt (Nat.lt_of_lt_of_le h hk1)) (fun h => Nat.ne_of_gt (Nat.lt_of_lt_of_le hk2 h)))
        hjc hkc hx hxc
  have hnotMid : ¬ Mid H fuel n a b n := fun ⟨_, _, _, _, hc, hx⟩ => h.notInChild hmn (List.mem_of_getElem? hc) hx
  refine ⟨?_, ⟨by simp only [Heap.tag]; rw [hn], hwf, hsz, hf.mono ?_, ?_⟩, ?_⟩
  · rw [abs_succ, hn]
    simp only [List.map_append]
    rw [← List.map_take, ← List.map_drop, List.map_congr_left (fun c hc => (hsib c (Or.inl hc)).1),
      List.map_congr_left (fun c hc => (hsib c (Or.inr hc)).1)]
  · rintro x (e | e)
    · exact e ▸ InSub.self H (fuel + 1) n
    · exact e.sub
  · rintro y (rfl | ⟨c', hc', hy⟩)
    · exact Or.inl (InSub.self H (fuel + 1) y)
    · rw [hn] at hc'
      simp only [List.mem_append] at hc'
      rcases hc' with (hc' | hc') | hc'
      · exact Or.inl (InSub.child (List.mem_of_mem_take hc') ((hsib c' (Or.inl hc')).2 y hy))
      · exact (hnew c' hc' y hy).imp Mid.sub id
      · exact Or.inl (InSub.child (List.mem_of_mem_drop hc') ((hsib c' (Or.inr hc')).2 y hy))
  · intro c' hc' hin
    rw [hn] at hc'
    simp only [List.mem_append] at hc'
    rcases hc' with (hc' | hc') | hc'
    · exact h.notInChild hmn (List.mem_of_mem_take hc') ((hsib c' (Or.inl hc')).2 n hin)
    · exact (hnew c' hc' n hin).elim hnotMid h.ne_empty'
    · exact h.notInChild hmn (List.mem_of_mem_drop hc') ((hsib c' (Or.inr hc')).2 n hin)

theorem rewrite {mn cow : Nat} (hmn : 1 ≤ mn) {H : Heap} {fuel n : Nat} (h : Inner mn cow H fuel n)
    (is' : List Item) {α : Type} (ret : α) :
    Refines cow H (fuel + 1) n (ret, ((Cow.wr n is' (H.get n).children) H).2)
      (.mk is' ((H.get n).children.map (absNode H fuel)), ret) := by
  obtain ⟨H', e, w1, w2, w3, w4⟩ := wr_owned H n cow is' (H.get n).children h.own h.wf
  rw [e]
  obtain ⟨r1, r2, _⟩ := h.rebuild hmn (H' := H') (a := 0) (b := 0) (is' := is') (new := [])
    (by rw [w1]; simp) (fun y hy _ => w2 y (fun e => hy (Or.inl e))) (fun _ hc => by simp at hc) w4
    (Nat.le_of_eq w3.symm)
  exact ⟨r2, by rw [r1]; simp, rfl⟩

end Inner

theorem splitB_eq (cow n i : Nat) (H : Heap) :
    (Cow.splitB cow n i) H =
      (((H.get n).items.getD i default, ((Cow.newNode cow) H).1),
       ((Cow.wr n ((H.get n).items.take i) ((H.get n).children.take (i + 1)))
          ((Cow.wr ((Cow.newNode cow) H).1 ((H.get n).items.drop (i + 1)) ((H.get n).children.drop (i + 1)))
            ((Cow.newNode cow) H).2).2).2) := rfl

/-- the store `H'` after `node.split(i)` of the cell `n` returned the separator `m` and the new right cell `next` -/
structure SplitOut (cow : Nat) (H : Heap) (fuel n i : Nat) (m : Item) (next : Nat) (H' : Heap) : Prop where
  left : absNode H' fuel n = ((absNode H fuel n).split i).1
  item : m = ((absNode H fuel n).split i).2.1
  right : absNode H' fuel next = ((absNode H fuel n).split i).2.2
  own : H'.tag n = some cow
  ownNext : H'.tag next = some cow
  wf : WFree H'
  size : H.size ≤ H'.size
  frame : Frame H H' (fun y => y = n)
  fresh : H.get next = HNode.empty
  subsL : ∀ y, InSub H' fuel n y → InSub H fuel n y
  subsR : ∀ y, InSub H' fuel next y → y = next ∨ InSub H fuel n y

theorem splitB_spec {mn : Nat} (cow : Nat) (hmn : 1 ≤ mn) (H : Heap) (fuel n i : Nat) (h : Sub mn cow H fuel n)
    (hne : (H.get n).items ≠ []) :
    ∃ m next H', ((Cow.splitB cow n i) H).1 = (m, next) ∧ ((Cow.splitB cow n i) H).2 = H' ∧
      SplitOut cow H fuel n i m next H' := by
  rw [splitB_eq]
  obtain ⟨next, H1, e1, e2, n1, n2, n3, n4, n5⟩ := newNode_spec cow H h.wf
  rw [e1, e2]
  have hnn : next ≠ n := fun e => hne (by rw [← e, n2]; rfl)
  obtain ⟨H2, ea, a1, a2, a3, a4⟩ := wr_owned H1 next cow ((H.get n).items.drop (i + 1)) ((H.get n).children.drop (i + 1))
    (by simp only [Heap.tag]; rw [n1]) n5
  rw [ea]
  have hn2 : H2.get n = H.get n := by rw [a2 n hnn.symm, n3 n hnn.symm]
  obtain ⟨H3, eb, b1, b2, b3, b4⟩ := wr_owned H2 n cow ((H.get n).items.take i) ((H.get n).children.take (i + 1))
    (by simp only [Heap.tag]; rw [hn2]; exact h.own) a4
  refine ⟨_, next, H3, rfl, eb, ?_⟩
  have hnext3 : H3.get next = ⟨(H.get n).items.drop (i + 1), (H.get n).children.drop (i + 1), some cow⟩ := by
    rw [b2 next hnn, a1]
  have hframe : Frame H H3 (fun y => y = n) := by
    intro y hy hyne
    have hyn : y ≠ next := fun e => hyne (by rw [e, n2])
    rw [b2 y hy, a2 y hyn, n3 y hyn]
  have hsize : H.size ≤ H3.size := by rw [b3, a3]; exact n4
  cases fuel with
  | zero =>
    have hleaf := h.leaf
    exact ⟨by simp [absNode, b1, hleaf, Node.split, Node.items, Node.children], by simp [absNode, Node.split, Node.items],
      by simp [absNode, hnext3, hleaf, Node.split, Node.items, Node.children], by simp only [Heap.tag]; rw [b1],
      by simp only [Heap.tag]; rw [hnext3], b4, hsize, hframe, n2, fun y hy => hy, fun y hy => Or.inl hy⟩
  | succ f =>
    -- the children keep what they denote
    have hsub := fun c hc => h.inner.child_frame hmn hframe (c := c) hc
    refine ⟨?_, by simp [absNode, Node.split, Node.items], ?_, by simp only [Heap.tag]; rw [b1],
      by simp only [Heap.tag]; rw [hnext3], b4, hsize, hframe, n2, ?_, ?_⟩
    · rw [abs_succ, abs_succ, b1]
      simp only [Node.split, Node.items, Node.children, List.map_take]
      congr 2
      exact List.map_congr_left (fun c hc => (hsub c hc).1)
    · rw [abs_succ, abs_succ, hnext3]
      simp only [Node.split, Node.items, Node.children, List.map_drop]
      congr 2
      exact List.map_congr_left (fun c hc => (hsub c hc).1)
    · rintro y (rfl | ⟨c, hc, hy⟩)
      · exact Or.inl rfl
      · rw [b1] at hc
        have hc' := List.mem_of_mem_take hc
        exact InSub.child hc' ((hsub c hc').2 y hy)
    · rintro y (rfl | ⟨c, hc, hy⟩)
      · exact Or.inl rfl
      · rw [hnext3] at hc
        have hc' := List.mem_of_mem_drop hc
        exact Or.inr (InSub.child hc' ((hsub c hc').2 y hy))

theorem descend_abs {mn : Nat} (cow : Nat) (hmn : 1 ≤ mn) (H : Heap) (fuel n i : Nat) (h : Inner mn cow H fuel n)
    (hi : i < (H.get n).children.length) {α : Type} (op : Nat → M α) (a : Node × α)
    (hop : ∀ (ch : Nat) (H1 : Heap), Sub mn cow H1 fuel ch →
      absNode H1 fuel ch = absNode H fuel ((H.get n).children.getD i n) → Refines cow H1 fuel ch ((op ch) H1) a) :
    let r1 := (Cow.mutableChild cow n i) H
    let r := (op r1.1) r1.2
    Refines cow H (fuel + 1) n r (.mk (H.get n).items (setAt ((H.get n).children.map (absNode H fuel)) i a.1), a.2) ∧
    r.2.get n = ⟨(H.get n).items, setAt (H.get n).children i r1.1, some cow⟩ ∧
    (∀ c' ∈ (r.2.get n).children, ¬ InSub r.2 fuel c' n) := by
  obtain ⟨ch, H1, e1, e2, M⟩ := mutableChild_spec cow hmn H fuel n i h hi
  simp only [e1, e2]
  have hcm : (H.get n).children.getD i n ∈ (H.get n).children := getD_mem _ i n hi
  have hpos : (H.get n).children[i]? = some ((H.get n).children.getD i n) := getD_getElem? _ i n hi
  have o := hop ch H1 (M.sub hmn h hcm) M.abs
  generalize (op ch) H1 = r at o ⊢
  obtain ⟨rv, H2⟩ := r
  simp only at o ⊢
  -- the node's own cell is not touched by the operation on the child
  have hn1ne : H1.get n ≠ HNode.empty := by rw [M.node]; simp [HNode.empty]
  have hn_not : ¬ InSub H1 fuel ch n := fun hin => by
    rcases M.subs n hin with e | e
    · exact M.ne e.symm
    · exact h.notInChild hmn hcm e
  have hn2 : H2.get n = ⟨(H.get n).items, setAt (H.get n).children i ch, some cow⟩ := by
    rw [o.frame n hn_not hn1ne, M.node]
  obtain ⟨r1, r2, r3⟩ := h.rebuild hmn (H' := H2) (a := i) (b := i + 1) (is' := (H.get n).items)
    (new := [ch]) (by rw [hn2]; simp [setAt])
    (Frame.trans (M.frame.mono (fun _ e => Or.inl e)) o.frame
      (fun y hy => (M.cells hpos y hy).imp Or.inr id))
    (by
      intro c' hc' y hy
      rw [List.mem_singleton.1 hc'] at hy
      rcases o.subs y hy with e | e
      · exact M.cells hpos y e
      · exact (frame_empty M.frame y e).imp_left (fun e2 => absurd (e2 ▸ e) hn1ne))
    o.wf (Nat.le_trans M.size o.size)
  have oabs : absNode H2 fuel ch = a.1 := o.abs
  exact ⟨⟨r2, by rw [r1]; simp [setAt, oabs], o.ret⟩, hn2, r3⟩

end Nv.C03.Cow
