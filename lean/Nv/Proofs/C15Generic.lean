import Nv.Proofs.C15
/-!
C15 — the coherence argument over ANY callbacks that meet their contract (`CBSpec`), not only the in-memory ones of the
model. `G.handle` is `handle` with the five `worker.go` callbacks (`loadFn`, `addFn`, `updFn`, `upsertFn`, `delFn`)
abstracted. That every handler is a harmless run (`G.handle_ok`) and that a step keeps the group invariant `Inv`
(`G.inv_step`) is shown here, once, for such callbacks. The model's handlers are the instance at `memCBs`
(`handle_mem`, `step_mem`), `memCBs_spec` shows that this instance meets the contract, and the model's own versions of
the lemmas are read off at the end.
-/
namespace Nv.C15

/-- the five store callbacks of a `Worker` -/
structure CBs where
  load : Ctx → Key → Except Err Val × Ctx
  add : Ctx → Key → Val → Except Err Val × Ctx
  upd : Ctx → Key → Val → Val → Except Err Val × Ctx
  upsert : Ctx → Key → Val → Option Val → Except Err Val × Ctx
  del : Ctx → Key → Except Err Unit × Ctx

/-- the contract: a load does not write and returns what is stored; a mutation either leaves the store as it was and
fails, or changes the store at its key only and returns the row now stored (`MutSpec`); an upsert that was not handed
the cached row may return a partial row but still writes at its key only; no callback touches the cache -/
structure CBSpec (cb : CBs) : Prop where
  load : ∀ {c c1 : Ctx} {k : Key} {r : Except Err Val}, cb.load c k = (r, c1) →
    c1.store = c.store ∧ c1.cache = c.cache ∧ (∀ v, r = .ok v → sGet c.store k = some v)
  add : ∀ {c c1 : Ctx} {k : Key} {v : Val} {r : Except Err Val}, cb.add c k v = (r, c1) → MutSpec k c c1 r
  upd : ∀ {c c1 : Ctx} {k : Key} {v e0 : Val} {r : Except Err Val}, cb.upd c k v e0 = (r, c1) → MutSpec k c c1 r
  upsert : ∀ {c c1 : Ctx} {k : Key} {v e0 : Val} {r : Except Err Val}, cb.upsert c k v (some e0) = (r, c1) → MutSpec k c c1 r
  upsertFrame : ∀ {c c1 : Ctx} {k : Key} {v : Val} {e0 : Option Val} {r : Except Err Val}, cb.upsert c k v e0 = (r, c1) →
    c1.cache = c.cache ∧ Frame k c.store c1.store
  del : ∀ {c c1 : Ctx} {k : Key} {r : Except Err Unit}, cb.del c k = (r, c1) →
    c1.cache = c.cache ∧ Frame k c.store c1.store ∧ (r = .ok () → sGet c1.store k = none) ∧
      (∀ e, r = .error e → c1.store = c.store)

namespace G

def hLoad (cb : CBs) (c : Ctx) (k : Key) : Ctx × Res :=
  match cGet c.cache k with
  | (some v, ca) => ({ c with cache := ca }, .ok v)
  | (none, ca) =>
    match cb.load { c with cache := ca } k with
    | (.error e, c) => (c, .err e)
    | (.ok v, c) => (setCache c k v, .ok v)

def hAdd (cb : CBs) (c : Ctx) (k : Key) (v : Val) : Ctx × Res :=
  match cPeek c.cache k with
  | some _ => (c, .err .dup)
  | none =>
    match cb.add c k v with
    | (.error e, c) => (c, .err e)
    | (.ok v, c) => (setCache c k v, .ok v)

def hUpdate (cb : CBs) (c : Ctx) (k : Key) (v : Val) : Ctx × Res :=
  match cPeek c.cache k with
  | some pre =>
    (match cb.upd c k v pre with
     | (.error e, c) => (c, .err e)
     | (.ok nv, c) => (setCache c k nv, .ok nv))
  | none =>
    match cb.load c k with
    | (.error e, c) => (c, .err e)
    | (.ok cur, c) =>
      match cb.upd c k v cur with
      | (.error e, c) => (c, .err e)
      | (.ok nv, c) => (setCache c k nv, .ok nv)

def hDelete (cb : CBs) (cfg : Cfg) (c : Ctx) (k : Key) : Ctx × Res :=
  match cfg.delOrder with
  | .cacheFirst =>
    (match cb.del { c with cache := cDelete c.cache k } k with
     | (.error e, c) => (c, .err e)
     | (.ok _, c) => (c, .nil))
  | .storeFirst =>
    (match cb.del c k with
     | (.error e, c) => (c, .err e)
     | (.ok _, c) => ({ c with cache := cDelete c.cache k }, .nil))
  | _ =>
    match cb.del c k with
    | (.error e, c) => (c, .err e)
    | (.ok _, c) => (c, .nil)

def hUpdOrAdd (cb : CBs) (c : Ctx) (k : Key) (v : Val) : Ctx × Res :=
  match cPeek c.cache k with
  | some pre =>
    (match cb.upd c k v pre with
     | (.error e, c) => (c, .err e)
     | (.ok nv, c) => (setCache c k nv, .ok nv))
  | none =>
    match cb.load c k with
    | (.error .notFound, c) =>
      (match cb.add c k v with
       | (.error e, c) => (c, .err e)
       | (.ok nv, c) => (setCache c k nv, .ok nv))
    | (.error e, c) => (c, .err e)
    | (.ok cur, c) =>
      match cb.upd c k v cur with
      | (.error e, c) => (c, .err e)
      | (.ok nv, c) => (setCache c k nv, .ok nv)

def hUpsertThenLoad (cb : CBs) (c : Ctx) (k : Key) (v : Val) : Ctx × Res :=
  match cPeek c.cache k with
  | some pre =>
    (match cb.upsert c k v (some pre) with
     | (.error e, c) => (c, .err e)
     | (.ok nv, c) => (setCache c k nv, .ok nv))
  | none =>
    match cb.upsert c k v none with
    | (.error e, c) => (c, .err e)
    | (.ok _, c) =>
      match cb.load c k with
      | (.error e, c) => (c, .err e)
      | (.ok cur, c) => (setCache c k cur, .ok cur)

def hUpsertThenRenew (cb : CBs) (c : Ctx) (k : Key) (v : Val) : Ctx × Res :=
  match cPeek c.cache k with
  | some pre =>
    (match cb.upsert c k v (some pre) with
     | (.error e, c) => (c, .err e)
     | (.ok nv, c) => (setCache c k nv, .ok nv))
  | none =>
    match cb.upsert c k v none with
    | (.error e, c) => (c, .err e)
    | (.ok nv, c) => (c, .ok nv)


def handle (cb : CBs) (cfg : Cfg) (c : Ctx) : Op → Ctx × Res
  | .get k =>
    (match cGet c.cache k with
     | (some v, ca) => ({ c with cache := ca }, .ok v)
     | (none, ca) => hLoad cb { c with cache := ca } k)
  | .add k v => hAdd cb c k v
  | .upd k v => hUpdate cb c k v
  | .del k => hDelete cb cfg c k
  | .uoa k v => hUpdOrAdd cb c k v
  | .utl k v => hUpsertThenLoad cb c k v
  | .utr k v => hUpsertThenRenew cb c k v

/-- a load is a mutation that happens to write nothing -/
theorem load_mut {cb : CBs} (hs : CBSpec cb) {c c1 : Ctx} {k : Key} {r : Except Err Val} (h : cb.load c k = (r, c1)) :
    MutSpec k c c1 r := by
  obtain ⟨hst, hca, hok⟩ := hs.load h
  exact ⟨hca, by rw [hst]; exact Frame.refl _ _, fun v hv => by rw [hst]; exact hok v hv, fun _ _ => hst⟩

theorem load_same {cb : CBs} (hs : CBSpec cb) {c c1 : Ctx} {k : Key} {r : Except Err Val} (h : cb.load c k = (r, c1)) :
    HOk k c c1 :=
  HOk.of_eq (hs.load h).1 (hs.load h).2.1

theorem hLoad_ok {cb : CBs} (hs : CBSpec cb) (c : Ctx) (k : Key) : HOk k c (hLoad cb c k).1 := by
  unfold hLoad
  have hg := HOk.of_cGet k c
  generalize cGet c.cache k = g at hg ⊢
  obtain ⟨_ | v, ca⟩ := g
  · apply hg.trans (mut_then_set (load_mut hs rfl))
  · exact hg

theorem hAdd_ok {cb : CBs} (hs : CBSpec cb) (c : Ctx) (k : Key) (v : Val) : HOk k c (hAdd cb c k v).1 := by
  unfold hAdd
  cases cPeek c.cache k with
  | some _ => exact HOk.refl k c
  | none => apply mut_then_set (hs.add rfl)

theorem hUpdate_ok {cb : CBs} (hs : CBSpec cb) (c : Ctx) (k : Key) (v : Val) : HOk k c (hUpdate cb c k v).1 := by
  unfold hUpdate
  cases cPeek c.cache k with
  | some pre => apply mut_then_set (hs.upd rfl)
  | none =>
    rcases h : cb.load c k with ⟨_ | cur, c1⟩
    · exact load_same hs h
    · apply (load_same hs h).trans (mut_then_set (hs.upd rfl))

theorem hDelete_ok {cb : CBs} (hs : CBSpec cb) (cfg : Cfg) (hd : DelOk cfg) (c : Ctx) (k : Key) : HOk k c (hDelete cb cfg c k).1 := by
  unfold hDelete
  rcases hd with hd | hd <;> simp only [hd]
  · rcases h : cb.del c k with ⟨_ | u, c1⟩ <;> obtain ⟨hca, hfr, _, herr⟩ := hs.del h
    · exact HOk.of_eq (herr _ rfl) hca
    · exact HOk.delete hfr (by rw [← hca])
  · rcases h : cb.del { c with cache := cDelete c.cache k } k with ⟨_ | u, c1⟩ <;>
      exact HOk.delete (hs.del h).2.1 (hs.del h).1

theorem hUpdOrAdd_ok {cb : CBs} (hs : CBSpec cb) (c : Ctx) (k : Key) (v : Val) : HOk k c (hUpdOrAdd cb c k v).1 := by
  unfold hUpdOrAdd
  cases cPeek c.cache k with
  | some pre => apply mut_then_set (hs.upd rfl)
  | none =>
    rcases h : cb.load c k with ⟨e | cur, c1⟩
    · cases e
      case notFound => apply (load_same hs h).trans (mut_then_set (hs.add rfl))
      all_goals exact load_same hs h
    · apply (load_same hs h).trans (mut_then_set (hs.upd rfl))

/-- cache miss in an upsert: the callback is not handed the row and may return a partial one, which is never cached -/
theorem upsert_miss {cb : CBs} (hs : CBSpec cb) {c c1 : Ctx} {k : Key} {v : Val} {r : Except Err Val}
    (hp : cPeek c.cache k = none) (h : cb.upsert c k v none = (r, c1)) : HOk k c c1 :=
  mut_no_set (hs.upsertFrame h) (noKey_of_cPeek_none hp)

theorem hUpsertThenLoad_ok {cb : CBs} (hs : CBSpec cb) (c : Ctx) (k : Key) (v : Val) : HOk k c (hUpsertThenLoad cb c k v).1 := by
  unfold hUpsertThenLoad
  cases hp : cPeek c.cache k with
  | some pre => apply mut_then_set (hs.upsert rfl)
  | none =>
    rcases h : cb.upsert c k v none with ⟨_ | _, c1⟩
    · exact upsert_miss hs hp h
    · apply (upsert_miss hs hp h).trans (mut_then_set (load_mut hs rfl))

theorem hUpsertThenRenew_ok {cb : CBs} (hs : CBSpec cb) (c : Ctx) (k : Key) (v : Val) : HOk k c (hUpsertThenRenew cb c k v).1 := by
  unfold hUpsertThenRenew
  cases hp : cPeek c.cache k with
  | some pre => apply mut_then_set (hs.upsert rfl)
  | none => rcases h : cb.upsert c k v none with ⟨_ | _, c1⟩ <;> exact upsert_miss hs hp h

/-- `DoGet`'s fast path reads the cache the way `handleLoad` does first thing, so it changes nothing: a hit is answered
alike, and after a miss `Get` has left the cache as it was and misses again -/
theorem handle_get (cb : CBs) (cfg : Cfg) (c : Ctx) (k : Key) : handle cb cfg c (.get k) = hLoad cb c k := by
  simp only [handle]
  rcases hg : cGet c.cache k with ⟨_ | v, ca⟩
  · have hp : cPeek c.cache k = none := by rw [← cGet_fst, hg]
    have hca : ca = c.cache := by rw [← noKey_cGet hp, hg]
    subst hca
    simp only [hLoad, hg]
  · simp only [hLoad, hg]

theorem handle_ok {cb : CBs} (hs : CBSpec cb) (cfg : Cfg) (hd : DelOk cfg) (c : Ctx) (op : Op) : HOk op.key c (handle cb cfg c op).1 := by
  cases op with
  | get k => rw [handle_get]; apply hLoad_ok hs c k
  | add k v => apply hAdd_ok hs c k v
  | upd k v => apply hUpdate_ok hs c k v
  | del k => apply hDelete_ok hs cfg hd c k
  | uoa k v => apply hUpdOrAdd_ok hs c k v
  | utl k v => apply hUpsertThenLoad_ok hs c k v
  | utr k v => apply hUpsertThenRenew_ok hs c k v


/-- one operation of the group over arbitrary callbacks (`step` with `handle` replaced) -/
def step (cb : CBs) (cfg : Cfg) (loc : Loc) (s : State) (inp : Op × List Bool) : State × Out :=
  match workerOf loc s.caches.length inp.1.key with
  | none => (s, ⟨.panic, []⟩)
  | some w =>
    match s.caches[w]? with
    | none => (s, ⟨.panic, []⟩)
    | some ca =>
      let r := handle cb cfg ⟨s.store, ca, inp.2, []⟩ inp.1
      ({ store := r.1.store, caches := s.caches.set w r.1.cache }, ⟨r.2, r.1.trace⟩)

/-- the indexing expression panics and nothing happens, or the key's worker runs the handler on its own cache (a worker
index that `workerOf` hands out is below the worker count, so the cache is there) -/
theorem step_cases (cb : CBs) (cfg : Cfg) (loc : Loc) (s : State) (inp : Op × List Bool) :
    workerOf loc s.caches.length inp.1.key = none ∧ step cb cfg loc s inp = (s, ⟨.panic, []⟩) ∨
    ∃ w ca, workerOf loc s.caches.length inp.1.key = some w ∧ s.caches[w]? = some ca ∧
      step cb cfg loc s inp =
        ({ store := (handle cb cfg ⟨s.store, ca, inp.2, []⟩ inp.1).1.store,
           caches := s.caches.set w (handle cb cfg ⟨s.store, ca, inp.2, []⟩ inp.1).1.cache },
         ⟨(handle cb cfg ⟨s.store, ca, inp.2, []⟩ inp.1).2, (handle cb cfg ⟨s.store, ca, inp.2, []⟩ inp.1).1.trace⟩) := by
  unfold step
  cases hw : workerOf loc s.caches.length inp.1.key with
  | none => exact Or.inl ⟨rfl, rfl⟩
  | some w =>
    have hca := List.getElem?_eq_getElem (workerOf_lt hw)
    simp only [hca]
    exact Or.inr ⟨w, _, rfl, hca, rfl⟩

end G

/-- the group invariant: every cached entry is in its key's worker and equals the store's value -/
def Inv (loc : Loc) (s : State) : Prop :=
  ∀ w c, s.caches[w]? = some c → ∀ k v, (k, v) ∈ c.ents →
    sGet s.store k = some v ∧ workerOf loc s.caches.length k = some w

theorem inv_init (loc : Loc) (lru sized : Bool) (cap workers : Nat) : Inv loc (State.init lru sized cap workers) := by
  intro w c hc k v hm
  simp only [State.init, List.getElem?_replicate] at hc
  split at hc
  · cases hc; cases hm
  · cases hc

theorem coherent_of_inv {loc : Loc} {s : State} (h : Inv loc s) : Coherent s := by
  intro c hc k v hm
  rcases List.mem_iff_getElem?.1 hc with ⟨w, hw⟩
  exact (h w c hw k v hm).1

namespace G

theorem inv_step {cb : CBs} (hs : CBSpec cb) (cfg : Cfg) (hd : DelOk cfg) (loc : Loc) (s : State) (inp : Op × List Bool)
    (h : Inv loc s) : Inv loc (step cb cfg loc s inp).1 := by
  rcases step_cases cb cfg loc s inp with ⟨_, e⟩ | ⟨w, ca, hw, hca, e⟩ <;> rw [e]
  · exact h
  · have hok := handle_ok hs cfg hd ⟨s.store, ca, inp.2, []⟩ inp.1
    intro w' c' hc' k v hm
    simp only [List.length_set, getElem?_set_of_getElem? hca] at hc' ⊢
    split at hc'
    · -- the worker that ran: its new entries are coherent, and those it did not have before are under the key
      rename_i hww
      cases hc'
      refine ⟨hok.coh (fun k v hm => (h w ca hca k v hm).1) k v hm, ?_⟩
      rcases hok.ents (k, v) hm with e | e
      · rw [hww]; exact (h w ca hca k v e).2
      · rw [hww, show k = inp.1.key from e]; exact hw
    · -- another worker: its keys are not the operation's key, where alone the store moved
      rename_i hww
      have h0 := h w' c' hc' k v hm
      refine ⟨?_, h0.2⟩
      have hne : k ≠ inp.1.key := by
        intro e; rw [e, hw] at h0; exact hww (Option.some.inj h0.2).symm
      rw [hok.frame k hne]; exact h0.1

theorem inv_final {cb : CBs} (hs : CBSpec cb) (cfg : Cfg) (hd : DelOk cfg) (loc : Loc) (ops : List (Op × List Bool))
    (s : State) (h : Inv loc s) : Inv loc (final (step cb cfg loc) s ops) :=
  final_inv (step cb cfg loc) (Inv loc) (fun _ => True) (fun s i hs' _ => inv_step hs cfg hd loc s i hs') ops s h
    (fun _ _ => trivial)

end G

/-! ### the model is the instance at its in-memory callbacks -/

def memCBs : CBs := ⟨callLoad, callAdd, callUpd, callUpsert, callDel⟩

theorem memCBs_spec : CBSpec memCBs where
  load h := ⟨(callLoad_spec h).1, (callLoad_spec h).2.1, (callLoad_spec h).2.2.1⟩
  add h := callAdd_spec h
  upd h := callUpd_spec h
  upsert h := callUpsert_spec h
  upsertFrame h := callUpsert_frame h
  del h := callDel_spec h

theorem handle_mem (cfg : Cfg) : G.handle memCBs cfg = handle cfg :=
  funext fun c => funext fun op => by cases op <;> rfl

theorem step_mem (cfg : Cfg) (loc : Loc) : G.step memCBs cfg loc = step cfg loc := by
  funext s inp
  unfold G.step step
  rw [handle_mem]
  rfl

theorem handle_get (cfg : Cfg) (c : Ctx) (k : Key) : handle cfg c (.get k) = hLoad c k :=
  handle_mem cfg ▸ G.handle_get memCBs cfg c k

theorem handle_ok (cfg : Cfg) (hd : DelOk cfg) (c : Ctx) (op : Op) : HOk op.key c (handle cfg c op).1 :=
  handle_mem cfg ▸ G.handle_ok memCBs_spec cfg hd c op

theorem step_eq (cfg : Cfg) (loc : Loc) (s : State) (inp : Op × List Bool) {w : Nat} {ca : Cache}
    (hw : workerOf loc s.caches.length inp.1.key = some w) (hca : s.caches[w]? = some ca) :
    step cfg loc s inp =
      ({ store := (handle cfg ⟨s.store, ca, inp.2, []⟩ inp.1).1.store,
         caches := s.caches.set w (handle cfg ⟨s.store, ca, inp.2, []⟩ inp.1).1.cache },
       ⟨(handle cfg ⟨s.store, ca, inp.2, []⟩ inp.1).2, (handle cfg ⟨s.store, ca, inp.2, []⟩ inp.1).1.trace⟩) := by
  unfold step; simp only [hw, hca]

theorem step_cases (cfg : Cfg) (loc : Loc) (s : State) (inp : Op × List Bool) :
    workerOf loc s.caches.length inp.1.key = none ∧ step cfg loc s inp = (s, ⟨.panic, []⟩) ∨
    ∃ w ca, workerOf loc s.caches.length inp.1.key = some w ∧ s.caches[w]? = some ca ∧
      step cfg loc s inp =
        ({ store := (handle cfg ⟨s.store, ca, inp.2, []⟩ inp.1).1.store,
           caches := s.caches.set w (handle cfg ⟨s.store, ca, inp.2, []⟩ inp.1).1.cache },
         ⟨(handle cfg ⟨s.store, ca, inp.2, []⟩ inp.1).2, (handle cfg ⟨s.store, ca, inp.2, []⟩ inp.1).1.trace⟩) :=
  handle_mem cfg ▸ step_mem cfg loc ▸ G.step_cases memCBs cfg loc s inp

theorem inv_final (cfg : Cfg) (hd : DelOk cfg) (loc : Loc) (ops : List (Op × List Bool)) (s : State) (h : Inv loc s) :
    Inv loc (final (step cfg loc) s ops) :=
  step_mem cfg loc ▸ G.inv_final memCBs_spec cfg hd loc ops s h
/-- a delete that reports success has left nothing cached for the key, in either order of `ca.Delete` and the callback -/
theorem hDelete_nil (cfg : Cfg) (hdo : DelOk cfg) (c : Ctx) (k : Key) (h : (hDelete cfg c k).2 = .nil) :
    cPeek (hDelete cfg c k).1.cache k = none := by
  unfold hDelete at h ⊢
  rcases hdo with hd | hd <;> rw [hd] at h ⊢
  · -- store first: the entry is dropped after the callback
    generalize callDel c k = r at h ⊢
    obtain ⟨_ | u, c1⟩ := r
    · cases h
    · exact cPeek_cDelete _ _
  · -- cache first: it was dropped before, and the callback does not touch the cache
    rcases hc : callDel { c with cache := cDelete c.cache k } k with ⟨_ | u, c1⟩ <;> rw [hc] at h
    · cases h
    · rw [(callDel_spec hc).1]; exact cPeek_cDelete _ _

end Nv.C15
