import Nv.Proofs.C15Generic
/-!
C15 — the queue machine (`qLTS`): what each enabled action does (`qStep_*`), and the invariants its theorems rest on —
per-key order (`QInv`), operations taken against consumers (`BInv`), the consumer count under a guarded `Start`, and
that the state is the sequential run of what was applied.
-/
namespace Nv.C15

def keyIs (k : Key) (inp : Op × List Bool) : Bool := decide (inp.1.key = k)

/-- the invariant of the queue machine: what waits at a worker is routed to it, and for every key the operations applied,
then those waiting at its worker, are the operations accepted, in that order -/
def QInv (loc : Loc) (q : QState) : Prop :=
  (∀ w l, q.pending[w]? = some l → ∀ inp ∈ l, workerOf loc q.st.caches.length inp.1.key = some w) ∧
  (∀ k w, workerOf loc q.st.caches.length k = some w →
    q.applied.filter (keyIs k) ++ ((q.pending[w]?).getD []).filter (keyIs k) = q.accepted.filter (keyIs k))

theorem step_caches_length (cfg : Cfg) (loc : Loc) (s : State) (inp : Op × List Bool) :
    (step cfg loc s inp).1.caches.length = s.caches.length := by
  rcases step_cases cfg loc s inp with ⟨_, e⟩ | ⟨w, ca, _, _, e⟩ <;> rw [e]
  exact List.length_set

theorem filter_single_ne {k : Key} {inp : Op × List Bool} (h : inp.1.key ≠ k) : [inp].filter (keyIs k) = [] := by
  simp [keyIs, h]

theorem qStep_start {cfg : Cfg} {loc : Loc} {q q' : QState} (h : qStep cfg loc q .start = some q') :
    ∃ n, q' = { q with consumers := n } ∧
      (q.consumers = 0 ∧ n = 1 ∨ cfg.startGuard = .once ∧ n = q.consumers ∨ cfg.startGuard ≠ .once ∧ n = q.consumers + 1) := by
  simp only [qStep, beq_iff_eq] at h
  split at h
  · rename_i h0; cases h; exact ⟨1, rfl, Or.inl ⟨h0, rfl⟩⟩
  · split at h
    · rename_i hg; cases h; exact ⟨q.consumers, rfl, Or.inr (Or.inl ⟨hg, rfl⟩)⟩
    · rename_i hg; cases h; exact ⟨_, rfl, Or.inr (Or.inr ⟨hg, rfl⟩)⟩

theorem qStep_enqueue {cfg : Cfg} {loc : Loc} {q q' : QState} {inp : Op × List Bool}
    (h : qStep cfg loc q (.enqueue inp) = some q') :
    ∃ w l, workerOf loc q.st.caches.length inp.1.key = some w ∧ q.pending[w]? = some l ∧
      q' = { q with pending := q.pending.set w (l ++ [inp]), accepted := q.accepted ++ [inp] } := by
  simp only [qStep] at h
  split at h
  · cases h
  · rename_i w hw
    split at h
    · cases h
    · rename_i l hl; cases h; exact ⟨w, l, hw, hl, rfl⟩

theorem qStep_take {cfg : Cfg} {loc : Loc} {q q' : QState} {w : Nat} (h : qStep cfg loc q (.take w) = some q') :
    ∃ l b, q.pending[w]? = some l ∧ q.busy[w]? = some b ∧ b < q.consumers ∧ b < l.length ∧
      q' = { q with busy := q.busy.set w (b + 1) } := by
  simp only [qStep] at h
  split at h
  · rename_i l b hl hb
    split at h
    · rename_i hc
      simp only [Bool.and_eq_true, decide_eq_true_eq] at hc
      cases h; exact ⟨l, b, hl, hb, hc.1, hc.2, rfl⟩
    · cases h
  · cases h

theorem qStep_complete {cfg : Cfg} {loc : Loc} {q q' : QState} {w : Nat} (h : qStep cfg loc q (.complete w) = some q') :
    ∃ inp rest b, q.pending[w]? = some (inp :: rest) ∧ q.busy[w]? = some (b + 1) ∧
      q' = { q with pending := q.pending.set w rest, busy := q.busy.set w b, applied := q.applied ++ [inp],
                    st := (step cfg loc q.st inp).1 } := by
  simp only [qStep] at h
  split at h
  · rename_i inp rest b hl hb; cases h; exact ⟨inp, rest, b, hl, hb, rfl⟩
  · cases h

theorem qinv_init (loc : Loc) (lru sized : Bool) (cap workers : Nat) : QInv loc (qInit lru sized cap workers) := by
  refine ⟨?_, ?_⟩
  · intro w l hl inp hin
    simp only [qInit, List.getElem?_replicate] at hl
    split at hl
    · cases hl; cases hin
    · cases hl
  · intro k w _
    simp only [qInit, List.getElem?_replicate]
    split <;> rfl

theorem qinv_step (cfg : Cfg) (loc : Loc) (q q' : QState) (a : QAct) (h : QInv loc q)
    (hs : qStep cfg loc q a = some q') : QInv loc q' := by
  obtain ⟨hmem, hfil⟩ := h
  cases a with
  | start => obtain ⟨n, rfl, _⟩ := qStep_start hs; exact ⟨hmem, hfil⟩
  | take w0 => obtain ⟨l, b, _, _, _, _, rfl⟩ := qStep_take hs; exact ⟨hmem, hfil⟩
  | enqueue inp =>
    obtain ⟨w0, l, hw0, hl, rfl⟩ := qStep_enqueue hs
    refine ⟨fun w l' hl' x hx => ?_, fun k w hkw => ?_⟩
    · simp only [getElem?_set_of_getElem? hl] at hl'
      split at hl'
      · rename_i hww
        cases hl'
        rcases List.mem_append.1 hx with hx | hx
        · exact hww ▸ hmem w0 l hl x hx
        · rw [hww, List.mem_singleton.1 hx]; exact hw0
      · exact hmem w l' hl' x hx
    · have hold := hfil k w hkw
      simp only [getElem?_set_of_getElem? hl, List.filter_append]
      split
      · rename_i hww
        rw [hww, hl, Option.getD_some] at hold
        rw [Option.getD_some, List.filter_append, ← List.append_assoc, hold]
      · -- the new operation belongs to another worker, so to another key
        rename_i hww
        have hne : inp.1.key ≠ k := by
          intro e; rw [e, show workerOf loc q.st.caches.length k = some w from hkw] at hw0
          exact hww (Option.some.inj hw0)
        rw [filter_single_ne hne, List.append_nil]; exact hold
  | complete w0 =>
    obtain ⟨inp, rest, b, hl, _, rfl⟩ := qStep_complete hs
    have hcl := step_caches_length cfg loc q.st inp
    have hinp := hmem w0 (inp :: rest) hl inp (List.mem_cons_self ..)
    refine ⟨fun w l' hl' x hx => ?_, fun k w hkw => ?_⟩
    · simp only [hcl, getElem?_set_of_getElem? hl] at hl' ⊢
      split at hl'
      · rename_i hww
        cases hl'
        exact hww ▸ hmem w0 (inp :: rest) hl x (List.mem_cons_of_mem _ hx)
      · exact hmem w l' hl' x hx
    · simp only [hcl] at hkw
      have hold := hfil k w hkw
      simp only [getElem?_set_of_getElem? hl, List.filter_append]
      split
      · rename_i hww
        rw [hww, hl, Option.getD_some, show inp :: rest = [inp] ++ rest from rfl, List.filter_append,
          ← List.append_assoc] at hold
        rw [Option.getD_some]; exact hold
      · -- the completed operation belonged to `w0`, so to another key
        rename_i hww
        have hne : inp.1.key ≠ k := by
          intro e; rw [e, show workerOf loc q.st.caches.length k = some w from hkw] at hinp
          exact hww (Option.some.inj hinp)
        rw [filter_single_ne hne, List.append_nil]; exact hold

/-- whatever `Start` does, no worker has more operations taken than there are consumers -/
def BInv (q : QState) : Prop := ∀ (w b : Nat), q.busy[w]? = some b → b ≤ q.consumers

theorem binv_step (cfg : Cfg) (loc : Loc) (q q' : QState) (a : QAct) (hb : BInv q)
    (hs : qStep cfg loc q a = some q') : BInv q' := by
  cases a with
  | start =>
    obtain ⟨n, rfl, hn⟩ := qStep_start hs
    exact fun w b hw => Nat.le_trans (hb w b hw) (by simp only; omega)
  | enqueue inp => obtain ⟨w0, l, _, _, rfl⟩ := qStep_enqueue hs; exact hb
  | take w0 =>
    obtain ⟨l, b0, _, hb0, hlt, _, rfl⟩ := qStep_take hs
    intro w b hw
    simp only [getElem?_set_of_getElem? hb0] at hw
    split at hw
    · cases hw; exact hlt
    · exact hb w b hw
  | complete w0 =>
    obtain ⟨inp, rest, b0, _, hb0, rfl⟩ := qStep_complete hs
    intro w b hw
    simp only [getElem?_set_of_getElem? hb0] at hw
    split at hw
    · cases hw; exact Nat.le_of_succ_le (hb w0 (b0 + 1) hb0)
    · exact hb w b hw

theorem binv_init (lru sized : Bool) (cap workers : Nat) : BInv (qInit lru sized cap workers) := by
  intro w b hw
  simp only [qInit, List.getElem?_replicate] at hw
  split at hw <;> cases hw
  exact Nat.le_refl 0

/-- only a `Start` moves the consumer count, and a guarded one not beyond 1 -/
theorem consumers_step (cfg : Cfg) (hg : cfg.startGuard = .once) (loc : Loc) (q q' : QState) (a : QAct)
    (hc : q.consumers ≤ 1) (hs : qStep cfg loc q a = some q') : q'.consumers ≤ 1 := by
  cases a with
  | start =>
    obtain ⟨n, rfl, h0 | h1 | hn⟩ := qStep_start hs
    · exact Nat.le_of_eq h0.2
    · exact Nat.le_trans (Nat.le_of_eq h1.2) hc
    · exact absurd hg hn.1
  | enqueue inp => obtain ⟨w, l, _, _, rfl⟩ := qStep_enqueue hs; exact hc
  | take w => obtain ⟨l, b, _, _, _, _, rfl⟩ := qStep_take hs; exact hc
  | complete w => obtain ⟨inp, rest, b, _, _, rfl⟩ := qStep_complete hs; exact hc

/-- only `complete` moves the state, by one `step` on the operation it appends to `applied` -/
theorem sequential_step (cfg : Cfg) (loc : Loc) (s0 : State) (q q' : QState) (a : QAct)
    (ih : q.st = final (step cfg loc) s0 q.applied) (hs : qStep cfg loc q a = some q') :
    q'.st = final (step cfg loc) s0 q'.applied := by
  cases a with
  | start => obtain ⟨n, rfl, _⟩ := qStep_start hs; exact ih
  | take w => obtain ⟨l, b, _, _, _, _, rfl⟩ := qStep_take hs; exact ih
  | enqueue inp => obtain ⟨w, l, _, _, rfl⟩ := qStep_enqueue hs; exact ih
  | complete w =>
    obtain ⟨inp, rest, b, _, _, rfl⟩ := qStep_complete hs
    simp only [final_append, ← ih]
    rfl

end Nv.C15
