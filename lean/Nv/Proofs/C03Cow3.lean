import Nv.Proofs.C03Cow
/-! C03, layer B — the frame theorem for whole operations and what it means for another tree that
shares cells with the writer (clone isolation); the tag discipline of programs over several handles. -/
namespace Nv.C03.Cow
open Nv.C03

variable {H0 : Heap} {cow : Nat}

/-- the write operations of a tree (`Clear` is one of them) -/
inductive WOp
  | insert (x : Item)
  | remove (typ : Rm)
  | clear (addNodesToFreelist : Bool)

def applyW (t : HTree) : WOp → M (HTree × Option Item)
  | .insert x => replaceOrInsertB t x
  | .remove typ => deleteItemB t typ
  | .clear add => clearB t add

theorem Keeps.applyW {R : Rules cow} {s : Nat} (t : HTree) (op : WOp) (ht : t.cow = cow)
    (hk0 : ∀ r0, t.root = some r0 → R.K s r0) : Keeps R s (applyW t op) (RootOk R) := by
  cases op with
  | insert x => exact Keeps.replaceOrInsertB t x ht hk0
  | remove typ => exact Keeps.deleteItemB t typ ht hk0
  | clear add => exact Keeps.clearB t add ht

theorem Pres.applyW (t : HTree) (op : WOp) (ht : t.cow = cow) : Pres H0 cow (applyW t op) (fun r => r.1.cow = cow) :=
  Pres.of_keeps fun _ => (Keeps.applyW t op ht fun _ _ => trivial).weaken fun _ _ _ h => h.2

theorem applyW_cow (t : HTree) (op : WOp) (H : Heap) : ((applyW t op) H).1.1.cow = t.cow :=
  (Pres.applyW (H0 := H) t op rfl H (Inv.init H t.cow)).2

theorem applyW_inv (t : HTree) (op : WOp) (H : Heap) : Inv H t.cow ((applyW t op) H).2 :=
  (Pres.applyW (H0 := H) t op rfl H (Inv.init H t.cow)).1

theorem not_writable {H : Heap} {cow id : Nat} (hid : id < H.size) (htag : H.tag id ≠ some cow) (hfree : id ∉ H.free) :
    ¬ Writable H cow id :=
  fun h => h.elim (Nat.not_le_of_lt hid) fun h => h.elim htag hfree

/-- **Frame theorem.** A write operation of the tree tagged `t.cow` changes no cell of the store that
    existed before, is not owned by `t.cow`, and is not parked in the free list. -/
theorem frame_write (t : HTree) (op : WOp) (H : Heap) (id : Nat) (hid : id < H.size)
    (htag : H.tag id ≠ some t.cow) (hfree : id ∉ H.free) :
    ((applyW t op) H).2.get id = H.get id :=
  (applyW_inv t op H).agree id hid (not_writable hid htag hfree)

inductive Reach (H : Heap) : Nat → Nat → Prop
  | refl (r : Nat) : Reach H r r
  | step {r a c : Nat} : Reach H r a → c ∈ (H.get a).children → Reach H r c

theorem Reach.head {H : Heap} {r c id : Nat} (hc : c ∈ (H.get r).children) (h : Reach H c id) : Reach H r id := by
  induction h with
  | refl => exact Reach.step (Reach.refl r) hc
  | step _ hmem ih => exact Reach.step ih hmem

def Sep (H : Heap) (cow : Nat) (r : Nat) : Prop :=
  ∀ id, Reach H r id → id < H.size ∧ H.tag id ≠ some cow ∧ id ∉ H.free

theorem read_agree (H H' : Heap) : ∀ (fuel r : Nat), (∀ id, Reach H r id → H'.get id = H.get id) →
    absNode H' fuel r = absNode H fuel r ∧ heightB H' fuel r = heightB H fuel r := by
  intro fuel
  induction fuel with
  | zero => intro r hag; simp [absNode, heightB, hag r (Reach.refl r)]
  | succ fuel ih =>
    intro r hag
    have hr := hag r (Reach.refl r)
    have hch : ∀ c ∈ (H.get r).children, absNode H' fuel c = absNode H fuel c ∧ heightB H' fuel c = heightB H fuel c :=
      fun c hc => ih c (fun id hid => hag id (Reach.head hc hid))
    constructor
    · simp only [absNode, hr]
      congr 1
      apply List.map_congr_left
      intro c hc; exact (hch c hc).1
    · simp only [heightB, hr]
      cases hcs : (H.get r).children with
      | nil => rfl
      | cons c cs => simp only []; rw [(hch c (by rw [hcs]; simp)).2]

theorem reach_agree (H H' : Heap) (r : Nat) (hag : ∀ id, Reach H r id → H'.get id = H.get id) :
    ∀ id, Reach H' r id → Reach H r id := by
  intro id h
  induction h with
  | refl => exact Reach.refl r
  | step _ hmem ih => exact Reach.step ih (by rw [hag _ ih] at hmem; exact hmem)

theorem write_isolated (t : HTree) (op : WOp) (H : Heap) (r : Nat) (hsep : Sep H t.cow r) :
    (∀ fuel, absNode ((applyW t op) H).2 fuel r = absNode H fuel r ∧
             heightB ((applyW t op) H).2 fuel r = heightB H fuel r) ∧
    Sep ((applyW t op) H).2 ((applyW t op) H).1.1.cow r := by
  have hag : ∀ id, Reach H r id → ((applyW t op) H).2.get id = H.get id :=
    fun id hid => frame_write t op H id (hsep id hid).1 (hsep id hid).2.1 (hsep id hid).2.2
  have P := applyW_inv t op H
  refine ⟨fun fuel => read_agree H _ fuel r hag, ?_⟩
  rw [applyW_cow]
  intro id hid
  obtain ⟨h1, h2, h3⟩ := hsep id (reach_agree H _ r hag id hid)
  have hnw := not_writable h1 h2 h3
  exact ⟨Nat.lt_of_lt_of_le h1 P.size, fun htag => hnw (P.tagW id htag), fun hf => hnw (P.freeW id hf)⟩

def runW (t : HTree) (H : Heap) : List WOp → HTree × Heap
  | [] => (t, H)
  | op :: ops => runW ((applyW t op) H).1.1 ((applyW t op) H).2 ops

theorem writes_isolated (ops : List WOp) : ∀ (t : HTree) (H : Heap) (r : Nat), Sep H t.cow r →
    ∀ fuel, absNode (runW t H ops).2 fuel r = absNode H fuel r ∧ heightB (runW t H ops).2 fuel r = heightB H fuel r := by
  induction ops with
  | nil => intro t H r _ fuel; exact ⟨rfl, rfl⟩
  | cons op ops ih =>
    intro t H r hsep fuel
    obtain ⟨h1, h2⟩ := write_isolated t op H r hsep
    have := ih _ _ r h2 fuel
    exact ⟨this.1.trans (h1 fuel).1, this.2.trans (h1 fuel).2⟩

/-- `Clone` hands out two tags no cell carries: every root whose cells exist and are not parked is
    separated from both new tags -/
theorem clone_sep (H : Heap) (t : HTree) (c1 c2 : Nat) (r : Nat)
    (hfresh : ∀ id, H.tag id ≠ some c1 ∧ H.tag id ≠ some c2)
    (hlive : ∀ id, Reach H r id → id < H.size ∧ id ∉ H.free) :
    Sep H (cloneB t c1 c2).1.cow r ∧ Sep H (cloneB t c1 c2).2.cow r :=
  ⟨fun id hid => ⟨(hlive id hid).1, (hfresh id).1, (hlive id hid).2⟩,
   fun id hid => ⟨(hlive id hid).1, (hfresh id).2, (hlive id hid).2⟩⟩

def TagsBelow (H : Heap) (k : Nat) : Prop := ∀ id c, H.tag id = some c → c < k

/-- tags only ever become the writer's (`Inv.tagF`) -/
theorem write_tagsBelow (t : HTree) (op : WOp) (H : Heap) (k : Nat) (ht : t.cow < k) (h : TagsBelow H k) :
    TagsBelow ((applyW t op) H).2 k := by
  intro id c hc
  rcases (applyW_inv t op H).tagF id c hc with h1 | h1
  · exact h id c h1
  · omega

/-- the two tags `Clone` takes (the counter `k` and `k+1`) are carried by no cell: the `hfresh` hypothesis of
    `clone_sep` holds in every store reached by writes of trees with tags below the counter -/
theorem tagsBelow_fresh (H : Heap) (k : Nat) (h : TagsBelow H k) :
    ∀ id, H.tag id ≠ some k ∧ H.tag id ≠ some (k + 1) := by
  intro id
  constructor
  · intro e; have := h id k e; omega
  · intro e; have := h id (k + 1) e; omega

theorem tagsBelow_mono (H : Heap) (k k' : Nat) (hk : k ≤ k') (h : TagsBelow H k) : TagsBelow H k' :=
  fun id c hc => Nat.lt_of_lt_of_le (h id c hc) hk

theorem tagsBelow_init (cap : Nat) : TagsBelow (Heap.init cap) 1 := by
  intro id c hc
  cases hc

structure World where
  H : Heap
  hs : List HTree
  next : Nat            -- the next unused owner tag

inductive POp
  | write (i : Nat) (op : WOp)
  | clone (i : Nat)

def World.step (w : World) : POp → World
  | .write i op => match w.hs[i]? with
    | some t => { w with H := ((applyW t op) w.H).2, hs := w.hs.set i ((applyW t op) w.H).1.1 }
    | none => w
  | .clone i => match w.hs[i]? with
    | some t => { w with hs := (w.hs.set i (cloneB t w.next (w.next + 1)).1) ++ [(cloneB t w.next (w.next + 1)).2],
                         next := w.next + 2 }
    | none => w

def World.init (degree cap : Nat) : World := ⟨Heap.init cap, [⟨degree, none, 0, 0⟩], 1⟩

def World.Good (w : World) : Prop := TagsBelow w.H w.next ∧ ∀ t ∈ w.hs, t.cow < w.next

theorem World.step_write {w : World} {i : Nat} {t : HTree} (op : WOp) (hi : w.hs[i]? = some t) :
    w.step (.write i op) = { w with H := ((applyW t op) w.H).2, hs := w.hs.set i ((applyW t op) w.H).1.1 } := by
  simp only [World.step, hi]

theorem World.step_write_none {w : World} {i : Nat} (op : WOp) (hi : w.hs[i]? = none) : w.step (.write i op) = w := by
  simp only [World.step, hi]

theorem World.step_clone {w : World} {i : Nat} {t : HTree} (hi : w.hs[i]? = some t) :
    w.step (.clone i) =
      { w with hs := (w.hs.set i (cloneB t w.next (w.next + 1)).1) ++ [(cloneB t w.next (w.next + 1)).2],
               next := w.next + 2 } := by
  simp only [World.step, hi]

theorem World.step_clone_none {w : World} {i : Nat} (hi : w.hs[i]? = none) : w.step (.clone i) = w := by
  simp only [World.step, hi]

theorem World.run_induct {P : World → Prop} (hstep : ∀ w op, P w → P (w.step op)) :
    ∀ (ops : List POp) (w : World), P w → P (ops.foldl World.step w)
  | [], _, h => h
  | op :: ops, w, h => World.run_induct hstep ops _ (hstep w op h)

theorem World.good_step (w : World) (op : POp) (h : w.Good) : (w.step op).Good := by
  cases op with
  | write i wop =>
    cases hi : w.hs[i]? with
    | none => rw [World.step_write_none wop hi]; exact h
    | some t =>
      rw [World.step_write wop hi]
      have ht : t.cow < w.next := h.2 t (List.mem_of_getElem? hi)
      refine ⟨write_tagsBelow t wop w.H w.next ht h.1, fun t' ht' => ?_⟩
      rcases List.mem_or_eq_of_mem_set ht' with ht' | rfl
      · exact h.2 t' ht'
      · rw [applyW_cow]; exact ht
  | clone i =>
    cases hi : w.hs[i]? with
    | none => rw [World.step_clone_none hi]; exact h
    | some t =>
      rw [World.step_clone hi]
      refine ⟨tagsBelow_mono _ _ (w.next + 2) (Nat.le_add_right _ 2) h.1, fun t' ht' => ?_⟩
      show t'.cow < w.next + 2
      rcases List.mem_append.1 ht' with ht' | ht'
      · rcases List.mem_or_eq_of_mem_set ht' with ht' | rfl
        · exact Nat.lt_add_right 2 (h.2 t' ht')
        · exact Nat.lt_add_of_pos_right (Nat.zero_lt_succ 1)
      · rw [List.mem_singleton.1 ht']
        exact Nat.lt_succ_self _

theorem World.good_run (degree cap : Nat) (ops : List POp) : (ops.foldl World.step (World.init degree cap)).Good := by
  refine World.run_induct World.good_step ops _ ⟨tagsBelow_init cap, fun t ht => ?_⟩
  rw [List.mem_singleton.1 ht]
  exact Nat.zero_lt_one

/-! ### a decidable sufficient test for `Sep` (used for the non-vacuity example) -/

theorem Reach.cases_head {H : Heap} {r id : Nat} (h : Reach H r id) :
    id = r ∨ ∃ c ∈ (H.get r).children, Reach H c id := by
  induction h with
  | refl => exact Or.inl rfl
  | step hra hmem ih =>
    rename_i a c
    rcases ih with rfl | ⟨c', hc', hr⟩
    · exact Or.inr ⟨c, hmem, Reach.refl c⟩
    · exact Or.inr ⟨c', hc', Reach.step hr hmem⟩

/-- `p` holds on every cell within `fuel` pointer steps of `id`, and no pointer leaves that depth -/
def allReach (H : Heap) (p : Nat → Bool) : Nat → Nat → Bool
  | 0, id => p id && (H.get id).children.isEmpty
  | fuel + 1, id => p id && (H.get id).children.all (allReach H p fuel)

theorem allReach_sound (H : Heap) (p : Nat → Bool) : ∀ (fuel r : Nat), allReach H p fuel r = true →
    ∀ id, Reach H r id → p id = true := by
  intro fuel
  induction fuel with
  | zero =>
    intro r h id hr
    simp only [allReach, Bool.and_eq_true, List.isEmpty_iff] at h
    rcases hr.cases_head with rfl | ⟨c, hc, _⟩
    · exact h.1
    · rw [h.2] at hc; simp at hc
  | succ fuel ih =>
    intro r h id hr
    simp only [allReach, Bool.and_eq_true, List.all_eq_true] at h
    rcases hr.cases_head with rfl | ⟨c, hc, hr'⟩
    · exact h.1
    · exact ih c (h.2 c hc) id hr'

def sepTest (H : Heap) (cow : Nat) (id : Nat) : Bool :=
  decide (id < H.size) && decide (H.tag id ≠ some cow) && decide (id ∉ H.free)

theorem sep_of_test (H : Heap) (cow fuel r : Nat) (h : allReach H (sepTest H cow) fuel r = true) : Sep H cow r := by
  intro id hid
  have := allReach_sound H _ fuel r h id hid
  simp only [sepTest, Bool.and_eq_true, decide_eq_true_eq] at this
  exact ⟨this.1.1, this.1.2, this.2⟩

end Nv.C03.Cow
