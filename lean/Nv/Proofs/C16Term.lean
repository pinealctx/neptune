import Nv.Proofs.C16Sess
/-!
C16 — one session run to quiescence (proved configuration, exit callback returns): the quiescent states, the
progress measure, runs of loop steps and `settle`, and the conditions under which quiescent means ended (`Doomed`).
-/
namespace Nv.C16

/-- the only quiescent states that are not `ended` -/
def waiting (s : Sess) : Prop :=
  s.onceTaken = false ∧ s.exits = 0 ∧ s.decs = 0 ∧ s.closes = 0 ∧ s.recvPc = .reading ∧ s.peerClosed = false ∧
  ((s.sendPc = .idle ∧ s.q = [] ∧ s.qClosed = false) ∨
   (∃ x, s.sendPc = .writing x ∧ s.peerDrain = false ∧ s.wfault = false))

def normalP (s : Sess) : Prop := sendStepP s = none ∧ recvStepP s = none

theorem quiescent_proved {c : Cfg} (hc : Proved c) {s : Sess} (h : SInv s) : quiescent c s ↔ normalP s := by
  unfold quiescent normalP; rw [sendStep_proved hc s h.exit_ret, recvStep_proved hc s h.exit_ret h.not_crashed]

/-- the states in which the send loop cannot move: parked on an empty open queue, blocked writing to a peer that does
    not read, waiting in `exitOnce.Do` for the other loop, inside an `OnExit` that never returns, finished -/
theorem sendStepP_none {s : Sess} (hs : sendStepP s = none) :
    (s.sendPc = .idle ∧ s.q = [] ∧ s.qClosed = false) ∨
    (∃ x, s.sendPc = .writing x ∧ s.wfault = false ∧ s.peerClosed = false ∧ s.closes = 0 ∧ s.peerDrain = false) ∨
    (s.sendPc = .quitting .enter ∧ s.onceDone = false ∧ s.onceTaken = true) ∨
    s.sendPc = .quitting .stuck ∨ s.sendPc = .done := by
  unfold sendStepP at hs
  repeat' split at hs
  all_goals first | cases hs; done | simp_all

theorem recvStepP_none {s : Sess} (hr : recvStepP s = none) :
    (s.recvPc = .reading ∧ s.peerClosed = false ∧ s.closes = 0) ∨
    (∃ p, s.recvPc = .quitting p .enter ∧ s.onceDone = false ∧ s.onceTaken = true) ∨
    (∃ p, s.recvPc = .quitting p .stuck) ∨ s.recvPc = .done := by
  unfold recvStepP at hr
  repeat' split at hr
  all_goals first | cases hr; done | simp_all

/-- a quiescent state is an ended or a waiting one: by the phase of the once -/
theorem quiescentP_cases {s : Sess} (h : SInv s) (hn : normalP s) : ended s ∨ waiting s := by
  have hsend := sendStepP_none hn.1
  have hrecv := recvStepP_none hn.2
  have sStuck : s.sendPc ≠ .quitting .stuck := fun e => (h.sOwner _ e (by simp)).2.2.1
  have rStuck : ∀ p, s.recvPc ≠ .quitting p .stuck := fun p e => (h.rOwner p _ e (by simp)).2.2.1
  rcases h.phase with ⟨t, d, e0, d0, c0⟩ | ⟨t, d, _⟩ | ⟨t, d, e1, d1, c1⟩
  · -- the once is untouched: nobody waits for it, nobody has finished
    right
    refine ⟨t, e0, d0, c0, ?_⟩
    rcases hrecv with ⟨b1, b2, _⟩ | ⟨p, _, _, b3⟩ | ⟨p, b1⟩ | b1
    · refine ⟨b1, b2, ?_⟩
      rcases hsend with ⟨a1, a2, a3⟩ | ⟨x, a1, a2, _, _, a5⟩ | ⟨_, _, a3⟩ | a1 | a1
      · exact Or.inl ⟨a1, a2, a3⟩
      · exact Or.inr ⟨x, a1, a5, a2⟩
      · rw [t] at a3; cases a3
      · exact absurd a1 sStuck
      · rw [h.send_done a1] at d; cases d
    · rw [t] at b3; cases b3
    · exact absurd b1 (rStuck p)
    · rw [h.recv_done b1] at d; cases d
  · -- the body of the once is running: its owner is not at `enter`, so it can move
    exfalso
    rcases (h.mid t d).2 with ⟨st, o, ne⟩ | ⟨p, st, o, ne⟩
    · rcases hsend with ⟨a1, _⟩ | ⟨x, a1, _⟩ | ⟨a1, _⟩ | a1 | a1 <;> rw [a1] at o <;> cases o
      · exact ne rfl
      · exact sStuck a1
    · rcases hrecv with ⟨b1, _⟩ | ⟨p', b1, _⟩ | ⟨p', b1⟩ | b1 <;> rw [b1] at o <;> cases o
      · exact ne rfl
      · exact rStuck _ b1
  · -- the once is finished: the queue and the connection are closed, so nobody is parked
    left
    have hq := (h.fin d).2.2.2.2
    refine ⟨e1, d1, c1, ?_, ?_, h.not_crashed⟩
    · rcases hsend with ⟨_, _, a3⟩ | ⟨x, _, _, _, a4, _⟩ | ⟨_, a2, _⟩ | a1 | a1
      · rw [hq] at a3; cases a3
      · rw [c1] at a4; cases a4
      · rw [d] at a2; cases a2
      · exact absurd a1 sStuck
      · exact a1
    · rcases hrecv with ⟨_, _, b3⟩ | ⟨p, _, b2, _⟩ | ⟨p, b1⟩ | b1
      · rw [c1] at b3; cases b3
      · rw [d] at b2; cases b2
      · exact absurd b1 (rStuck p)
      · exact b1

/-- every loop step lowers the measure: an item leaves the queue (2) for at most one more step of writing it (1),
    and every other step moves its loop to a program counter of lower weight -/
theorem measure_sendStepP {s s' : Sess} (hs : sendStepP s = some s') : measure s' < measure s := by
  unfold sendStepP at hs
  unfold measure
  repeat' split at hs
  all_goals first
    | (cases hs; simp_all [SendPc.weight, QStage.weight]; try omega; done)
    | cases hs

theorem measure_recvStepP {s s' : Sess} (hs : recvStepP s = some s') : measure s' < measure s := by
  unfold recvStepP at hs
  unfold measure
  repeat' split at hs
  all_goals first
    | (cases hs; simp_all [RecvPc.weight, QStage.weight]; done)
    | cases hs

inductive IRun : Sess → Sess → Prop
  | refl (s : Sess) : IRun s s
  | send {s a t : Sess} : sendStepP s = some a → IRun a t → IRun s t
  | recv {s b t : Sess} : recvStepP s = some b → IRun b t → IRun s t

theorem IRun.trans {s t u : Sess} (h1 : IRun s t) (h2 : IRun t u) : IRun s u := by
  induction h1 with
  | refl => exact h2
  | send h _ ih => exact IRun.send h (ih h2)
  | recv h _ ih => exact IRun.recv h (ih h2)

theorem IRun.sinv {s t : Sess} (r : IRun s t) (hS : SInv s) : SInv t := by
  induction r with
  | refl => exact hS
  | send h _ ih => exact ih (sinv_sendStepP hS h)
  | recv h _ ih => exact ih (sinv_recvStepP hS h)

theorem normalP_of_measure_zero {s : Sess} (h : measure s = 0) : normalP s := by
  constructor
  · cases h1 : sendStepP s with
    | none => rfl
    | some a => have := measure_sendStepP h1; omega
  · cases h2 : recvStepP s with
    | none => rfl
    | some b => have := measure_recvStepP h2; omega

theorem settleN_spec {c : Cfg} (hc : Proved c) : ∀ (n : Nat) (s : Sess), SInv s → measure s ≤ n →
    IRun s (settleN c n s) ∧ quiescent c (settleN c n s)
  | 0, s, hS, h => ⟨IRun.refl s, (quiescent_proved hc hS).2 (normalP_of_measure_zero (by omega))⟩
  | n + 1, s, hS, h => by
    simp only [settleN]
    cases h1 : sendStep c s with
    | some a =>
      rw [sendStep_proved hc s hS.exit_ret] at h1
      have := measure_sendStepP h1
      obtain ⟨r, q⟩ := settleN_spec hc n a (sinv_sendStepP hS h1) (by omega)
      exact ⟨IRun.send h1 r, q⟩
    | none =>
      simp only
      cases h2 : recvStep c s with
      | some b =>
        rw [recvStep_proved hc s hS.exit_ret hS.not_crashed] at h2
        have := measure_recvStepP h2
        obtain ⟨r, q⟩ := settleN_spec hc n b (sinv_recvStepP hS h2) (by omega)
        exact ⟨IRun.recv h2 r, q⟩
      | none => exact ⟨IRun.refl s, h1, h2⟩

theorem settleN_reach {c : Cfg} : ∀ (n : Nat) (s : Sess), (sessLTS c).Reach s → (sessLTS c).Reach (settleN c n s)
  | 0, _, h => h
  | n + 1, s, h => by
    simp only [settleN]
    cases h1 : sendStep c s with
    | some s' => exact settleN_reach n s' (LTS.Reach.step (a := Act.sendStep) h h1)
    | none =>
      simp only
      cases h2 : recvStep c s with
      | some s' => exact settleN_reach n s' (LTS.Reach.step (a := Act.recvStep) h h2)
      | none => exact h

/-! ### whatever ends it

The conditions the terminating events establish (`Doomed`) survive every loop step and are incompatible with a
quiescent live session. -/

/-- the send loop is not parked at its pop (a write is in progress, or the loop has left for `quit`), or a write will
    be attempted: the queue holds a non-empty item -/
def writeAhead (s : Sess) : Prop := s.sendPc ≠ .idle ∨ ∃ x ∈ s.q, x ≠ []

/-- the send loop will never again block in a write -/
def noBlockAhead (s : Sess) : Prop :=
  s.peerDrain = true ∨ s.wfault = true ∨ ((∀ x, s.sendPc ≠ .writing x) ∧ ∀ x ∈ s.q, x = [])

instance decNotWriting (pc : SendPc) : Decidable (∀ x, pc ≠ .writing x) :=
  match pc with
  | .writing y => isFalse (fun h => h y rfl)
  | .idle => isTrue (by intro x e; cases e)
  | .quitting _ => isTrue (by intro x e; cases e)
  | .done => isTrue (by intro x e; cases e)

instance (s : Sess) : Decidable (writeAhead s) := by unfold writeAhead; exact inferInstance
instance (s : Sess) : Decidable (noBlockAhead s) := by unfold noBlockAhead; exact inferInstance

/-- something has happened that must end the session -/
def Doomed (s : Sess) : Prop :=
  s.recvPc ≠ .reading ∨ s.peerClosed = true ∨ s.closes ≠ 0 ∨ (s.wfault = true ∧ writeAhead s) ∨
  (s.qClosed = true ∧ noBlockAhead s)

/-- which environment events end a session that is in state `s`:
    peer close, a failing read (error, timeout, handler error, failing SetReadDeadline), a handler panic — always;
    a failing write (error, timeout, failing SetWriteDeadline) — when there is a write: one in progress or an item queued;
    a local Close — unless a write stays blocked on a peer that does not read (it then ends with that write:
    when the peer reads again or the write times out, `Doomed` covers both) -/
def Terminating (s : Sess) : Env → Prop
  | .peerClose => True
  | .readFail => True
  | .handlerPanic => True
  | .writeFail => writeAhead s
  | .writeFailAfter _ => writeAhead s   -- … also when the failing write was a partial one
  | .close => noBlockAhead s
  | _ => False

instance (s : Sess) (e : Env) : Decidable (Terminating s e) := by
  cases e <;> unfold Terminating <;> exact inferInstance

theorem doomed_of_event {s : Sess} {e : Env} (h : Terminating s e) : Doomed (envStep s e) := by
  unfold Doomed
  cases e <;> simp only [Terminating] at h
  case close => right; right; right; right; exact ⟨rfl, h⟩
  case peerClose => right; left; rfl
  case readFail => left; simp only [envStep]; split <;> simp_all
  case handlerPanic => left; simp only [envStep]; split <;> simp_all
  case writeFail => right; right; right; left; exact ⟨rfl, h⟩
  case writeFailAfter n =>
    right; right; right; left
    simp only [envStep]
    split
    · rename_i hw; exact ⟨hw, h⟩
    · exact ⟨rfl, h⟩

/-- under an armed write fault a write stays ahead: the only step that consumes one is a write that completes -/
theorem writeAhead_sendStepP {s a : Sess} (ha : sendStepP s = some a) (hw : s.wfault = true) (h : writeAhead s) :
    writeAhead a := by
  rcases sendStepP_pc ha with hl | ⟨st, hp⟩
  · cases sendLoop_cases hl ha with
    | close | take | fail => exact Or.inl (by simp)
    | skip rest h1 h2 =>
      rcases h with h | ⟨y, hy, hne⟩
      · exact absurd h1 h
      · rw [h2] at hy
        rcases List.mem_cons.1 hy with e | e
        · exact absurd e hne
        · exact Or.inr ⟨y, e, hne⟩
    | wrote x _ h2 => simp [hw] at h2
  · exact Or.inl fun h => (sendQuit_frame hp ha).2.2.not_looping (Or.inl h)

theorem noBlockAhead_sendStepP {s a : Sess} (ha : sendStepP s = some a) (h : noBlockAhead s) : noBlockAhead a := by
  obtain ⟨f, _⟩ := sendStepP_frame ha
  rcases h with h | h | ⟨h1, h2⟩
  · exact Or.inl (f.peerDrain.trans h)
  · exact Or.inr (Or.inl (f.wfault.trans h))
  · -- nothing is being written and only empty items are queued: the loop skips them and leaves
    refine Or.inr (Or.inr ?_)
    rcases sendStepP_pc ha with hl | ⟨st, hp⟩
    · cases sendLoop_cases hl ha with
      | close => exact ⟨by simp, h2⟩
      | skip rest _ hq => exact ⟨h1, fun y hy => h2 y (by rw [hq]; exact List.mem_cons_of_mem _ hy)⟩
      | take x rest _ hq hx => exact absurd (h2 x (by rw [hq]; exact List.mem_cons_self)) hx
      | fail x hp | wrote x hp => exact absurd hp (h1 x)
    · obtain ⟨hq, _, hleft⟩ := sendQuit_frame hp ha
      exact ⟨fun x h => hleft.not_looping (Or.inr ⟨x, h⟩), by rw [hq]; exact h2⟩

theorem doomed_sendStepP {s a : Sess} (h : Doomed s) (ha : sendStepP s = some a) : Doomed a := by
  obtain ⟨f, hr⟩ := sendStepP_frame ha
  rcases h with h | h | h | ⟨h1, h2⟩ | ⟨h1, h2⟩
  · exact Or.inl (hr ▸ h)
  · exact Or.inr (Or.inl (f.peerClosed.trans h))
  · exact Or.inr (Or.inr (Or.inl (mt f.closes h)))
  · exact Or.inr (Or.inr (Or.inr (Or.inl ⟨f.wfault.trans h1, writeAhead_sendStepP ha h1 h2⟩)))
  · exact Or.inr (Or.inr (Or.inr (Or.inr ⟨f.qClosed h1, noBlockAhead_sendStepP ha h2⟩)))

theorem doomed_recvStepP {s b : Sess} (hb : recvStepP s = some b) : Doomed b := by
  have k : b.recvPc ≠ .reading := by
    unfold recvStepP at hb
    repeat' split at hb
    all_goals first | (cases hb; simp) | cases hb
  exact Or.inl k

theorem doomed_not_waiting {s : Sess} (h : Doomed s) (hw : waiting s) : False := by
  unfold Doomed writeAhead noBlockAhead at h
  unfold waiting at hw
  obtain ⟨_, _, _, w4, w5, w6, w7⟩ := hw
  rcases h with h | h | h | ⟨h1, h2⟩ | ⟨h1, h2⟩
  · exact h w5
  · simp [w6] at h
  · exact h w4
  · rcases w7 with ⟨a1, a2, _⟩ | ⟨x, _, _, a3⟩
    · rcases h2 with h2 | ⟨y, hy, _⟩
      · exact h2 a1
      · simp [a2] at hy
    · simp [a3] at h1
  · rcases w7 with ⟨_, _, a3⟩ | ⟨x, a1, a2, a3⟩
    · simp [a3] at h1
    · rcases h2 with h2 | h2 | ⟨h2, _⟩
      · simp [a2] at h2
      · simp [a3] at h2
      · exact h2 x a1

end Nv.C16
