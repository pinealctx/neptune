import Nv.Proofs.C05Mem
import Nv.Proofs.C05Rds
/-!
C05 — the redis-backed cache agrees with the in-memory one inside the comparison domain (simulation). Both sides see
the key of a call either dead or live with related entries (`live_agree`); in each of these cases both calls are given
by their equations (`C05Mem`, `C05Rds`) and the relation is re-established at that key, all other keys being untouched
(`relK_update`). At the end a computable check of the comparison domain.
-/
namespace Nv.C05

/-- deadline in seconds ↔ expiry in ms set at the same instant: `d*1000 ≤ x < (d+1)*1000` -/
def DlRel : Deadline → Option Int → Prop
  | some d, some x => d * 1000 ≤ x ∧ x < (d + 1) * 1000
  | _, _ => False

def RelK : Option Node → Option REntry → Prop
  | none, none => True
  | some n, some e => n.val = e.val ∧ DlRel n.dl e.exp
  | _, _ => False

def Rel (s : Sys) : Prop :=
  (∀ k, RelK (s.mem.lookup k) (rFind k s.rds.store)) ∧ s.rds.dttl = s.mem.dttl ∧ Bounded s.mem

/-- no call on a key at a clock reading equal to its deadline -/
def offDeadline (m : Mem) (sec : Int) (k : Key) : Prop := ∀ n, m.lookup k = some n → n.dl ≠ some sec

/-- the comparison domain of the property, per call -/
def admOp (s : Sys) : Op → Prop
  | .set k _ o =>
    ((o.keepTTL = true ∧ o.mustNotExist = false) ∨ 0 < o.ttl.getD s.mem.dttl) ∧ offDeadline s.mem (secOf s.clock) k ∧
    (o.keepTTL = true → o.mustNotExist = false →
      ∃ n, s.mem.lookup k = some n ∧ expired (secOf s.clock) n.dl = false) ∧
    (s.mem.lookup k = none → s.mem.live.length < s.mem.size)
  | .get k o => offDeadline s.mem (secOf s.clock) k ∧ ∀ t, o.update = some t → 0 < getTtl s.mem.dttl t
  | _ => True

theorem secOf_bounds (clock : Nat) : secOf clock * 1000 ≤ clock ∧ (clock : Int) < (secOf clock + 1) * 1000 := by
  simp only [secOf]; omega

/-- related deadlines elapse together, except at a reading equal to the deadline -/
theorem expired_agree {clock : Nat} {dl : Deadline} {x : Option Int} (h : DlRel dl x) (hoff : dl ≠ some (secOf clock)) :
    expired (secOf clock) dl = rExpired (clock : Int) x := by
  match dl, x, h with
  | some d, some x, ⟨h3, h4⟩ =>
    have hne : d ≠ secOf clock := fun e => hoff (by rw [e])
    obtain ⟨h1, h2⟩ := secOf_bounds clock
    generalize secOf clock = q at *
    rw [Bool.eq_iff_iff]
    simp only [expired, rExpired, decide_eq_true_eq]
    omega

theorem dlrel_fresh (clock : Nat) (t : Int) : DlRel (some (secOf clock + t)) (some ((clock : Int) + t * 1000)) := by
  obtain ⟨h1, h2⟩ := secOf_bounds clock
  generalize secOf clock = q at *
  simp only [DlRel]; omega

theorem deadline_pos (now : Int) {t : Int} (h : 0 < t) : deadline now t = some (now + t) :=
  if_neg (by omega)

theorem live_agree {m : Mem} {st : List REntry} {clock : Nat} {k : Key}
    (hr : RelK (m.lookup k) (rFind k st)) (hoff : offDeadline m (secOf clock) k) :
    (m.lookup k = none ∧ rLive clock k st = none) ∨
    (∃ n e, m.lookup k = some n ∧ rFind k st = some e ∧ expired (secOf clock) n.dl = true ∧ rLive clock k st = none) ∨
    (∃ n e, m.lookup k = some n ∧ rFind k st = some e ∧ expired (secOf clock) n.dl = false ∧ rLive clock k st = some e ∧
      n.val = e.val ∧ DlRel n.dl e.exp) := by
  cases hl : m.lookup k <;> cases hf : rFind k st <;> rw [hl, hf] at hr
  · left; simp [rLive, hf]
  · exact hr.elim
  · exact hr.elim
  · rename_i n e
    obtain ⟨hv, hd⟩ := hr
    have hx := expired_agree hd (hoff n hl)
    right
    cases he : expired (secOf clock) n.dl
    · right; exact ⟨n, e, rfl, rfl, he, by simp [rLive, hf, ← hx, he], hv, hd⟩
    · left; exact ⟨n, e, rfl, rfl, he, by simp [rLive, hf, ← hx, he]⟩

/-- a call on `k` touches neither side at any other key, so the relation has to be re-established at `k` only -/
theorem relK_update {m m' : Mem} {st st' : List REntry} {k : Key}
    (h : ∀ k', k' ≠ k → RelK (m.lookup k') (rFind k' st))
    (hm : ∀ k', k' ≠ k → m'.lookup k' = m.lookup k') (hs : ∀ k', k' ≠ k → rFind k' st' = rFind k' st)
    (hk : RelK (m'.lookup k) (rFind k st')) : ∀ k', RelK (m'.lookup k') (rFind k' st') := by
  intro k'
  by_cases e : k' = k
  · rw [e]; exact hk
  · rw [hm k' e, hs k' e]; exact h k' e

theorem relK_remove {m : Mem} {st : List REntry} (k : Key) (h : ∀ k', k' ≠ k → RelK (m.lookup k') (rFind k' st)) :
    ∀ k', RelK ((m.removeKey k).lookup k') (rFind k' (rErase k st)) :=
  relK_update h (fun k' e => by rw [lookup_removeKey, if_neg e]) (fun k' e => by rw [rFind_rErase, if_neg e])
    (by rw [lookup_removeKey_self, rFind_rErase, if_pos rfl]; trivial)

theorem relK_touch_put {m : Mem} {st : List REntry} {k : Key} (h : ∀ k', RelK (m.lookup k') (rFind k' st))
    (v : Val) {dl : Deadline} {x : Option Int} (hd : DlRel dl x) :
    ∀ k', RelK ((m.touch ⟨k, v, dl⟩).lookup k') (rFind k' (⟨k, v, x⟩ :: rErase k st)) :=
  relK_update (fun k' _ => h k') (fun k' e => by rw [lookup_touch, if_neg e]) (fun k' e => by rw [rFind_put, if_neg e])
    (by rw [lookup_touch_self, rFind_put, if_pos rfl]; exact ⟨rfl, hd⟩)

theorem agree_get {c : Cfg} (hc : Proved c) {m : Mem} {r : Rds} {clock : Nat} {k : Key} {o : GetOpt}
    (hrel : ∀ k', RelK (m.lookup k') (rFind k' r.store)) (hd : r.dttl = m.dttl)
    (hoff : offDeadline m (secOf clock) k) (hupd : ∀ t, o.update = some t → 0 < getTtl m.dttl t) :
    (m.get (secOf clock) k o).2 = (r.get c clock k o).2 ∧
    (∀ k', RelK ((m.get (secOf clock) k o).1.lookup k') (rFind k' (r.get c clock k o).1.store)) ∧
    (r.get c clock k o).1.dttl = r.dttl := by
  rcases live_agree (hrel k) hoff with ⟨hl, hr⟩ | ⟨n, e, hl, hf, he, hr⟩ | ⟨n, e, hl, hf, he, hr, hv, hdl⟩
  · rw [get_absent o hl, rds_get_dead c o hr]
    refine ⟨rfl, ?_, rfl⟩
    exact relK_update (fun k' _ => hrel k') (fun _ _ => rfl) (fun k' e => by rw [rFind_rErase, if_neg e])
      (by rw [hl, rFind_rErase, if_pos rfl]; trivial)
  · rw [get_expired o hl he, rds_get_dead c o hr]
    exact ⟨rfl, relK_remove k (fun k' _ => hrel k'), rfl⟩
  · cases hrm : o.remove with
    | true =>
      rw [get_consume hl he hrm, rds_get_consume c hr hrm, hv]
      exact ⟨rfl, relK_remove k (fun k' _ => hrel k'), rfl⟩
    | false =>
      rw [get_hit hl he hrm, hv]
      cases hu : o.update with
      | none =>
        -- the node only moves to the front; redis is not written
        rw [rds_get_plain c hr hrm hu]
        refine ⟨rfl, ?_, rfl⟩
        exact relK_update (fun k' _ => hrel k') (fun k' e => by rw [lookup_touch, if_neg e]) (fun _ _ => rfl)
          (by rw [lookup_touch_self, hf]; exact ⟨rfl, hdl⟩)
      | some t =>
        have hpos := hupd t hu
        rw [rds_get_update hc.2.2 hr hrm hu (hd ▸ hpos), hd]
        refine ⟨rfl, ?_, rfl⟩
        simp only [deadline_pos _ hpos]
        exact relK_touch_put hrel e.val (dlrel_fresh clock _)

/-- Set on a key that is dead on both sides (never set, removed, or elapsed and purged): a new node and a new entry -/
theorem agree_set_dead {c : Cfg} (hc : Proved c) {m0 : Mem} {r : Rds} {clock : Nat} {k : Key} (v : Val) {o : SetOpt}
    (hl0 : m0.lookup k = none) (hroom : m0.live.length < m0.size)
    (hrel : ∀ k', k' ≠ k → RelK (m0.lookup k') (rFind k' r.store)) (hr : rLive clock k r.store = none)
    (hd : r.dttl = m0.dttl) (httl : 0 < o.ttl.getD m0.dttl) (hkeep : o.mustNotExist = false → o.keepTTL = false) :
    (m0.setCore c (secOf clock) k v o).2 = (r.set c clock k v o).2 ∧
    (∀ k', RelK ((m0.setCore c (secOf clock) k v o).1.lookup k') (rFind k' (r.set c clock k v o).1.store)) ∧
    (r.set c clock k v o).1.dttl = r.dttl := by
  rw [setCore_absent c _ v o hl0, rds_set_fresh hc.2.2 v (hd ▸ httl) (fun _ => hr) hkeep, hd, setTtl,
    deadline_pos _ httl]
  refine ⟨rfl, ?_, rfl⟩
  exact relK_update hrel (fun k' e => by rw [lookup_insertNew_room c hroom, if_neg e])
    (fun k' e => by rw [rFind_put, if_neg e])
    (by rw [lookup_insertNew_room c hroom, if_pos rfl, rFind_put, if_pos rfl]; exact ⟨rfl, dlrel_fresh clock _⟩)

theorem agree_set {c : Cfg} (hc : Proved c) {m : Mem} {r : Rds} {clock : Nat} {k : Key} (v : Val) {o : SetOpt}
    (hrel : ∀ k', RelK (m.lookup k') (rFind k' r.store)) (hd : r.dttl = m.dttl) (hb : Bounded m)
    (httl : (o.keepTTL = true ∧ o.mustNotExist = false) ∨ 0 < o.ttl.getD m.dttl) (hoff : offDeadline m (secOf clock) k)
    (hkeep : o.keepTTL = true → o.mustNotExist = false →
      ∃ n, m.lookup k = some n ∧ expired (secOf clock) n.dl = false)
    (hroom : m.lookup k = none → m.live.length < m.size) :
    (m.set c (secOf clock) k v o).2 = (r.set c clock k v o).2 ∧
    (∀ k', RelK ((m.set c (secOf clock) k v o).1.lookup k') (rFind k' (r.set c clock k v o).1.store)) ∧
    (r.set c clock k v o).1.dttl = r.dttl := by
  -- on a key that is dead in memory keep-ttl without must-not-exist is outside the domain, so the ttl is positive
  have hdead : (∀ n, m.lookup k = some n → expired (secOf clock) n.dl = true) →
      (o.mustNotExist = false → o.keepTTL = false) ∧ 0 < o.ttl.getD m.dttl := fun hx => by
    have hnk : o.mustNotExist = false → o.keepTTL = false := fun hm => by
      cases hk : o.keepTTL with
      | false => rfl
      | true => obtain ⟨n, hn, he⟩ := hkeep hk hm; rw [hx n hn] at he; cases he
    exact ⟨hnk, httl.resolve_left (fun ⟨hk, hm⟩ => by rw [hnk hm] at hk; cases hk)⟩
  rcases live_agree (hrel k) hoff with ⟨hl, hr⟩ | ⟨n, e, hl, hf, he, hr⟩ | ⟨n, e, hl, hf, he, hr, hv, hdl⟩
  · obtain ⟨hnk, hpos⟩ := hdead (fun n hn => by rw [hl] at hn; cases hn)
    rw [Mem.set, preSet_live c (fun n hn => by rw [hl] at hn; cases hn)]
    exact agree_set_dead hc v hl (hroom hl) (fun k' _ => hrel k') hr hd hpos hnk
  · -- elapsed: purged first, which makes room, then like absent
    obtain ⟨hnk, hpos⟩ := hdead (fun n' hn' => by rw [hl] at hn'; cases hn'; exact he)
    rw [Mem.set, preSet_expired hc.1 hl he]
    rw [lookup_of_bounded hb] at hl
    exact agree_set_dead hc v (lookup_removeKey_self m k)
      (Nat.lt_of_lt_of_le (eraseKey_length_lt hl) hb.2)
      (fun k' e' => by rw [lookup_removeKey, if_neg e']; exact hrel k') hr hd hpos hnk
  · -- live on both sides
    rw [Mem.set, preSet_live c (fun n' hn' => by rw [hl] at hn'; cases hn'; exact he)]
    cases hm : o.mustNotExist with
    | true =>
      -- both report already-exists, nothing changes
      have hpos : 0 < o.ttl.getD m.dttl := httl.resolve_left (fun ⟨_, h2⟩ => by rw [hm] at h2; cases h2)
      rw [setCore_exists c _ v hl hm, rds_set_exists hc.2.2 v (hd ▸ hpos) hm hr]
      exact ⟨rfl, hrel, rfl⟩
    | false =>
      rw [setCore_overwrite c _ v hl hm]
      cases hk : o.keepTTL with
      | true =>
        rw [rds_set_keep c v hm hk hr]
        exact ⟨rfl, relK_touch_put hrel v hdl, rfl⟩
      | false =>
        have hpos : 0 < o.ttl.getD m.dttl := httl.resolve_left (fun ⟨h1, _⟩ => by rw [hk] at h1; cases h1)
        rw [rds_set_fresh hc.2.2 v (hd ▸ hpos) (fun h => by rw [hm] at h; cases h) (fun _ => hk), hd]
        refine ⟨rfl, ?_, rfl⟩
        simp only [Bool.false_eq_true, if_false, setTtl, deadline_pos _ hpos]
        exact relK_touch_put hrel v (dlrel_fresh clock _)

/-- a history inside the comparison domain: every call is admissible in the state it is issued in -/
def Admissible (c : Cfg) : Sys → List Op → Prop
  | _, [] => True
  | s, op :: ops => admOp s op ∧ Admissible c (Sys.step c s op).1 ops

theorem agree_sys_step {c : Cfg} (hc : Proved c) {s : Sys} (hR : Rel s) {op : Op} (ha : admOp s op) :
    (Sys.step c s op).2.1 = (Sys.step c s op).2.2 ∧ Rel (Sys.step c s op).1 := by
  obtain ⟨hrel, hd, hb⟩ := hR
  cases op with
  | tick n => exact ⟨rfl, hrel, hd, hb⟩
  | clear => exact ⟨rfl, fun _ => trivial, hd, bounded_clear _⟩
  | remove k => exact ⟨rfl, relK_remove k (fun k' _ => hrel k'), hd, bounded_removeKey hb k⟩
  | get k o =>
    obtain ⟨hoff, hupd⟩ := ha
    obtain ⟨h1, h2, h3⟩ := agree_get (o := o) hc hrel hd hoff hupd
    exact ⟨h1, h2, (h3.trans hd).trans (step_dttl c s.mem (secOf s.clock) (.get k o)).symm, bounded_step hc.2.1 hb _ (.get k o)⟩
  | set k v o =>
    obtain ⟨httl, hoff, hkeep, hroom⟩ := ha
    obtain ⟨h1, h2, h3⟩ := agree_set (o := o) hc v hrel hd hb httl hoff hkeep hroom
    exact ⟨h1, h2, (h3.trans hd).trans (step_dttl c s.mem (secOf s.clock) (.set k v o)).symm,
      bounded_step hc.2.1 hb _ (.set k v o)⟩

theorem agree_run {c : Cfg} (hc : Proved c) : ∀ (ops : List Op) (s : Sys), Rel s → Admissible c s ops →
    ∀ o ∈ outs (Sys.step c) s ops, o.1 = o.2 := by
  intro ops
  induction ops with
  | nil => intro s _ _ o ho; simp at ho
  | cons op ops ih =>
    intro s hR ha o ho
    obtain ⟨h1, h2⟩ := agree_sys_step hc hR ha.1
    rw [outs_cons] at ho
    rcases List.mem_cons.1 ho with e | e
    · rw [e]; exact h1
    · exact ih _ h2 ha.2 o e

theorem rel_new (clock size : Nat) (dttl : Int) : Rel (Sys.new clock size dttl) :=
  ⟨fun _ => trivial, rfl, bounded_new size dttl⟩

/-! ### a computable check of admissibility (used for the non-vacuity examples) -/

def offDeadlineB (m : Mem) (sec : Int) (k : Key) : Bool :=
  match m.lookup k with
  | some n => decide (n.dl ≠ some sec)
  | none => true

def admOpB (s : Sys) : Op → Bool
  | .set k _ o =>
    ((o.keepTTL && !o.mustNotExist) || decide (0 < o.ttl.getD s.mem.dttl)) && offDeadlineB s.mem (secOf s.clock) k &&
    (!(o.keepTTL && !o.mustNotExist) ||
      (match s.mem.lookup k with
        | some n => !expired (secOf s.clock) n.dl
        | none => false)) &&
    ((s.mem.lookup k).isSome || decide (s.mem.live.length < s.mem.size))
  | .get k o => offDeadlineB s.mem (secOf s.clock) k &&
    (match o.update with
      | some t => decide (0 < getTtl s.mem.dttl t)
      | none => true)
  | _ => true

def admissibleB (c : Cfg) : Sys → List Op → Bool
  | _, [] => true
  | s, op :: ops => admOpB s op && admissibleB c (Sys.step c s op).1 ops

theorem offDeadlineB_sound {m : Mem} {sec : Int} {k : Key} (h : offDeadlineB m sec k = true) : offDeadline m sec k := by
  intro n hn
  simp only [offDeadlineB, hn] at h
  exact of_decide_eq_true h

/-- the three clauses the two forms of the domain share for a Set -/
theorem setClausesB_sound {s : Sys} {k : Key} {o : SetOpt}
    (h1 : ((o.keepTTL && !o.mustNotExist) || decide (0 < o.ttl.getD s.mem.dttl)) = true)
    (h2 : offDeadlineB s.mem (secOf s.clock) k = true)
    (h3 : (!(o.keepTTL && !o.mustNotExist) ||
      (match s.mem.lookup k with
        | some n => !expired (secOf s.clock) n.dl
        | none => false)) = true) :
    ((o.keepTTL = true ∧ o.mustNotExist = false) ∨ 0 < o.ttl.getD s.mem.dttl) ∧ offDeadline s.mem (secOf s.clock) k ∧
    (o.keepTTL = true → o.mustNotExist = false →
      ∃ n, s.mem.lookup k = some n ∧ expired (secOf s.clock) n.dl = false) := by
  refine ⟨by simpa using h1, offDeadlineB_sound h2, fun hk hm => ?_⟩
  cases hl : s.mem.lookup k with
  | none => simp [hk, hm, hl] at h3
  | some n => exact ⟨n, rfl, by simpa [hk, hm, hl] using h3⟩

theorem admOpB_sound {s : Sys} {op : Op} (h : admOpB s op = true) : admOp s op := by
  cases op with
  | set k v o =>
    simp only [admOpB, Bool.and_eq_true] at h
    obtain ⟨⟨⟨h1, h2⟩, h3⟩, h4⟩ := h
    obtain ⟨a, b, d⟩ := setClausesB_sound h1 h2 h3
    exact ⟨a, b, d, fun hl => by simpa [hl] using h4⟩
  | get k o =>
    simp only [admOpB, Bool.and_eq_true] at h
    refine ⟨offDeadlineB_sound h.1, fun t ht => ?_⟩
    have := h.2
    simp only [ht, decide_eq_true_eq] at this
    exact this
  | _ => trivial

theorem admissibleB_sound {c : Cfg} : ∀ (ops : List Op) (s : Sys), admissibleB c s ops = true → Admissible c s ops := by
  intro ops
  induction ops with
  | nil => intro _ _; trivial
  | cons op ops ih =>
    intro s h
    simp only [admissibleB, Bool.and_eq_true] at h
    exact ⟨admOpB_sound h.1, ih _ h.2⟩

end Nv.C05
