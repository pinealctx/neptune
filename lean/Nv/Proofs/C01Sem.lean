import Nv.Model.C01
/-!
C01 — lemmas about one `*Weighted`: `notifyWaiters` admits a maximal fitting prefix of the queue,
and the numeric invariant `SemOk` is preserved by acquire / release / cancel.
-/
namespace Nv.C01

theorem wsum_nil : wsum [] = 0 := rfl
theorem wsum_cons (x : W) (l : List W) : wsum (x :: l) = x.2 + wsum l := rfl
theorem wsum_append (a b : List W) : wsum (a ++ b) = wsum a + wsum b := by
  simp only [wsum, List.map_append, List.sum_append]
theorem wsum_single (x : W) : wsum [x] = x.2 := rfl

theorem wsum_filter_split (l : List W) (t : Tid) :
    wsum (l.filter (·.1 = t)) + wsum (l.filter (·.1 ≠ t)) = wsum l := by
  -- the two filters split `l` up to order, and a sum does not see the order
  have hnot : (fun w : W => decide (w.1 ≠ t)) = fun w => !decide (w.1 = t) := funext fun _ => decide_not
  rw [← wsum_append, hnot]
  exact ((List.filter_append_perm _ l).map (·.2)).sum_nat

theorem wsum_zero_nil (l : List W) (hp : ∀ h ∈ l, 1 ≤ h.2) (hz : wsum l = 0) : l = [] := by
  cases l with
  | nil => rfl
  | cons x xs =>
    rw [wsum_cons] at hz
    exact absurd (Nat.eq_zero_of_add_eq_zero_right hz) (Nat.ne_of_gt (hp x List.mem_cons_self))

theorem wsum_all_one (l : List W) (h : ∀ x ∈ l, x.2 = 1) : wsum l = l.length := by
  induction l with
  | nil => rfl
  | cons a rest ih =>
    rw [wsum_cons, h a List.mem_cons_self, ih (fun x hx => h x (List.mem_cons_of_mem a hx)), List.length_cons]
    exact Nat.add_comm 1 _

/-- number of waiters `notify` admits: the longest prefix that fits, one by one -/
def grantCount (size : Nat) : Nat → List W → Nat
  | _, [] => 0
  | cur, w :: ws => if size - cur < w.2 then 0 else grantCount size (cur + w.2) ws + 1

/-- a blocked head stays blocked: `notify` admits nobody -/
theorem grantCount_blocked (size cur : Nat) (w : W) (ws : List W) (h : size - cur < w.2) :
    grantCount size cur (w :: ws) = 0 := by simp [grantCount, h]

theorem notify_eq (size : Nat) (ws : List W) (cur : Nat) (hs : List W) :
    notify size cur hs ws =
      ⟨cur + wsum (ws.take (grantCount size cur ws)), hs ++ ws.take (grantCount size cur ws),
        ws.drop (grantCount size cur ws)⟩ := by
  induction ws generalizing cur hs with
  | nil => simp [notify, grantCount, wsum]
  | cons w ws ih =>
    rw [notify, grantCount]
    split
    · simp [wsum]
    · rw [ih]
      simp [wsum_cons, Nat.add_assoc]

theorem notify_waiters (size : Nat) (ws : List W) (cur : Nat) (hs : List W) :
    (notify size cur hs ws).waiters = ws.drop (grantCount size cur ws) := by rw [notify_eq]

theorem notify_holders (size : Nat) (ws : List W) (cur : Nat) (hs : List W) :
    (notify size cur hs ws).holders = hs ++ ws.take (grantCount size cur ws) := by rw [notify_eq]

theorem notify_cur (size : Nat) (ws : List W) (cur : Nat) (hs : List W) :
    (notify size cur hs ws).cur = cur + wsum (ws.take (grantCount size cur ws)) := by rw [notify_eq]

theorem notify_all (size : Nat) (ws : List W) (cur : Nat) (hs : List W) :
    (notify size cur hs ws).holders ++ (notify size cur hs ws).waiters = hs ++ ws := by
  rw [notify_holders, notify_waiters, List.append_assoc, List.take_append_drop]

/-- an empty queue or a blocked head: `notify` changes nothing -/
theorem notify_blocked (size cur : Nat) (hs ws : List W)
    (h : ∀ w rest, ws = w :: rest → size - cur < w.2) : notify size cur hs ws = ⟨cur, hs, ws⟩ := by
  cases ws with
  | nil => rfl
  | cons w rest => simp only [notify, h w rest rfl, if_true]

theorem notify_full (size : Nat) (ws : List W) (cur : Nat) (hs : List W) (hle : cur ≤ size) :
    (notify size cur hs ws).cur ≤ size ∧
      ∀ w rest, (notify size cur hs ws).waiters = w :: rest → size - (notify size cur hs ws).cur < w.2 := by
  induction ws generalizing cur hs with
  | nil => exact ⟨hle, fun _ _ h => by cases h⟩
  | cons x xs ih =>
    rw [notify]
    split
    · next hb => exact ⟨hle, fun w rest h => by cases h; exact hb⟩
    · next hb => exact ih _ _ (Nat.add_le_of_le_sub' hle (Nat.le_of_not_lt hb))

structure SemOk (size : Nat) (o : Sem) : Prop where
  cur_eq : o.cur = wsum o.holders
  cur_le : o.cur ≤ size
  hpos : ∀ h ∈ o.holders, 1 ≤ h.2
  wpos : ∀ w ∈ o.waiters, 1 ≤ w.2 ∧ w.2 ≤ size
  head : ∀ w ws, o.waiters = w :: ws → size - o.cur < w.2

theorem empty_ok (size : Nat) : SemOk size ⟨0, [], []⟩ :=
  ⟨rfl, Nat.zero_le _, nofun, nofun, nofun⟩

/-- with a non-empty queue somebody holds: were `cur = 0`, the head (of weight ≤ size) would fit -/
theorem SemOk.cur_pos_of_waiters {size : Nat} {o : Sem} (h : SemOk size o) (hw : o.waiters ≠ []) : 0 < o.cur := by
  cases hws : o.waiters with
  | nil => exact absurd hws hw
  | cons w ws =>
    have hfit := (h.wpos w (by rw [hws]; exact List.mem_cons_self)).2
    have hhead := h.head w ws hws
    exact Nat.pos_of_ne_zero fun hz => by
      rw [hz] at hhead
      exact Nat.lt_irrefl _ (Nat.lt_of_lt_of_le hhead hfit)

theorem SemOk.eq_empty {size : Nat} {o : Sem} (h : SemOk size o) (hz : o.cur = 0) : o = ⟨0, [], []⟩ := by
  have hh : o.holders = [] := wsum_zero_nil _ h.hpos (h.cur_eq.symm.trans hz)
  have hw : o.waiters = [] :=
    Classical.byContradiction fun hne => Nat.lt_irrefl 0 (hz ▸ h.cur_pos_of_waiters hne)
  obtain ⟨cur, hs, ws⟩ := o
  obtain rfl : cur = 0 := hz
  obtain rfl : hs = [] := hh
  obtain rfl : ws = [] := hw
  rfl

theorem notify_ok (size : Nat) : ∀ (ws : List W) (cur : Nat) (hs : List W),
    cur = wsum hs → cur ≤ size → (∀ h ∈ hs, 1 ≤ h.2) → (∀ w ∈ ws, 1 ≤ w.2 ∧ w.2 ≤ size) →
    SemOk size (notify size cur hs ws) := by
  intro ws cur hs h1 h2 h3 h4
  have hfull := notify_full size ws cur hs h2
  refine ⟨?_, hfull.1, ?_, ?_, hfull.2⟩
  · rw [notify_cur, notify_holders, wsum_append, h1]
  · rw [notify_holders]
    exact List.forall_mem_append.2 ⟨h3, fun w hw => (h4 w (List.mem_of_mem_take hw)).1⟩
  · rw [notify_waiters]
    exact fun w hw => h4 w (List.mem_of_mem_drop hw)

/-- the fast path of `Weighted.acquire`: nobody waits and the weight fits -/
theorem acquire_granted (size : Nat) (o : Sem) (t : Tid) (n : Nat) (h : o.waiters = [] ∧ n ≤ size - o.cur) :
    o.acquire size t n = ⟨o.cur + n, o.holders ++ [(t, n)], []⟩ := by
  rw [Sem.acquire, if_pos ⟨h.2, h.1⟩, h.1]

/-- otherwise the caller queues at the back (the "doomed" branch needs `n > size`) -/
theorem acquire_queued (size : Nat) (o : Sem) (t : Tid) (n : Nat) (hn : n ≤ size)
    (h : ¬ (o.waiters = [] ∧ n ≤ size - o.cur)) :
    o.acquire size t n = ⟨o.cur, o.holders, o.waiters ++ [(t, n)]⟩ := by
  rw [Sem.acquire, if_neg (fun hc => h ⟨hc.2, hc.1⟩), if_neg (Nat.not_lt.2 hn)]

theorem acquire_ok (size : Nat) (o : Sem) (t : Tid) (n : Nat) (hn1 : 1 ≤ n) (hn2 : n ≤ size) (h : SemOk size o) :
    SemOk size (o.acquire size t n) := by
  by_cases hc : o.waiters = [] ∧ n ≤ size - o.cur
  · rw [acquire_granted size o t n hc]
    exact ⟨by rw [wsum_append, h.cur_eq]; rfl, Nat.add_le_of_le_sub' h.cur_le hc.2,
      List.forall_mem_append.2 ⟨h.hpos, List.forall_mem_singleton.2 hn1⟩, nofun, nofun⟩
  · rw [acquire_queued size o t n hn2 hc]
    refine ⟨h.cur_eq, h.cur_le, h.hpos, List.forall_mem_append.2 ⟨h.wpos, List.forall_mem_singleton.2 ⟨hn1, hn2⟩⟩, ?_⟩
    intro w ws (hw : o.waiters ++ [(t, n)] = w :: ws)
    rcases List.append_eq_cons_iff.1 hw with ⟨hnil, hx⟩ | ⟨ws', hws, _⟩
    · -- the newcomer is the head: it queued because it did not fit
      cases hx
      exact Nat.lt_of_not_le fun hle => hc ⟨hnil, hle⟩
    · exact h.head w ws' hws

theorem acquire_cur_pos (size : Nat) (o : Sem) (t : Tid) (n : Nat) (hn1 : 1 ≤ n) (hn2 : n ≤ size)
    (h : SemOk size o) : 0 < (o.acquire size t n).cur := by
  by_cases hc : o.waiters = [] ∧ n ≤ size - o.cur
  · rw [acquire_granted size o t n hc]
    exact Nat.lt_of_lt_of_le hn1 (Nat.le_add_left n o.cur)
  · rw [acquire_queued size o t n hn2 hc]
    show 0 < o.cur
    by_cases hw : o.waiters = []
    · -- it fits into `size` but not into what is left
      exact Nat.pos_of_ne_zero fun hz => hc ⟨hw, by rw [hz]; exact hn2⟩
    · exact h.cur_pos_of_waiters hw

theorem release_eq_notify (size : Nat) (o : Sem) (t : Tid) (h : o.cur = wsum o.holders) :
    o.release size t =
      notify size (wsum (o.holders.filter (·.1 ≠ t))) (o.holders.filter (·.1 ≠ t)) o.waiters := by
  rw [Sem.release, h, ← wsum_filter_split o.holders t, Nat.add_sub_cancel_left]

theorem release_ok (size : Nat) (o : Sem) (t : Tid) (h : SemOk size o) :
    SemOk size (o.release size t) := by
  have hle : wsum (o.holders.filter (·.1 ≠ t)) ≤ o.cur := by
    rw [h.cur_eq, ← wsum_filter_split o.holders t]
    exact Nat.le_add_left _ _
  rw [release_eq_notify size o t h.cur_eq]
  exact notify_ok size _ _ _ rfl (Nat.le_trans hle h.cur_le) (fun x hx => h.hpos x (List.mem_filter.1 hx).1) h.wpos

/-- the `isFront ∧ size > cur` test of the ctx arm only saves work: whenever it fails, `notifyWaiters` would
    admit nobody -/
theorem cancel_eq_notify (size : Nat) (o : Sem) (t : Tid) (h : SemOk size o) :
    o.cancel size t = notify size o.cur o.holders (o.waiters.filter (·.1 ≠ t)) := by
  unfold Sem.cancel
  split
  · rfl
  · next hc =>
    rw [notify_blocked]
    intro w rest hw
    cases hws : o.waiters with
    | nil => rw [hws] at hw; cases hw
    | cons x xs =>
      by_cases hx : x.1 = t
      · -- t was the head, so no token is left: nothing fits
        have hfront : isFront t o.waiters = true := by rw [hws, isFront, hx]; exact beq_self_eq_true t
        have hmem : w ∈ o.waiters.filter (·.1 ≠ t) := hw ▸ List.mem_cons_self
        rw [Nat.sub_eq_zero_of_le (Nat.le_of_not_gt fun hgt => hc ⟨hfront, hgt⟩)]
        exact (h.wpos w (List.mem_filter.1 hmem).1).1
      · rw [hws, List.filter_cons_of_pos (by simpa using hx)] at hw
        cases hw
        exact h.head w xs hws

theorem cancel_ok (size : Nat) (o : Sem) (t : Tid) (h : SemOk size o) :
    SemOk size (o.cancel size t) := by
  rw [cancel_eq_notify size o t h]
  exact notify_ok size _ _ _ h.cur_eq h.cur_le h.hpos (fun w hw => h.wpos w (List.mem_filter.1 hw).1)

theorem cancel_cur_ge (size : Nat) (o : Sem) (t : Tid) (h : SemOk size o) : o.cur ≤ (o.cancel size t).cur := by
  rw [cancel_eq_notify size o t h, notify_cur]
  exact Nat.le_add_right _ _

/-- the ctx arm of a caller that is not in the queue (already granted) changes nothing -/
theorem cancel_not_waiting (size : Nat) (o : Sem) (t : Tid) (h : SemOk size o) (hw : waitsIn t o = false) :
    o.cancel size t = o := by
  have hf : o.waiters.filter (·.1 ≠ t) = o.waiters :=
    List.filter_eq_self.2 fun w hw' => decide_eq_true fun he => List.any_eq_false.1 hw w hw' (beq_iff_eq.2 he)
  rw [cancel_eq_notify size o t h, hf, notify_blocked size o.cur o.holders o.waiters h.head]

theorem acquire_lists (size : Nat) (o : Sem) (t : Tid) (n : Nat) (hn : n ≤ size) :
    if o.waiters = [] ∧ n ≤ size - o.cur
    then (o.acquire size t n).holders = o.holders ++ [(t, n)] ∧ (o.acquire size t n).waiters = []
    else (o.acquire size t n).holders = o.holders ∧ (o.acquire size t n).waiters = o.waiters ++ [(t, n)] := by
  by_cases hc : o.waiters = [] ∧ n ≤ size - o.cur
  · rw [if_pos hc, acquire_granted size o t n hc]
    exact ⟨rfl, rfl⟩
  · rw [if_neg hc, acquire_queued size o t n hn hc]
    exact ⟨rfl, rfl⟩

theorem release_lists (size : Nat) (o : Sem) (t : Tid) :
    ∃ m, (o.release size t).holders = o.holders.filter (·.1 ≠ t) ++ o.waiters.take m ∧
      (o.release size t).waiters = o.waiters.drop m :=
  ⟨_, notify_holders _ _ _ _, notify_waiters _ _ _ _⟩

theorem cancel_lists (size : Nat) (o : Sem) (t : Tid) (h : SemOk size o) :
    ∃ m, (o.cancel size t).holders = o.holders ++ (o.waiters.filter (·.1 ≠ t)).take m ∧
      (o.cancel size t).waiters = (o.waiters.filter (·.1 ≠ t)).drop m := by
  rw [cancel_eq_notify size o t h]
  exact ⟨_, notify_holders _ _ _ _, notify_waiters _ _ _ _⟩

theorem acquire_all (size : Nat) (o : Sem) (t : Tid) (n : Nat) (hn : n ≤ size) :
    (o.acquire size t n).holders ++ (o.acquire size t n).waiters = o.holders ++ o.waiters ++ [(t, n)] := by
  by_cases hc : o.waiters = [] ∧ n ≤ size - o.cur
  · rw [acquire_granted size o t n hc, hc.1, List.append_nil, List.append_nil]
  · rw [acquire_queued size o t n hn hc, List.append_assoc]

theorem release_sublist (size : Nat) (o : Sem) (t : Tid) :
    ((o.release size t).holders ++ (o.release size t).waiters).Sublist (o.holders ++ o.waiters) := by
  rw [Sem.release, notify_all]
  exact List.filter_sublist.append (List.Sublist.refl _)

theorem cancel_sublist (size : Nat) (o : Sem) (t : Tid) (h : SemOk size o) :
    ((o.cancel size t).holders ++ (o.cancel size t).waiters).Sublist (o.holders ++ o.waiters) := by
  rw [cancel_eq_notify size o t h, notify_all]
  exact (List.Sublist.refl _).append List.filter_sublist

end Nv.C01
