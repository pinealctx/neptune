import Nv.Proofs.C03Cow3
/-!
C03, layer B — closure of the writer's own tree (stores whose free list has capacity 0).

Fix the store `H0` at the start of an operation of the tree tagged `cow` with root `root`. A cell is *good* if it
lies beyond `H0` (allocated during the operation) or was reachable from the writer's root in `H0`. `Inv2` adds to the
frame invariant: the free list stays empty, and the children of every good cell are good and exist. Every primitive
keeps `Inv2` provided the child lists it writes consist of good, existing cells (the discipline `closure`, which the
walk through the operations takes from here); so at the end everything reachable from the writer's new root is good —
in particular carries no other handle's current tag (`write_closed`).
-/
namespace Nv.C03.Cow
open Nv.C03

structure Ctx where
  H0 : Heap
  cow : Nat
  root : Option Nat

def Good (c : Ctx) (id : Nat) : Prop := c.H0.size ≤ id ∨ ∃ r, c.root = some r ∧ Reach c.H0 r id

def K (c : Ctx) (s : Nat) (id : Nat) : Prop := Good c id ∧ id < s

theorem K.mono {c : Ctx} {s s' id : Nat} (h : K c s id) (hs : s ≤ s') : K c s' id := ⟨h.1, Nat.lt_of_lt_of_le h.2 hs⟩

structure Inv2 (c : Ctx) (H : Heap) : Prop where
  base : Inv c.H0 c.cow H
  nofree : H.free = [] ∧ H.cap = 0
  closed : ∀ y, Good c y → ∀ x ∈ (H.get y).children, K c H.size x

theorem Inv2.init (c : Ctx) (hfree : c.H0.free = [] ∧ c.H0.cap = 0)
    (hlive : ∀ r, c.root = some r → ∀ id, Reach c.H0 r id → id < c.H0.size) : Inv2 c c.H0 := by
  refine ⟨Inv.init _ _, hfree, fun y hy x hx => ?_⟩
  rcases hy with hy | ⟨r, hr, hreach⟩
  · rw [Heap.get, get_ge _ _ hy] at hx
    exact absurd hx List.not_mem_nil
  · have hx' : Reach c.H0 r x := Reach.step hreach hx
    exact ⟨Or.inr ⟨r, hr, hx'⟩, hlive r hr x hx'⟩

def Pres2 {α : Type} (c : Ctx) (s : Nat) (m : M α) (Q : α → Nat → Prop) : Prop :=
  ∀ H, Inv2 c H → H.size = s → Inv2 c (m H).2 ∧ s ≤ (m H).2.size ∧ Q (m H).1 (m H).2.size

variable {c : Ctx}

theorem Inv2.set {H : Heap} (hi : Inv2 c H) {id : Nat} (hw : Writable c.H0 c.cow id) {n : HNode}
    (hn : ∀ cc, n.cow = some cc → H.tag id = some cc ∨ cc = c.cow) (hcs : ∀ x ∈ n.children, K c H.size x) :
    Inv2 c ⟨H.nodes.set id n, H.free, H.cap⟩ := by
  refine ⟨hi.base.set hw hn hi.base.freeW _, hi.nofree, fun y hy x hx => ?_⟩
  have hsz : Heap.size ⟨H.nodes.set id n, H.free, H.cap⟩ = H.size := List.length_set ..
  rw [hsz]
  rw [Heap.get, getD_set] at hx
  split at hx
  · exact hcs x hx
  · exact hi.closed y hy x hx

theorem Inv2.push {H : Heap} (hi : Inv2 c H) : Inv2 c ⟨H.nodes ++ [⟨[], [], some c.cow⟩], H.free, H.cap⟩ := by
  refine ⟨hi.base.push [] [] hi.base.freeW _, hi.nofree, fun y hy x hx => ?_⟩
  rw [Heap.get, getD_push] at hx
  split at hx
  · cases hx
  · exact (hi.closed y hy x hx).mono (by rw [Heap.size, Heap.size, List.length_append]; exact Nat.le_add_right _ _)

/-- with an empty free list `newNode` allocates -/
theorem Inv2.newNode {H : Heap} (hi : Inv2 c H) :
    Inv2 c ((newNode c.cow) H).2 ∧ K c ((newNode c.cow) H).2.size ((newNode c.cow) H).1 ∧
      Writable c.H0 c.cow ((newNode c.cow) H).1 := by
  have hres : Cow.newNode c.cow H = (H.size, ⟨H.nodes ++ [⟨[], [], some c.cow⟩], H.free, H.cap⟩) := by
    unfold Cow.newNode; rw [hi.nofree.1]; rfl
  have hsz : Heap.size ⟨H.nodes ++ [⟨[], [], some c.cow⟩], H.free, H.cap⟩ = H.size + 1 := List.length_append ..
  rw [hres, hsz]
  exact ⟨hi.push, ⟨Or.inl hi.base.size, Nat.lt_succ_self _⟩, Or.inl hi.base.size⟩

/-- with a free list of capacity 0 nothing is ever parked -/
theorem Inv2.freeNodeT {H : Heap} (hi : Inv2 c H) (id : Nat) : Inv2 c ((freeNodeT c.cow id) H).2 := by
  unfold Cow.freeNodeT
  split
  · rename_i ho
    have hcap : ¬ H.free.length < H.cap := by rw [hi.nofree.2]; exact Nat.not_lt_zero _
    rw [if_neg hcap]
    exact hi.set (hi.base.tagW id ho) (fun _ h => nomatch h) (fun _ h => nomatch h)
  · exact hi

def closure (c : Ctx) : Rules c.cow where
  I := Inv2 c
  W := Writable c.H0 c.cow
  K := K c
  mono := K.mono
  rd := fun id hi => ⟨hi.base.tagW id, fun hk => hi.closed id hk.1⟩
  wr := fun {H id} is cs hi hw hcs => hi.set (n := ⟨is, cs, (H.get id).cow⟩) hw (fun _ h => Or.inl h) hcs
  new := fun hi => hi.newNode
  free := fun id hi => hi.freeNodeT id

theorem Pres2.freeNode {s : Nat} (id : Nat) : Pres2 c s (Cow.freeNode c.cow id) (fun _ s' => s' = s) :=
  Keeps.freeNode (R := closure c) id

theorem Pres2.mutableFor {s : Nat} (id : Nat) (hk : K c s id) :
    Pres2 c s (mutableFor c.cow id) (fun out s' => K c s' out ∧ Writable c.H0 c.cow out) :=
  Keeps.mutableFor (R := closure c) id hk

def AllK (c : Ctx) (s : Nat) (l : List Nat) : Prop := ∀ x ∈ l, K c s x

theorem AllK.append {s : Nat} {l l' : List Nat} (h : AllK c s l) (h' : AllK c s l') : AllK c s (l ++ l') :=
  Rules.All.append (R := closure c) h h'

theorem reach_good (H : Heap) (hi : Inv2 c H) (r : Nat) (hr : K c H.size r) :
    ∀ id, Reach H r id → K c H.size id := by
  intro id h
  induction h with
  | refl => exact hr
  | step _ hmem ih => exact hi.closed _ ih.1 _ hmem

/-- **Closure of the writer's own tree** (free list of capacity 0). After a write, every cell reachable from the
    writer's new root exists, and either carries the writer's tag or belonged to the writer's old tree and carries a
    tag it carried before. -/
theorem write_closed (t : HTree) (op : WOp) (H : Heap) (hfree : H.free = [] ∧ H.cap = 0)
    (hlive : ∀ r, t.root = some r → ∀ id, Reach H r id → id < H.size) :
    (((applyW t op) H).2.free = [] ∧ ((applyW t op) H).2.cap = 0) ∧
    ∀ r, ((applyW t op) H).1.1.root = some r → ∀ id, Reach ((applyW t op) H).2 r id →
      id < ((applyW t op) H).2.size ∧
      ∀ cc, ((applyW t op) H).2.tag id = some cc →
        cc = t.cow ∨ (H.tag id = some cc ∧ ∃ r0, t.root = some r0 ∧ Reach H r0 id) := by
  let c : Ctx := ⟨H, t.cow, t.root⟩
  have hk0 : ∀ r0, t.root = some r0 → K c H.size r0 :=
    fun r0 hr => ⟨Or.inr ⟨r0, hr, Reach.refl r0⟩, hlive r0 hr r0 (Reach.refl r0)⟩
  obtain ⟨P1, _, P3⟩ := Keeps.applyW (R := closure c) t op rfl hk0 H (Inv2.init c hfree hlive) rfl
  refine ⟨P1.nofree, fun r hr id hid => ?_⟩
  have hkid := reach_good _ P1 r (P3.1 r hr) id hid
  refine ⟨hkid.2, fun cc htag => ?_⟩
  rcases P1.base.tagF id cc htag with h0 | h0
  · rcases hkid.1 with hfresh | hold
    · exact absurd (tag_some_lt H id cc h0) (Nat.not_lt.2 hfresh)
    · exact Or.inr ⟨h0, hold⟩
  · exact Or.inl h0

end Nv.C03.Cow
