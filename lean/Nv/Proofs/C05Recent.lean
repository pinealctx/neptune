import Nv.Proofs.C05Hist
/-!
C05 — recency: a hit / overwrite moves the key to the front; a Set of a new key evicts at most the tail. One lemma
(`split_step`) says what a call on another key does to the nodes ahead of a node `x`; the bound on positions (`At`,
`ttl_recent_step_position`) and the bound by distinct keys touched (`Ahead`) both read it off.
-/
namespace Nv.C05

theorem touch_head {m : Mem} {n x : Node} (h : findKey n.key m.live = some x) :
    (m.touch n).live = n :: eraseKey n.key m.live := by
  simp [Mem.touch, h]

theorem insertNew_live {c : Cfg} (hc : c.indexOrder = .beforeEvict) (m : Mem) (n : Node) :
    (m.live.length < m.size ∧ (m.insertNew c n).live = n :: m.live) ∨
    (m.size ≤ m.live.length ∧ (m.insertNew c n).live = (n :: m.live).dropLast) := by
  rcases insertNew_cases c m n with ⟨hgt, e⟩ | ⟨_, hne, _⟩ | ⟨hle, e⟩
  · right; rw [e]; exact ⟨by omega, rfl⟩
  · exact absurd hc hne
  · left; rw [e]; exact ⟨by omega, rfl⟩

/-- a node with fewer than `size − 1` nodes ahead of it is not the evicted tail: it moves one place back -/
theorem insertNew_keeps {c : Cfg} (hc : c.indexOrder = .beforeEvict) {m : Mem} (n : Node) {x : Node}
    {pre post : List Node} (hl : m.live = pre ++ x :: post) (hroom : pre.length + 1 < m.size) :
    ∃ post', (m.insertNew c n).live = (n :: pre) ++ x :: post' := by
  rcases insertNew_live hc m n with ⟨_, e⟩ | ⟨hfull, e⟩
  · exact ⟨post, by rw [e, hl]; rfl⟩
  · have hpost : post ≠ [] := by
      intro hp; subst hp; rw [hl] at hfull; simp at hfull; omega
    refine ⟨post.dropLast, ?_⟩
    rw [e, hl]
    have : n :: (pre ++ x :: post) = (n :: pre ++ [x]) ++ post := by simp
    rw [this, List.dropLast_append_of_ne_nil hpost]; simp

theorem eraseKey_split {k : Key} {x : Node} (hne : x.key ≠ k) (pre post : List Node) :
    eraseKey k (pre ++ x :: post) = eraseKey k pre ++ x :: eraseKey k post := by
  rw [eraseKey_append, eraseKey, if_neg hne]

/-- `x` is on the recency list with at most `i` nodes in front of it -/
def At (m : Mem) (x : Node) (i : Nat) : Prop := ∃ pre post, m.live = pre ++ x :: post ∧ pre.length ≤ i

/-- `x` is on the recency list and every node ahead of it has its key in `S` -/
def Ahead (m : Mem) (x : Node) (S : List Key) : Prop :=
  ∃ pre post, m.live = pre ++ x :: post ∧ ∀ n ∈ pre, n.key ∈ S

/-- A call on another key `k` keeps `x` on the list as long as the nodes ahead of it, `k`'s own aside, leave room for
    one more. Ahead of `x` are then the old nodes, except that `k`'s node is taken out and at most put back once, at
    the front. (The invariant is closed under each index primitive on `k`, hence under the call.) -/
theorem split_step {c : Cfg} (hc : c.indexOrder = .beforeEvict) {m : Mem} (hb : Bounded m) {x : Node}
    {pre post : List Node} (hl : m.live = pre ++ x :: post) (now : Int) {op : Op} {k : Key} (hk : opKey op = some k)
    (hne : x.key ≠ k) (hroom : (eraseKey k pre).length + 1 < m.size) :
    ∃ pre' post', (m.step c now op).1.live = pre' ++ x :: post' ∧ eraseKey k pre' = eraseKey k pre ∧
      pre'.length ≤ pre.length + 1 := by
  have key : ∀ {k'}, opKey op = some k' → k' = k := fun e => Option.some.inj (e.symm.trans hk)
  have hle := eraseKey_length_le k pre
  refine (step_ind (c := c) (op := op) (fun m' => Bounded m' ∧ m'.size = m.size ∧ ∃ pre' post',
    m'.live = pre' ++ x :: post' ∧ eraseKey k pre' = eraseKey k pre ∧ pre'.length ≤ pre.length + 1)
    ?_ ?_ ?_ ?_ ⟨hb, rfl, pre, post, hl, rfl, Nat.le_succ _⟩ now).2.2
  · rintro m' k' hk' ⟨hb', hs, pre', post', hl', he, -⟩
    rw [key hk']
    refine ⟨bounded_removeKey hb' k, hs, eraseKey k pre', eraseKey k post', ?_, by rw [eraseKey_idem, he],
      by rw [he]; omega⟩
    rw [Mem.removeKey, hl', eraseKey_split hne]
  · rintro m' n y hk' hy ⟨hb', hs, pre', post', hl', he, -⟩
    have hnk : n.key = k := key hk'
    refine ⟨bounded_touch hb' hy, (size_touch m' n).trans hs, n :: eraseKey k pre', eraseKey k post', ?_, ?_, ?_⟩
    · rw [lookup_of_bounded hb'] at hy
      rw [touch_head hy, hl', hnk, eraseKey_split hne]; rfl
    · rw [eraseKey, if_pos hnk, eraseKey_idem, he]
    · rw [he]; simp only [List.length_cons]; omega
  · rintro m' n hk' hnew ⟨hb', hs, pre', post', hl', he, -⟩
    have hnk : n.key = k := key hk'
    -- the key is new, so none of the nodes ahead of `x` carries it
    have hfree : eraseKey k pre' = pre' := eraseKey_of_not_mem (fun hm => by
      rw [lookup_of_bounded hb', hnk, findKey_none_iff, hl'] at hnew
      exact hnew (by simp [keys] at hm ⊢; exact Or.inl hm))
    obtain ⟨post'', e⟩ := insertNew_keeps hc n hl' (by rw [← hfree, he, hs]; exact hroom)
    refine ⟨bounded_insertNew hc hb' n, (size_insertNew c m' n).trans hs, n :: pre', post'', e, ?_, ?_⟩
    · rw [eraseKey, if_pos hnk, he]
    · rw [← hfree, he]; simp only [List.length_cons]; omega
  · intro e; rw [e] at hk; cases hk

/-! ### the full recency clause: the nodes ahead of `x` are among the distinct keys touched since -/

theorem mem_addKey {k a : Key} {S : List Key} : a ∈ addKey k S ↔ a = k ∨ a ∈ S := by
  unfold addKey; split
  · rename_i h; constructor
    · intro ha; exact Or.inr ha
    · rintro (e | ha)
      · subst e; exact h
      · exact ha
  · simp

theorem nodup_addKey {k : Key} {S : List Key} (h : S.Nodup) : (addKey k S).Nodup := by
  unfold addKey; split
  · exact h
  · rename_i hk; exact List.nodup_cons.2 ⟨hk, h⟩

theorem length_addKey_ge (k : Key) (S : List Key) : S.length ≤ (addKey k S).length := by
  unfold addKey; split <;> simp

theorem touchedBy_nodup : ∀ (ops : List Op) (S : List Key), S.Nodup → (touchedBy S ops).Nodup := by
  intro ops
  induction ops with
  | nil => intro S h; exact h
  | cons op ops ih =>
    intro S h
    simp only [touchedBy]
    apply ih
    split
    · exact nodup_addKey h
    · exact h

theorem touchedBy_length_ge : ∀ (ops : List Op) (S : List Key), S.length ≤ (touchedBy S ops).length := by
  intro ops
  induction ops with
  | nil => intro S; exact Nat.le_refl _
  | cons op ops ih =>
    intro S
    simp only [touchedBy]
    split
    · exact Nat.le_trans (length_addKey_ge _ S) (ih _)
    · exact ih _

/-- one call that neither addresses the key of `x` nor is a Clear keeps `x` on the list, with only touched keys ahead:
    the keys ahead of `x` are distinct and lie in `S`, so with the call's key there are at most `|addKey k S|` of them -/
theorem ahead_step {c : Cfg} (hc : c.indexOrder = .beforeEvict) {m : Mem} (hwf : WF m) (hb : Bounded m) {x : Node}
    {S : List Key} (h : Ahead m x S) (now : Int) (op : Op) (hop : opKey op ≠ some x.key) (hcl : op ≠ .clear)
    (hcard : (match opKey op with | some k => addKey k S | none => S).length < m.size) :
    Ahead (m.step c now op).1 x (match opKey op with | some k => addKey k S | none => S) := by
  obtain ⟨pre, post, hl, hS⟩ := h
  cases hk : opKey op with
  | none =>
    cases op with
    | clear => exact absurd rfl hcl
    | tick _ => exact ⟨pre, post, hl, hS⟩
    | _ => cases hk
  | some k =>
    rw [hk] at hcard
    simp only at hcard ⊢
    have hpre : (keys pre).Nodup := by
      have := (wf_iff.1 hwf).1
      rw [hl] at this
      exact (List.nodup_append.1 (by simpa [keys] using this)).1
    have hroom : (eraseKey k pre).length + 1 < m.size := by
      have hnd : (k :: keys (eraseKey k pre)).Nodup :=
        List.nodup_cons.2 ⟨fun hm => (mem_keys_eraseKey.1 hm).2 rfl, (keys_eraseKey_sublist k pre).nodup hpre⟩
      have := hnd.length_le_of_subset (l₂ := addKey k S) (fun a ha => by
        rcases List.mem_cons.1 ha with e | e
        · exact mem_addKey.2 (Or.inl e)
        · obtain ⟨y, hy, rfl⟩ := List.mem_map.1 e
          exact mem_addKey.2 (Or.inr (hS y (mem_eraseKey.1 hy).1)))
      simp only [List.length_cons, keys, List.length_map] at this
      omega
    obtain ⟨pre', post', hl', he, -⟩ := split_step hc hb hl now hk (fun e => hop (by rw [hk, e])) hroom
    refine ⟨pre', post', hl', fun a ha => ?_⟩
    by_cases hak : a.key = k
    · exact mem_addKey.2 (Or.inl hak)
    · have : a ∈ eraseKey k pre := he ▸ mem_eraseKey.2 ⟨ha, hak⟩
      exact mem_addKey.2 (Or.inr (hS a (mem_eraseKey.1 this).1))

theorem ahead_lookup {m : Mem} (hwf : WF m) {x : Node} {S : List Key} (h : Ahead m x S) : m.lookup x.key = some x := by
  obtain ⟨pre, post, hl, -⟩ := h
  have hnd : (keys m.live).Nodup := (wf_iff.1 hwf).1
  rw [hl] at hnd
  simp only [keys, List.map_append, List.map_cons] at hnd
  have hnot : x.key ∉ keys pre := fun hm => (List.nodup_append.1 hnd).2.2 x.key hm x.key (by simp) rfl
  simp [Mem.lookup, hl, findKey_append, findKey_none_iff.2 hnot, findKey]

theorem ahead_run {c : Cfg} (hc : c.indexOrder = .beforeEvict) {x : Node} : ∀ (ops : List Op) (s : MSys) (S : List Key),
    WF s.mem → Bounded s.mem → Ahead s.mem x S → (∀ op ∈ ops, opKey op ≠ some x.key ∧ op ≠ .clear) →
    (touchedBy S ops).length < s.mem.size → Ahead (final (MSys.step c) s ops).mem x (touchedBy S ops) := by
  intro ops
  induction ops with
  | nil => intro s S _ _ h _ _; exact h
  | cons op ops ih =>
    intro s S hwf hb h hops hcard
    rw [final_cons]
    simp only [touchedBy] at hcard ⊢
    obtain ⟨hm, _⟩ := msys_step_mem c s op
    apply ih
    · rw [hm]; exact wf_step hwf _ _
    · rw [hm]; exact bounded_step hc hb _ _
    · rw [hm]
      exact ahead_step hc hwf hb h _ op (hops op (by simp)).1 (hops op (by simp)).2
        (Nat.lt_of_le_of_lt (touchedBy_length_ge ops _) hcard)
    · intro o ho; exact hops o (by simp [ho])
    · rw [hm, step_size]; exact hcard

theorem set_head {c : Cfg} (hc : c.indexOrder = .beforeEvict) {m : Mem} (hb : Bounded m) (hs : 1 ≤ m.size) (now : Int)
    (k : Key) (v : Val) (o : SetOpt) (hok : (m.set c now k v o).2 = .ok) :
    ∃ x rest, (m.set c now k v o).1.live = x :: rest ∧ x.key = k := by
  have hbp : Bounded (m.preSet c now k) := by
    rcases preSet_cases c m now k with e | e <;> rw [e]
    · exact hb
    · exact bounded_removeKey hb k
  have hsz := size_preSet c m now k
  rw [Mem.set] at hok ⊢
  generalize m.preSet c now k = m' at hbp hsz hok
  cases hl : m'.lookup k with
  | none =>
    rw [setCore_absent c now v o hl]
    rcases insertNew_live hc m' ⟨k, v, deadline now (setTtl m' o)⟩ with ⟨_, e⟩ | ⟨hfull, e⟩
    · exact ⟨_, _, e, rfl⟩
    · have hne : m'.live ≠ [] := by
        intro h0; rw [h0] at hfull; simp at hfull; omega
      rw [List.dropLast_cons_of_ne_nil hne] at e
      exact ⟨_, _, e, rfl⟩
  | some y =>
    cases hm : o.mustNotExist with
    | true => rw [setCore_exists c now v hl hm] at hok; cases hok
    | false =>
      rw [setCore_overwrite c now v hl hm]
      rw [lookup_of_bounded hbp] at hl
      exact ⟨_, _, touch_head (x := y) hl, rfl⟩

theorem writesTtl_of_opKey {k : Key} {op : Op} (h : opKey op ≠ some k) : writesTtl k op = false := by
  cases op with
  | set k' v o => simp only [writesTtl, decide_eq_false_iff_not]; intro e; exact h (by simp [opKey, e])
  | get k' o =>
    have : ¬ k' = k := fun e => h (by simp [opKey, e])
    simp [writesTtl, this]
  | remove _ => rfl
  | clear => rfl
  | tick _ => rfl

theorem recent_kept {c : Cfg} (hc : c.indexOrder = .beforeEvict) (s : MSys) (hwf : WF s.mem) (hb : Bounded s.mem)
    {x : Node} {S : List Key} (hx : Ahead s.mem x S) (ops : List Op)
    (hops : ∀ op ∈ ops, opKey op ≠ some x.key ∧ op ≠ .clear) (hcard : (touchedBy S ops).length < s.mem.size) :
    (final (MSys.step c) s ops).mem.lookup x.key = some x :=
  ahead_lookup (msys_mem_inv c WF (fun _ now op h => wf_step h now op) ops s hwf)
    (ahead_run hc ops s S hwf hb hx hops hcard)

/-- the Set put `k` at the head, so it is not evicted, and its deadline has not passed -/
theorem live_recent_hits {c : Cfg} (hc : c.indexOrder = .beforeEvict) (s1 : MSys) (hwf : WF s1.mem)
    (hb : Bounded s1.mem) (hs : 1 ≤ s1.mem.size) (mid : List Op) (k : Key) (v : Val) (o : SetOpt) (g : GetOpt)
    (hkeep : o.keepTTL = false) (hd : 0 < o.ttl.getD s1.mem.dttl)
    (hmid : ∀ op ∈ mid, opKey op ≠ some k ∧ op ≠ .clear) (hcard : (touchedBy [] mid).length < s1.mem.size)
    (hok : (MSys.step c s1 (.set k v o)).2 = .ok) :
    let s3 := final (MSys.step c) (MSys.step c s1 (.set k v o)).1 mid
    secOf s3.clock ≤ secOf s1.clock + o.ttl.getD s1.mem.dttl → (MSys.step c s3 (.get k g)).2 = .value v := by
  intro s3 hle
  obtain ⟨hm2, ho2⟩ := msys_step_mem c s1 (.set k v o)
  obtain ⟨x, rest, hhead, rfl⟩ := set_head hc hb hs (secOf s1.clock) k v o (ho2 ▸ hok)
  have hkept : s3.mem.lookup x.key = some x :=
    recent_kept hc _ (by rw [hm2]; exact wf_step hwf _ _) (by rw [hm2]; exact bounded_step hc hb _ _)
      (S := []) ⟨[], rest, by rw [hm2]; exact hhead, by simp⟩ mid hmid (by rw [hm2, step_size]; exact hcard)
  rcases (elapsed_history s1 hwf mid x.key v o g hkeep hd (fun op hop => writesTtl_of_opKey (hmid op hop).1) hok).2 hle
    with h | ⟨_, h⟩
  · exact h
  · rw [hkept] at h; cases h

end Nv.C05
