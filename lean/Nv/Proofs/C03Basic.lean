import Nv.Spec.C03
/-!
C03 — the model works with indices (`take i`, `drop i`, `getD i`, `setAt`, …). The proofs work with lists written
as `A ++ rest` where `A.length = i`: on such a list every slice operation computes by one rewrite, and the
in-order list of a node `(A ++ is, Ac ++ c :: cs)` falls apart into the part left of child `c`, the child,
and the part right of it.
-/
namespace Nv.C03

theorem length_take_le {α} (l : List α) (i : Nat) (hi : i ≤ l.length) : (l.take i).length = i :=
  List.length_take_of_le hi

theorem take_pre {α} (A r : List α) (i : Nat) (hA : A.length = i) : (A ++ r).take i = A := List.take_left' hA
theorem drop_pre {α} (A r : List α) (i : Nat) (hA : A.length = i) : (A ++ r).drop i = r := List.drop_left' hA
theorem take_pre1 {α} (A r : List α) (a : α) (i : Nat) (hA : A.length = i) : (A ++ a :: r).take (i + 1) = A ++ [a] := by
  rw [List.append_cons]; exact take_pre _ _ _ (by simp [hA])
theorem drop_pre1 {α} (A r : List α) (a : α) (i : Nat) (hA : A.length = i) : (A ++ a :: r).drop (i + 1) = r := by
  rw [List.append_cons]; exact drop_pre _ _ _ (by simp [hA])
theorem drop_pre2 {α} (A r : List α) (a b : α) (i : Nat) (hA : A.length = i) :
    (A ++ a :: b :: r).drop (i + 1 + 1) = r := by
  rw [List.append_cons]; exact drop_pre1 _ _ _ _ (by simp [hA])
theorem getD_pre {α} (A r : List α) (a d : α) (i : Nat) (hA : A.length = i) : (A ++ a :: r).getD i d = a := by
  subst hA; simp [List.getD]
theorem getD_pre1 {α} (A r : List α) (a b d : α) (i : Nat) (hA : A.length = i) :
    (A ++ a :: b :: r).getD (i + 1) d = b := by
  rw [List.append_cons]; exact getD_pre _ _ _ _ _ (by simp [hA])

theorem setAt_pre {α} (A r : List α) (a x : α) (i : Nat) (hA : A.length = i) : setAt (A ++ a :: r) i x = A ++ x :: r := by
  rw [setAt, take_pre _ _ _ hA, drop_pre1 _ _ _ _ hA]
theorem removeAt_pre {α} (A r : List α) (a : α) (i : Nat) (hA : A.length = i) : removeAt (A ++ a :: r) i = A ++ r := by
  rw [removeAt, take_pre _ _ _ hA, drop_pre1 _ _ _ _ hA]

theorem take_succ_setAt {α} (l : List α) (j : Nat) (a : α) (hj : j ≤ l.length) :
    (setAt l j a).take (j + 1) = l.take j ++ [a] := take_pre1 _ _ _ _ (length_take_le l j hj)
theorem drop_succ_setAt {α} (l : List α) (j : Nat) (a : α) (hj : j ≤ l.length) :
    (setAt l j a).drop (j + 1) = l.drop (j + 1) := drop_pre1 _ _ _ _ (length_take_le l j hj)

theorem getD_eq_getElem {α} (l : List α) (i : Nat) (d : α) (h : i < l.length) : l.getD i d = l[i] := by
  simp [List.getD, h]

theorem getD_mem {α} (l : List α) (i : Nat) (d : α) (h : i < l.length) : l.getD i d ∈ l := by
  rw [getD_eq_getElem l i d h]; exact List.getElem_mem h

theorem list_split_at {α} (l : List α) (i : Nat) (d : α) (h : i < l.length) :
    l = l.take i ++ l.getD i d :: l.drop (i + 1) := by
  rw [getD_eq_getElem l i d h, List.getElem_cons_drop h, List.take_append_drop]

theorem exists_snoc {α} {l : List α} (h : l ≠ []) : ∃ l' b, l = l' ++ [b] :=
  ⟨l.dropLast, l.getLast h, (List.dropLast_concat_getLast h).symm⟩

theorem split_of_getElem? {α} {l : List α} {i : Nat} {y : α} (h : l[i]? = some y) :
    l = l.take i ++ y :: l.drop (i + 1) := by
  obtain ⟨hi, rfl⟩ := List.getElem?_eq_some_iff.1 h
  rw [List.getElem_cons_drop hi, List.take_append_drop]

theorem length_take_eq {α β} {is : List α} {cs : List β} {i : Nat} (hl : cs.length = is.length + 1) (hi : i ≤ is.length) :
    (cs.take i).length = (is.take i).length := by
  rw [length_take_le _ _ hi, length_take_le _ _ (hl ▸ Nat.le_succ_of_le hi)]

theorem setAt_length {α} (l : List α) (i : Nat) (a : α) (h : i < l.length) : (setAt l i a).length = l.length := by
  rw [setAt, List.length_append, List.length_take_of_le (Nat.le_of_lt h), List.length_cons, List.length_drop]; omega

theorem insertAt_length {α} (l : List α) (i : Nat) (a : α) (h : i ≤ l.length) : (insertAt l i a).length = l.length + 1 := by
  rw [insertAt, List.length_append, List.length_take_of_le h, List.length_cons, List.length_drop]; omega

@[simp] theorem items_mk (is : List Item) (cs : List Node) : (Node.mk is cs).items = is := rfl
@[simp] theorem children_mk (is : List Item) (cs : List Node) : (Node.mk is cs).children = cs := rfl

@[simp] theorem inorder_mk (is : List Item) (cs : List Node) : (Node.mk is cs).inorder = interleave is cs := by
  simp [Node.inorder]
@[simp] theorem interleave_nil_right (is : List Item) : interleave is [] = is := by
  cases is <;> simp [interleave]
@[simp] theorem interleave_nil_cons (c : Node) (cs : List Node) : interleave [] (c :: cs) = c.inorder := by
  simp [interleave]
@[simp] theorem interleave_cons_cons (i : Item) (is : List Item) (c : Node) (cs : List Node) :
    interleave (i :: is) (c :: cs) = c.inorder ++ i :: interleave is cs := by
  simp [interleave]

/-- `c₀ i₀ c₁ i₁ …` : the part of a node left of a child -/
def flatL : List Item → List Node → List Item
  | i :: is, c :: cs => c.inorder ++ i :: flatL is cs
  | _, _ => []

@[simp] theorem flatL_nil_left (cs : List Node) : flatL [] cs = [] := rfl
@[simp] theorem flatL_nil_right (is : List Item) : flatL is [] = [] := by cases is <;> rfl
@[simp] theorem flatL_cons_cons (i : Item) (is : List Item) (c : Node) (cs : List Node) :
    flatL (i :: is) (c :: cs) = c.inorder ++ i :: flatL is cs := rfl

/-- `i₀ c₁ i₁ c₂ …` : what follows a child in its parent's in-order list -/
def rightPart : List Item → List Node → List Item
  | [], _ => []
  | y :: rest, cs => y :: interleave rest cs

@[simp] theorem rightPart_nil (cs : List Node) : rightPart [] cs = [] := rfl
@[simp] theorem rightPart_cons (y : Item) (rest : List Item) (cs : List Node) :
    rightPart (y :: rest) cs = y :: interleave rest cs := rfl

theorem interleave_child_first (is : List Item) (c : Node) (cs : List Node) :
    interleave is (c :: cs) = c.inorder ++ rightPart is cs := by
  cases is <;> simp

theorem interleave_prefix (A : List Item) (Ac : List Node) (is : List Item) (cs : List Node)
    (h : Ac.length = A.length) : interleave (A ++ is) (Ac ++ cs) = flatL A Ac ++ interleave is cs := by
  induction A generalizing Ac with
  | nil =>
    obtain rfl := List.eq_nil_of_length_eq_zero h
    rfl
  | cons a A ih =>
    cases Ac with
    | nil => simp at h
    | cons d Ac => simp [ih Ac (by simpa using h)]

theorem interleave_decomp (A : List Item) (Ac : List Node) (is : List Item) (c : Node) (cs : List Node)
    (h : Ac.length = A.length) :
    interleave (A ++ is) (Ac ++ c :: cs) = flatL A Ac ++ c.inorder ++ rightPart is cs := by
  rw [interleave_prefix A Ac is (c :: cs) h, interleave_child_first, List.append_assoc]

theorem interleave_decomp2 (A : List Item) (Ac : List Node) (sep : Item) (is : List Item) (a b : Node)
    (cs : List Node) (h : Ac.length = A.length) :
    interleave (A ++ sep :: is) (Ac ++ a :: b :: cs) =
      flatL A Ac ++ (a.inorder ++ sep :: b.inorder) ++ rightPart is cs := by
  rw [interleave_prefix A Ac _ _ h, interleave_cons_cons, interleave_child_first]
  simp

theorem interleave_cut (ai : List Item) (ac : List Node) (bi : List Item) (bc : List Node)
    (h : ac.length = ai.length + 1) : interleave (ai ++ bi) (ac ++ bc) = interleave ai ac ++ rightPart bi bc := by
  induction ai generalizing ac with
  | nil =>
    cases ac with
    | nil => simp at h
    | cons c ac =>
      obtain rfl := List.eq_nil_of_length_eq_zero (Nat.succ.inj h)
      simp [interleave_child_first]
  | cons a ai ih =>
    cases ac with
    | nil => simp at h
    | cons c ac => simp [ih ac (by simpa using h)]

theorem interleave_append (ai : List Item) (ac : List Node) (sep : Item) (bi : List Item) (bc : List Node)
    (h : ac.length = ai.length + 1) :
    interleave (ai ++ sep :: bi) (ac ++ bc) = interleave ai ac ++ sep :: interleave bi bc :=
  interleave_cut ai ac (sep :: bi) bc h

theorem flatL_append_single (is : List Item) (cs : List Node) (i : Item) (c : Node) (h : cs.length = is.length) :
    flatL (is ++ [i]) (cs ++ [c]) = flatL is cs ++ c.inorder ++ [i] := by
  induction is generalizing cs with
  | nil => cases cs with
    | nil => simp
    | cons _ _ => simp at h
  | cons j js ih => cases cs with
    | nil => simp at h
    | cons d ds => simp [ih ds (by simpa using h)]

theorem interleave_split (n : Nat) (is : List Item) (cs : List Node) (h : cs.length = is.length + 1) (hn : n ≤ is.length) :
    interleave is cs = flatL (is.take n) (cs.take n) ++ interleave (is.drop n) (cs.drop n) := by
  have := interleave_prefix (is.take n) (cs.take n) (is.drop n) (cs.drop n) (length_take_eq h hn)
  rwa [List.take_append_drop, List.take_append_drop] at this

theorem items_sublist_inorder (is : List Item) (cs : List Node) : List.Sublist is (interleave is cs) := by
  induction is generalizing cs with
  | nil => exact List.nil_sublist _
  | cons i is ih =>
    cases cs with
    | nil => simp
    | cons c cs =>
      rw [interleave_cons_cons]
      exact (List.Sublist.cons_cons i (ih cs)).trans (List.sublist_append_right _ _)

theorem mem_items_inorder (is : List Item) (cs : List Node) (x : Item) (hx : x ∈ is) : x ∈ interleave is cs :=
  (items_sublist_inorder is cs).subset hx

theorem mem_items_inorder' (n : Node) (x : Item) (hsh : n.children = [] ∨ n.children.length = n.items.length + 1)
    (hx : x ∈ n.items) : x ∈ n.inorder := by
  cases n with
  | mk is cs => simpa using mem_items_inorder is cs x hx

theorem inorder_ne_nil (n : Node) (h : 1 ≤ n.items.length) : n.inorder ≠ [] := by
  cases n with
  | mk is cs =>
    cases is with
    | nil => simp at h
    | cons a _ => exact List.ne_nil_of_mem (by simpa using mem_items_inorder _ cs a List.mem_cons_self)

theorem Sorted.append_left {a b : List Item} (h : Sorted (a ++ b)) : Sorted a := (List.pairwise_append.1 h).1
theorem Sorted.append_right {a b : List Item} (h : Sorted (a ++ b)) : Sorted b := (List.pairwise_append.1 h).2.1
theorem Sorted.lt_of_append {a b : List Item} (h : Sorted (a ++ b)) {x y : Item} (hx : x ∈ a) (hy : y ∈ b) :
    x.key < y.key := (List.pairwise_append.1 h).2.2 x hx y hy
theorem Sorted.tail {a : Item} {l : List Item} (h : Sorted (a :: l)) : Sorted l := (List.pairwise_cons.1 h).2
theorem Sorted.head_lt {a : Item} {l : List Item} (h : Sorted (a :: l)) {y : Item} (hy : y ∈ l) : a.key < y.key :=
  (List.pairwise_cons.1 h).1 y hy

theorem Sorted.le_of_le_head {a : Item} {l : List Item} (h : Sorted (a :: l)) {k : Int} (hk : k ≤ a.key) {x : Item}
    (hx : x ∈ a :: l) : k ≤ x.key := by
  rcases List.mem_cons.1 hx with rfl | hx
  · exact hk
  · exact Int.le_trans hk (Int.le_of_lt (h.head_lt hx))

theorem Sorted.lt_mid {L R : List Item} {y : Item} (h : Sorted (L ++ y :: R)) :
    (∀ a ∈ L, a.key < y.key) ∧ (∀ b ∈ R, y.key < b.key) :=
  ⟨fun _ ha => h.lt_of_append ha List.mem_cons_self, fun _ hb => h.append_right.head_lt hb⟩

theorem sorted_of_sublist {a b : List Item} (h : List.Sublist a b) (hs : Sorted b) : Sorted a :=
  List.Pairwise.sublist h hs

theorem sorted_child : ∀ (is : List Item) (cs : List Node), Sorted (interleave is cs) → ∀ c ∈ cs,
    cs.length = is.length + 1 → Sorted c.inorder := by
  intro is
  induction is with
  | nil =>
    intro cs h c hc hl
    obtain ⟨d, rfl⟩ := List.length_eq_one_iff.1 hl
    obtain rfl := List.mem_singleton.1 hc
    exact h
  | cons i is ih =>
    intro cs h c hc hl
    cases cs with
    | nil => simp at hc
    | cons d ds =>
      rw [interleave_cons_cons] at h
      rcases List.mem_cons.1 hc with rfl | hc
      · exact h.append_left
      · exact ih ds h.append_right.tail c hc (by simpa using hl)

theorem sorted_items (is : List Item) (cs : List Node) (h : Sorted (interleave is cs)) : Sorted is :=
  sorted_of_sublist (items_sublist_inorder is cs) h

theorem sorted_of_sortedKeys : ∀ (l : List Item), sortedKeys l = true → Sorted l
  | [], _ => List.Pairwise.nil
  | [_], _ => by simp [Sorted]
  | a :: b :: rest, h => by
    simp only [sortedKeys, Bool.and_eq_true, decide_eq_true_eq] at h
    have ih := sorted_of_sortedKeys (b :: rest) h.2
    refine List.pairwise_cons.2 ⟨?_, ih⟩
    intro y hy
    rcases List.mem_cons.1 hy with rfl | hy
    · exact h.1
    · have := ih.head_lt hy; omega

theorem sortedKeys_of_sorted : ∀ (l : List Item), Sorted l → sortedKeys l = true
  | [], _ => rfl
  | [_], _ => rfl
  | a :: b :: rest, h => by
    simp only [sortedKeys, Bool.and_eq_true, decide_eq_true_eq]
    exact ⟨h.head_lt (by simp), sortedKeys_of_sorted (b :: rest) h.tail⟩

theorem flatL_lt (s : Int) (is : List Item) (cs : List Node) (rest : List Item)
    (hs : Sorted (flatL is cs ++ rest)) (hi : ∀ i ∈ is, i.key < s) : ∀ x ∈ flatL is cs, x.key < s := by
  induction is generalizing cs with
  | nil => simp
  | cons i is ih =>
    cases cs with
    | nil => simp
    | cons c cs =>
      intro x hx
      simp only [flatL_cons_cons, List.mem_append, List.mem_cons] at hx
      simp only [flatL_cons_cons, List.append_assoc, List.cons_append] at hs
      rcases hx with hx | rfl | hx
      · exact Int.lt_trans (hs.lt_of_append hx List.mem_cons_self) (hi i List.mem_cons_self)
      · exact hi _ List.mem_cons_self
      · exact ih cs hs.append_right.tail (fun j hj => hi j (List.mem_cons_of_mem _ hj)) x hx

theorem mem_rightPart_gt (s : Int) (is : List Item) (cs : List Node) (pre : List Item)
    (hs : Sorted (pre ++ rightPart is cs)) (hgt : ∀ x ∈ is, s < x.key) : ∀ x ∈ rightPart is cs, s < x.key := by
  cases is with
  | nil => simp
  | cons y rest =>
    intro x hx
    have hy := hgt y (by simp)
    rcases List.mem_cons.1 hx with rfl | hx
    · exact hy
    · have := hs.append_right.head_lt hx; omega

theorem sides_of_sorted (k : Int) (A : List Item) (Ac : List Node) (is : List Item) (c : Node) (cs : List Node)
    (h : Ac.length = A.length) (hs : Sorted (interleave (A ++ is) (Ac ++ c :: cs)))
    (hlt : ∀ a ∈ A, a.key < k) (hgt : ∀ b ∈ is, k < b.key) :
    (∀ a ∈ flatL A Ac, a.key < k) ∧ (∀ b ∈ rightPart is cs, k < b.key) := by
  rw [interleave_decomp A Ac is c cs h] at hs
  exact ⟨flatL_lt k A Ac _ (by rwa [List.append_assoc] at hs) hlt, mem_rightPart_gt k is cs _ hs hgt⟩

theorem findIdx_le (is : List Item) (k : Int) : (findIdx is k).1 ≤ is.length := by
  fun_induction findIdx is k <;> simp <;> omega

theorem findIdx_take_lt (is : List Item) (k : Int) : ∀ x ∈ is.take (findIdx is k).1, x.key < k := by
  fun_induction findIdx is k with
  | case1 => simp
  | case2 => simp
  | case3 => simp
  | case4 y ys k h1 h2 ih =>
    intro x hx
    rcases List.mem_cons.1 hx with rfl | hx
    · omega
    · exact ih x hx

theorem findIdx_drop_ge (is : List Item) (k : Int) (hs : Sorted is) : ∀ x ∈ is.drop (findIdx is k).1, k ≤ x.key := by
  fun_induction findIdx is k with
  | case1 => simp
  | case2 y ys k h1 => exact fun x hx => hs.le_of_le_head (Int.le_of_lt h1) hx
  | case3 y ys h1 => exact fun x hx => hs.le_of_le_head (Int.le_refl _) hx
  | case4 y ys k h1 h2 ih => exact ih hs.tail

theorem findIdx_found (is : List Item) (k : Int) :
    (findIdx is k).2 = true ↔ ∃ x, is[(findIdx is k).1]? = some x ∧ x.key = k := by
  fun_induction findIdx is k with
  | case1 => simp
  | case2 y ys k h1 => simp [Int.ne_of_gt h1]
  | case3 => simp
  | case4 y ys k h1 h2 ih => simpa using ih

theorem findIdx_not_found_gt (is : List Item) (k : Int) (hs : Sorted is) (hf : (findIdx is k).2 = false) :
    ∀ x ∈ is.drop (findIdx is k).1, k < x.key := by
  fun_induction findIdx is k with
  | case1 => simp
  | case2 y ys k h1 => exact fun x hx => hs.le_of_le_head (k := k + 1) h1 hx
  | case3 => simp at hf
  | case4 y ys k h1 h2 ih => exact ih hs.tail hf

theorem findIdx_not_found_ne (is : List Item) (k : Int) (hs : Sorted is) (hf : (findIdx is k).2 = false) :
    ∀ x ∈ is, x.key ≠ k := by
  intro x hx
  rw [← List.take_append_drop (findIdx is k).1 is] at hx
  rcases List.mem_append.1 hx with hx | hx
  · exact Int.ne_of_lt (findIdx_take_lt is k x hx)
  · exact Int.ne_of_gt (findIdx_not_found_gt is k hs hf x hx)

theorem findIdx_append (k : Int) (B : List Item) (hge : ∀ b ∈ B, k ≤ b.key) (A : List Item)
    (hlt : ∀ a ∈ A, a.key < k) : (findIdx (A ++ B) k).1 = A.length := by
  induction A with
  | nil =>
    cases B with
    | nil => rfl
    | cons y ys =>
      rw [List.nil_append, findIdx]
      by_cases h : k < y.key
      · rw [if_pos h]; rfl
      · rw [if_neg h, if_pos (Int.le_antisymm (Int.not_lt.1 h) (hge y List.mem_cons_self))]; rfl
  | cons y A ih =>
    have hy := hlt y List.mem_cons_self
    rw [List.cons_append, findIdx, if_neg (Int.not_lt.2 (Int.le_of_lt hy)), if_neg (Int.ne_of_lt hy),
      ih (fun a ha => hlt a (List.mem_cons_of_mem _ ha))]
    rfl

def Shape : Nat → Node → Prop
  | 0, .mk _ cs => cs = []
  | h + 1, .mk is cs => cs.length = is.length + 1 ∧ ∀ c ∈ cs, Shape h c

/-- the invariant of a node's children (Prop form of the recursive part of `nodeOk`) -/
def KidsOk (mn mx : Nat) : Nat → Node → Prop
  | 0, n => n.children = []
  | h + 1, n => n.children.length = n.items.length + 1 ∧ ∀ c ∈ n.children, nodeOk mn mx h c = true

theorem nodeOk_iff (mn mx : Nat) (h : Nat) (n : Node) :
    nodeOk mn mx h n = true ↔ mn ≤ n.items.length ∧ n.items.length ≤ mx ∧ KidsOk mn mx h n := by
  cases n with
  | mk is cs =>
    cases h with
    | zero =>
      simp only [nodeOk, KidsOk, Node.items, Node.children, Bool.and_eq_true, List.isEmpty_iff, decide_eq_true_eq]
      constructor
      · rintro ⟨⟨a, b⟩, c⟩; exact ⟨b, c, a⟩
      · rintro ⟨a, b, c⟩; exact ⟨⟨c, a⟩, b⟩
    | succ h =>
      simp only [nodeOk, KidsOk, Node.items, Node.children, Bool.and_eq_true, decide_eq_true_eq, List.all_eq_true]
      constructor
      · rintro ⟨⟨⟨a, b⟩, c⟩, d⟩; exact ⟨b, c, a, d⟩
      · rintro ⟨a, b, c, d⟩; exact ⟨⟨⟨c, a⟩, b⟩, d⟩

theorem rootOk_iff (mn mx : Nat) (r : Node) :
    rootOk mn mx r = true ↔
      r.items.length ≤ mx ∧ KidsOk mn mx (height r) r ∧ (r.children ≠ [] → 1 ≤ r.items.length) := by
  cases r with
  | mk is cs =>
    cases cs with
    | nil => simp [rootOk, KidsOk, height, Node.items, Node.children]
    | cons c cs =>
      simp only [rootOk, KidsOk, height, Node.items, Node.children, Bool.and_eq_true, decide_eq_true_eq,
        List.all_eq_true]
      constructor
      · rintro ⟨⟨⟨a, b⟩, c'⟩, d⟩; exact ⟨b, ⟨c', d⟩, fun _ => a⟩
      · rintro ⟨a, ⟨b, c'⟩, d⟩; exact ⟨⟨⟨d (by simp), a⟩, b⟩, c'⟩

theorem lt_full (mn : Nat) : mn < 2 * mn + 1 := by omega

theorem nodeOk_of_length_eq {mn h : Nat} {n : Node} (hl : n.items.length = mn) (hk : KidsOk mn (2 * mn + 1) h n) :
    nodeOk mn (2 * mn + 1) h n = true :=
  (nodeOk_iff _ _ _ _).2 ⟨Nat.le_of_eq hl.symm, Nat.le_trans (Nat.le_of_eq hl) (Nat.le_of_lt (lt_full mn)), hk⟩

theorem kids_shape_or (mn mx h : Nat) (n : Node) (hk : KidsOk mn mx h n) :
    n.children = [] ∨ n.children.length = n.items.length + 1 := by
  cases h with
  | zero => exact Or.inl hk
  | succ h => exact Or.inr hk.1

theorem kidsOk_shape (mn mx : Nat) : ∀ (h : Nat) (n : Node), KidsOk mn mx h n → Shape h n
  | 0, .mk _ _, hk => hk
  | h + 1, .mk _ _, hk => ⟨hk.1, fun c hc => kidsOk_shape mn mx h c ((nodeOk_iff _ _ _ _).1 (hk.2 c hc)).2.2⟩

theorem height_of_shape : ∀ (h : Nat) (n : Node), Shape h n → height n = h
  | 0, .mk is cs, hs => by obtain rfl : cs = [] := hs; rfl
  | h + 1, .mk is [], hs => by have := hs.1; simp at this
  | h + 1, .mk is (c :: cs), hs => congrArg (· + 1) (height_of_shape h c (hs.2 c List.mem_cons_self))

theorem height_of_kidsOk (mn mx h : Nat) (n : Node) (hk : KidsOk mn mx h n) : height n = h :=
  height_of_shape h n (kidsOk_shape mn mx h n hk)

theorem child_at {mn mx h : Nat} {is : List Item} {cs : List Node} {i : Nat} (hk : KidsOk mn mx (h + 1) (.mk is cs))
    (hs : Sorted (interleave is cs)) (hi : i ≤ is.length) :
    cs = cs.take i ++ cs.getD i default :: cs.drop (i + 1) ∧ (cs.take i).length = (is.take i).length ∧
    nodeOk mn mx h (cs.getD i default) = true ∧ Sorted (cs.getD i default).inorder := by
  have hl : cs.length = is.length + 1 := hk.1
  have hic : i < cs.length := hl ▸ Nat.lt_succ_of_le hi
  have hC := getD_mem cs i default hic
  exact ⟨list_split_at cs i default hic, length_take_eq hl hi, hk.2 _ hC, sorted_child is cs hs _ hC hl⟩

theorem shape_of_rootOk (mn mx : Nat) (r : Node) (hk : rootOk mn mx r = true) : Shape (height r) r :=
  kidsOk_shape mn mx _ r ((rootOk_iff mn mx r).1 hk).2.1

end Nv.C03
