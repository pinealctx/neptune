import Nv.Proofs.C16Sess
/-!
C16 — what the peer reads: in order always (`GInv`), and complete when nothing but a local Close
ends the session (`FOk`). Proved configuration, exit callback returns.
-/
namespace Nv.C16

def inflight (s : Sess) : List Nat :=
  match s.sendPc with
  | .writing x => x
  | _ => []

structure GInv (s : Sess) : Prop where
  pending : sendLooping s → s.delivered ++ inflight s ++ s.q.flatten = s.accepted.flatten
  pref : s.delivered <+: s.accepted.flatten

/-- completeness invariant: as long as no terminating event other than a local Close happened -/
structure FInv (s : Sess) : Prop where
  clean : s.peerClosed = false ∧ s.wfault = false
  recv : s.recvPc = .reading ∨ s.onceTaken = true
  once : s.onceTaken = true → sendLeft s
  left : sendLeft s → s.delivered = s.accepted.flatten ∧ s.qClosed = true
  rown : ∀ p st, s.recvPc = .quitting p st → st = .enter   -- the receive loop never runs the body of the once

theorem ginv_init : GInv Sess.init := by
  constructor <;> simp [Sess.init, inflight]

theorem finv_init : FInv Sess.init := by
  constructor <;> simp [Sess.init, sendLeft]

theorem ginv_env {s : Sess} (h : GInv s) (e : Env) : GInv (envStep s e) := by
  obtain ⟨g1, g2⟩ := h
  cases e <;> simp only [envStep]
  case send bs =>
    split
    · exact ⟨g1, g2⟩
    · constructor
      · intro hl
        have := g1 hl
        simp only [inflight, List.flatten_append, List.flatten_cons, List.flatten_nil, List.append_nil] at this ⊢
        rw [← this]; simp [List.append_assoc]
      · simp only [List.flatten_append]
        exact List.IsPrefix.trans g2 (List.prefix_append _ _)
  all_goals (try split)
  all_goals (exact ⟨g1, g2⟩)

theorem partialWrite_prefix (s : Sess) (x : List Nat) : partialWrite s x <+: x := by
  unfold partialWrite
  split
  · exact List.take_prefix _ _
  · exact List.nil_prefix

theorem ginv_sendStepP {s s' : Sess} (h : GInv s) (hs : sendStepP s = some s') : GInv s' := by
  obtain ⟨g1, g2⟩ := h
  rcases sendStepP_pc hs with hl | ⟨st, hp⟩
  · have hpend := g1 hl
    cases sendLoop_cases hl hs with
    | close => exact ⟨fun l => absurd l (sendLeft.not_looping (Or.inl ⟨_, rfl⟩)), g2⟩
    | skip rest h1 h2 =>
      refine ⟨fun _ => ?_, g2⟩
      simpa [inflight, h1, h2] using hpend
    | take x rest h1 h2 =>
      refine ⟨fun _ => ?_, g2⟩
      simpa [inflight, h1, h2] using hpend
    | fail x h1 =>
      -- a failing write hands over at most a prefix of the item that was next anyway
      refine ⟨fun l => absurd l (sendLeft.not_looping (Or.inl ⟨_, rfl⟩)), ?_⟩
      obtain ⟨t, ht⟩ := partialWrite_prefix s x
      refine ⟨t ++ s.q.flatten, ?_⟩
      simp only [inflight, h1] at hpend
      generalize partialWrite s x = w at ht ⊢
      rw [← hpend, ← ht]
      simp only [List.append_assoc]
    | wrote x h1 =>
      simp only [inflight, h1] at hpend
      refine ⟨fun _ => ?_, ?_⟩
      · simpa [inflight] using hpend
      · exact ⟨s.q.flatten, hpend⟩
  · -- inside `quit` the send loop changes nothing the invariant looks at
    obtain ⟨_, hd, hleft⟩ := sendQuit_frame hp hs
    refine ⟨fun l => absurd l hleft.not_looping, ?_⟩
    rw [hd, (sendStepP_frame hs).1.accepted]
    exact g2

/-- a step of the receive loop never touches the send side -/
theorem ginv_recvStepP {s s' : Sess} (h : GInv s) (hs : recvStepP s = some s') : GInv s' := by
  obtain ⟨f, k1, k2, k3⟩ := recvStepP_frame hs
  obtain ⟨g1, g2⟩ := h
  constructor
  · intro hl
    unfold sendLooping at hl
    rw [k1] at hl
    simpa only [inflight, k1, k2, k3, f.accepted] using g1 hl
  · rw [k3, f.accepted]; exact g2

def FOk (s : Sess) : Prop := s.faulted = false → FInv s

theorem fok_init : FOk Sess.init := fun _ => finv_init

theorem fok_env {s : Sess} (h : FOk s) (e : Env) : FOk (envStep s e) := by
  cases e <;> simp only [envStep]
  case send bs =>
    split
    · exact h
    · rename_i hc
      intro hf
      obtain ⟨f1, f2, f3, f4, f5⟩ := h hf
      exact ⟨f1, f2, f3, fun hl => absurd (f4 hl).2 hc, f5⟩
  case close =>
    intro hf
    obtain ⟨f1, f2, f3, f4, f5⟩ := h hf
    exact ⟨f1, f2, f3, fun hl => ⟨(f4 hl).1, rfl⟩, f5⟩
  case peerDrain => intro hf; obtain ⟨f1, f2, f3, f4, f5⟩ := h hf; exact ⟨f1, f2, f3, f4, f5⟩
  case peerHold => intro hf; obtain ⟨f1, f2, f3, f4, f5⟩ := h hf; exact ⟨f1, f2, f3, f4, f5⟩
  case peerData => split <;> (intro hf; obtain ⟨f1, f2, f3, f4, f5⟩ := h hf; exact ⟨f1, f2, f3, f4, f5⟩)
  case peerClose => intro hf; simp at hf
  case readFail => split <;> (intro hf; simp at hf)
  case handlerPanic => split <;> (intro hf; simp at hf)
  case writeFail => intro hf; simp at hf
  case writeFailAfter n => split <;> (intro hf; simp at hf)

theorem fok_sendStepP {s s' : Sess} (hS : SInv s) (hG : GInv s) (h : FOk s) (hs : sendStepP s = some s') : FOk s' := by
  obtain ⟨f, hr⟩ := sendStepP_frame hs
  intro hf
  obtain ⟨f1, f2, f3, f4, f5⟩ := h (f.faulted ▸ hf)
  rcases sendStepP_pc hs with hl | ⟨st, hp⟩
  · have hnl : ¬ sendLeft s := fun h => h.not_looping hl
    have hnt : ¬ s.onceTaken = true := fun ho => hnl (f3 ho)
    cases sendLoop_cases hl hs with
    | close h1 h2 h3 =>
      -- the queue is closed and drained: with nothing in flight, everything accepted has been delivered
      have := hG.pending hl
      simp only [inflight, h1, h2, List.flatten_nil, List.append_nil] at this
      exact ⟨f1, f2, fun _ => Or.inl ⟨_, rfl⟩, fun _ => ⟨this, h3⟩, f5⟩
    | skip => exact ⟨f1, f2, f3, f4, f5⟩
    | take | wrote =>
      exact ⟨f1, f2, fun ho => absurd ho hnt, fun hl' => absurd hl' (by simp [sendLeft]), f5⟩
    | fail x _ h2 =>
      -- no write fails without a fault, and the connection is not closed under a send loop still running
      rw [f1.1, f1.2] at h2
      exact absurd (once_of_closes hS (by simpa using h2)).1 hnt
  · -- inside `quit`: the send loop has left and stays so, and `quit` only closes what was to be closed
    obtain ⟨_, hd, hleft⟩ := sendQuit_frame hp hs
    obtain ⟨g1, g2⟩ := f4 (Or.inl ⟨st, hp⟩)
    refine ⟨by rw [f.peerClosed, f.wfault]; exact f1, ?_, fun _ => hleft, fun _ => ?_, by rw [hr]; exact f5⟩
    · exact f2.imp (fun h => hr.trans h) f.onceTaken
    · exact ⟨by rw [hd, f.accepted]; exact g1, f.qClosed g2⟩

theorem fok_recvStepP {s s' : Sess} (hS : SInv s) (h : FOk s) (hs : recvStepP s = some s') : FOk s' := by
  obtain ⟨f, -⟩ := recvStepP_frame hs
  intro hf
  obtain ⟨f1, f2, f3, f4, f5⟩ := h (f.faulted ▸ hf)
  -- without a fault the receive loop only leaves its read once the connection is closed, and then finds the once
  -- taken by the send loop: it waits for it and leaves; all it writes is `recvPc`
  have key : s.onceTaken = true ∧ ∃ r, s' = { s with recvPc := r } ∧ ∀ p st, r = .quitting p st → st = .enter := by
    cases hp : s.recvPc with
    | done => simp [recvStepP, hp] at hs
    | reading =>
      simp only [recvStepP, hp] at hs
      split at hs <;> cases hs
      rename_i hdown
      rw [f1.1] at hdown
      exact ⟨(once_of_closes hS (by simpa using hdown)).1, .quitting false .enter, rfl, by intro p st e; cases e; rfl⟩
    | quitting p st =>
      cases f5 p st hp
      have ho : s.onceTaken = true := f2.resolve_left (by rw [hp]; simp)
      simp only [recvStepP, hp] at hs
      split at hs
      · cases hs; exact ⟨ho, .done, rfl, by intro p st e; cases e⟩
      · cases hs
  obtain ⟨ho, r, rfl, hr⟩ := key
  exact ⟨f1, Or.inr ho, f3, f4, hr⟩

end Nv.C16
