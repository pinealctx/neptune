import Nv.Proofs.C03Remove
/-! C03 — `Get`, `Min`, `Max` against the sorted list. -/
namespace Nv.C03

theorem getH_spec (mn mx : Nat) (k : Int) : ∀ (h : Nat) (n : Node), KidsOk mn mx h n → Sorted n.inorder →
    getH k h n = specFind n.inorder k := by
  intro h
  induction h with
  | zero =>
    rintro ⟨is, cs⟩ hk hs
    obtain rfl : cs = [] := hk
    rw [inorder_mk] at hs ⊢
    simp only [getH]
    cases hf : (findIdx is k).2 with
    | true =>
      obtain ⟨y, hy, rfl⟩ := (findIdx_found is k).1 hf
      rw [if_pos rfl, hy, specFind_item hs hy]
    | false =>
      rw [interleave_nil_right] at hs ⊢
      rw [if_neg (by simp), specFind_none _ _ (findIdx_not_found_ne is k hs hf)]
  | succ h ih =>
    rintro ⟨is, cs⟩ hk hs
    rw [inorder_mk] at hs ⊢
    have hl : cs.length = is.length + 1 := hk.1
    obtain ⟨c0, cs0, rfl⟩ : ∃ c0 cs0, cs = c0 :: cs0 := by
      cases cs with
      | nil => simp at hl
      | cons c0 cs0 => exact ⟨c0, cs0, rfl⟩
    simp only [getH]
    cases hf : (findIdx is k).2 with
    | true =>
      obtain ⟨y, hy, rfl⟩ := (findIdx_found is k).1 hf
      rw [if_pos rfl, hy, specFind_item hs hy]
    | false =>
      rw [if_neg (by simp)]
      generalize c0 :: cs0 = cs at hk hs ⊢
      obtain ⟨hcut, hAc, hCok, hCs⟩ := child_at hk hs (findIdx_le is k)
      have D := specFind_descend k _ _ (is.drop (findIdx is k).1) _ _ hAc
        (by rwa [List.take_append_drop, ← hcut]) (findIdx_take_lt is k)
        (findIdx_not_found_gt is k (sorted_items _ _ hs) hf)
      rw [List.take_append_drop, ← hcut] at D
      rw [D, ih _ ((nodeOk_iff _ _ _ _).1 hCok).2.2 hCs]

theorem minH_spec (mn mx : Nat) (hmn : 1 ≤ mn) : ∀ (h : Nat) (n : Node), KidsOk mn mx h n →
    minH h n = n.inorder.head? := by
  intro h
  induction h with
  | zero =>
    rintro ⟨is, cs⟩ hk
    obtain rfl : cs = [] := hk
    simp [minH]
  | succ h ih =>
    rintro ⟨is, cs⟩ hk
    cases cs with
    | nil => have := hk.1; simp at this
    | cons c cs =>
      have hc := (nodeOk_iff _ _ _ _).1 (hk.2 c (by simp))
      have hne := inorder_ne_nil c (Nat.le_trans hmn hc.1)
      simp only [minH, inorder_mk, interleave_child_first, ih c hc.2.2]
      cases hci : c.inorder with
      | nil => exact absurd hci hne
      | cons a l => rfl

theorem maxH_spec (mn mx : Nat) (hmn : 1 ≤ mn) : ∀ (h : Nat) (n : Node), KidsOk mn mx h n →
    maxH h n = n.inorder.getLast? := by
  intro h
  induction h with
  | zero =>
    rintro ⟨is, cs⟩ hk
    obtain rfl : cs = [] := hk
    simp [maxH]
  | succ h ih =>
    rintro ⟨is, cs⟩ hk
    cases cs with
    | nil => have := hk.1; simp at this
    | cons c cs =>
      simp only [maxH, inorder_mk]
      -- the last child `d` and the children `ds` before it
      obtain ⟨ds, d, e⟩ := exists_snoc (List.cons_ne_nil c cs)
      rw [e] at hk ⊢
      have hd := (nodeOk_iff _ _ _ _).1 (hk.2 d (by simp))
      have hin := interleave_decomp is ds [] d [] (by simpa using hk.1)
      rw [List.append_nil, rightPart_nil, List.append_nil] at hin
      rw [List.getLast?_concat, Option.getD_some, ih d hd.2.2, hin, List.getLast?_append]
      cases hg : d.inorder.getLast? with
      | none => exact absurd (List.getLast?_eq_none_iff.1 hg) (inorder_ne_nil d (Nat.le_trans hmn hd.1))
      | some z => rfl

theorem tree_get_spec (t : Tree) (k : Int) (h : t.ok = true) : t.get k = specFind t.inorder k := by
  cases hr : t.root with
  | none => simp [Tree.get, Tree.inorder, hr, specFind]
  | some r =>
    obtain ⟨hd, hroot, hsr, _⟩ := ok_root t r hr h
    obtain ⟨_, hrk, _⟩ := (rootOk_iff _ _ _).1 hroot
    simp only [Tree.get, Tree.inorder, hr]
    exact getH_spec _ _ k _ r hrk hsr

theorem tree_min_max_spec (t : Tree) (h : t.ok = true) : t.min = t.inorder.head? ∧ t.max = t.inorder.getLast? := by
  cases hr : t.root with
  | none => simp [Tree.min, Tree.max, Tree.inorder, hr]
  | some r =>
    obtain ⟨hd, hroot, hsr, _⟩ := ok_root t r hr h
    obtain ⟨hmx, hmn, h1⟩ := tree_bounds t hd
    rw [hmn] at hroot
    obtain ⟨_, hrk, _⟩ := (rootOk_iff _ _ _).1 hroot
    simp only [Tree.min, Tree.max, Tree.inorder, hr]
    exact ⟨minH_spec _ _ h1 _ r hrk, maxH_spec _ _ h1 _ r hrk⟩

end Nv.C03
