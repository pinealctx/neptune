import Nv.Proofs.C16Term
/-!
C16 — the loops' steps commute (except in one race that scripts never reach, and the race for `exitOnce`, whose
two outcomes meet again when both loops have finished), so running them to quiescence gives one result whatever
the schedule. Proved configuration, exit callback returns.
-/
namespace Nv.C16

/-- no write can complete: the peer does not read or has closed, or the write fails -/
def blocked (s : Sess) : Prop := s.peerDrain = false ∨ s.wfault = true ∨ s.peerClosed = true

/-- no race between a write that can complete and a read loop about to close the connection: while the read loop
    is on its way through `quit` and the connection is still open, the send loop cannot deliver anything -/
def NoRace (s : Sess) : Prop :=
  (∃ p st, s.recvPc = .quitting p st) → s.closes = 0 →
    blocked s ∨ (s.sendPc = .idle ∧ s.q = []) ∨ (∃ st, s.sendPc = .quitting st) ∨ s.sendPc = .done

/-- both loops arrive at `exitOnce.Do` together: whichever wins, the session ends in the same state -/
theorem once_race {s : Sess} (p : Bool) (hs : s.sendPc = .quitting .enter) (hr : s.recvPc = .quitting p .enter)
    (ht : s.onceTaken = false) (hd : s.onceDone = false) {a b : Sess}
    (ha : sendStepP s = some a) (hb : recvStepP s = some b) : ∃ d, IRun a d ∧ IRun b d := by
  simp [sendStepP, hs, ht, hd] at ha
  simp [recvStepP, hr, ht, hd] at hb
  subst ha; subst hb
  refine ⟨{ s with onceTaken := true, onceDone := true, exits := s.exits + 1, decs := s.decs + 1, qClosed := true,
                   closes := s.closes + 1, sendPc := .done, recvPc := .done }, ?_, ?_⟩
  · refine IRun.send (a := _) (by simp [sendStepP]; rfl) ?_
    refine IRun.send (a := _) (by simp [sendStepP]; rfl) ?_
    refine IRun.send (a := _) (by simp [sendStepP]; rfl) ?_
    refine IRun.recv (b := _) (by simp [recvStepP, hr]; rfl) ?_
    exact IRun.refl _
  · refine IRun.recv (b := _) (by simp [recvStepP]; rfl) ?_
    refine IRun.recv (b := _) (by simp [recvStepP]; rfl) ?_
    refine IRun.recv (b := _) (by simp [recvStepP]; rfl) ?_
    refine IRun.send (a := _) (by simp [sendStepP, hs]; rfl) ?_
    exact IRun.refl _

theorem join1 {a b : Sess} (h : ∃ d, recvStepP a = some d ∧ sendStepP b = some d) : ∃ d, IRun a d ∧ IRun b d := by
  obtain ⟨d, h1, h2⟩ := h
  exact ⟨d, IRun.recv h1 (IRun.refl d), IRun.send h2 (IRun.refl d)⟩

theorem recvStepP_closes {s b : Sess} (h : recvStepP s = some b) :
    b.closes = s.closes ∨ ∃ p st, s.recvPc = .quitting p st := by
  cases hr : s.recvPc with
  | quitting p st => exact Or.inr ⟨p, st, rfl⟩
  | done => simp [recvStepP, hr] at h
  | reading =>
    simp only [recvStepP, hr] at h
    split at h <;> cases h
    exact Or.inl rfl

/-- A step of the send loop proper commutes with any receive step. The receive loop does not look at what it
    writes (`recvStepP_setSend`); of what it reads, the receive step leaves everything as it is (`Frame`) except
    that it may close the queue, which only matters to a send loop parked on an open queue, and that it may close
    the connection under a write that was about to complete: the race `NoRace` excludes. -/
theorem sendLoop_commutes {s a b : Sess} (hl : sendLooping s) (hK : NoRace s) (ha : sendStepP s = some a)
    (hb : recvStepP s = some b) : ∃ d, recvStepP a = some d ∧ sendStepP b = some d := by
  obtain ⟨f, hpc, hq, hd⟩ := recvStepP_frame hb
  have recv {pc q d} : recvStepP { s with sendPc := pc, q := q, delivered := d } = _ :=
    (recvStepP_setSend s pc q d).trans (congrArg _ hb)
  cases sendLoop_cases hl ha with
  | close h1 h2 h3 => exact ⟨_, recv, by simp only [sendStepP, hpc, hq, hd, h1, h2, f.qClosed h3, if_true]⟩
  | skip rest h1 h2 => exact ⟨_, recv, by simp only [sendStepP, hpc, hq, hd, h1, h2, if_true]⟩
  | take x rest h1 h2 h3 => exact ⟨_, recv, by simp only [sendStepP, hpc, hq, hd, h1, h2, h3, if_false]⟩
  | fail x h1 h2 =>
    have hw : (b.wfault || b.peerClosed || b.closes != 0) = true := by
      rw [f.wfault, f.peerClosed]
      simp only [Bool.or_eq_true, bne_iff_ne, ne_eq] at h2 ⊢
      exact h2.imp_right (mt f.closes)
    exact ⟨_, recv, by simp only [sendStepP, hpc, hq, hd, h1, hw, f.partialWrite, if_true]⟩
  | wrote x h1 h2 h3 =>
    obtain ⟨⟨hwf, hpcl⟩, hcl⟩ : (s.wfault = false ∧ s.peerClosed = false) ∧ s.closes = 0 := by simpa using h2
    have hc : b.closes = 0 := by
      rcases recvStepP_closes hb with h | h
      · exact h.trans hcl
      · -- the write completes, so with the receive loop in `quit` the connection would be closed under it
        rcases hK h hcl with hbl | ⟨hi, _⟩ | ⟨st, hst⟩ | hdn
        · rcases hbl with hbl | hbl | hbl
          · rw [h3] at hbl; cases hbl
          · rw [hwf] at hbl; cases hbl
          · rw [hpcl] at hbl; cases hbl
        · rw [h1] at hi; cases hi
        · rw [h1] at hst; cases hst
        · rw [h1] at hdn; cases hdn
    have hw : (b.wfault || b.peerClosed || b.closes != 0) = false := by
      simp [f.wfault, f.peerClosed, hc, hwf, hpcl]
    exact ⟨_, recv, by
      simp only [sendStepP, hpc, hq, hd, h1, hw, f.peerDrain, h3, if_true, Bool.false_eq_true, if_false]⟩

/-- A receive step that writes nothing but `recvPc` commutes with any send step: no send step looks at `recvPc`,
    so all there is to show is that the receive step is still enabled afterwards. -/
theorem recvPc_commutes {s a : Sess} {r : RecvPc} (ha : sendStepP s = some a)
    (hb : recvStepP a = some { a with recvPc := r }) : ∃ d, IRun a d ∧ IRun { s with recvPc := r } d :=
  join1 ⟨_, hb, (sendStepP_setRecv s r).trans (congrArg _ ha)⟩

theorem diamond {s a b : Sess} (hS : SInv s) (hK : NoRace s) (ha : sendStepP s = some a) (hb : recvStepP s = some b) :
    ∃ d, IRun a d ∧ IRun b d := by
  cases hs : s.sendPc with
  | done => simp [sendStepP, hs] at ha
  | idle => exact join1 (sendLoop_commutes (Or.inl hs) hK ha hb)
  | writing x => exact join1 (sendLoop_commutes (Or.inr ⟨x, hs⟩) hK ha hb)
  | quitting st' =>
    obtain ⟨f, hra⟩ := sendStepP_frame ha
    have hb0 := hb
    cases hr : s.recvPc with
    | done => simp [recvStepP, hr] at hb
    | reading =>
      simp only [recvStepP, hr] at hb
      split at hb
      · rename_i hdown
        cases hb
        exact recvPc_commutes ha (by simp only [recvStepP, hra, hr, f.connDown hdown, if_true])
      · cases hb
    | quitting p st =>
      by_cases he : st = .enter
      · subst he
        simp only [recvStepP, hr] at hb
        split at hb
        · -- the once is finished: the receive loop just leaves
          rename_i hd
          cases hb
          exact recvPc_commutes ha (by simp only [recvStepP, hra, hr, f.onceDone hd, if_true])
        · rename_i hd
          split at hb
          · cases hb
          · -- the receive loop takes the once; so can the send loop, unless it has it already
            rename_i ht
            by_cases he' : st' = .enter
            · subst he'
              exact once_race p hs hr (by simpa using ht) (by simpa using hd) ha hb0
            · rw [(hS.sOwner st' hs he').1] at ht
              exact absurd rfl ht
      · -- the receive loop is in the body of the once: the send loop waits in `exitOnce.Do`
        obtain ⟨o1, o2, _, o4⟩ := hS.rOwner p st hr he
        cases o4 st' hs
        simp [sendStepP, hs, o1, o2] at ha

theorem norace_sendStepP {s a : Sess} (hK : NoRace s) (ha : sendStepP s = some a) : NoRace a := by
  obtain ⟨f, hr⟩ := sendStepP_frame ha
  intro hq hc
  rw [hr] at hq
  rcases hK hq (f.closes hc) with hbl | ⟨hi, hq0⟩ | ⟨st, hst⟩ | hd
  · left
    unfold blocked
    rw [f.peerDrain, f.wfault, f.peerClosed]
    exact hbl
  · -- parked on an empty queue the send loop can only leave
    simp only [sendStepP, hi, hq0] at ha
    split at ha <;> cases ha
    exact Or.inr (Or.inr (Or.inl ⟨_, rfl⟩))
  · exact Or.inr (Or.inr (sendQuit_frame hst ha).2.2)
  · simp [sendStepP, hd] at ha

theorem norace_recvStepP {s b : Sess} (hK : NoRace s) (hb : recvStepP s = some b) : NoRace b := by
  obtain ⟨f, hpc, hq, -⟩ := recvStepP_frame hb
  intro _ hc
  unfold blocked
  rw [f.peerDrain, f.wfault, f.peerClosed, hpc, hq]
  cases hr : s.recvPc with
  | done => simp [recvStepP, hr] at hb
  | quitting p st => exact hK ⟨p, st, hr⟩ (f.closes hc)
  | reading =>
    -- the read fails on an open connection: the peer has closed
    simp only [recvStepP, hr, f.closes hc] at hb
    split at hb
    · rename_i hdown
      exact Or.inl (Or.inr (Or.inr (by simpa using hdown)))
    · cases hb

theorem irun_measure {s t : Sess} (r : IRun s t) : measure t ≤ measure s := by
  induction r with
  | refl => exact Nat.le_refl _
  | send h _ ih => have := measure_sendStepP h; omega
  | recv h _ ih => have := measure_recvStepP h; omega

theorem exists_normal : ∀ (n : Nat) (s : Sess), measure s < n → ∃ t, IRun s t ∧ normalP t
  | 0, _, h => absurd h (Nat.not_lt_zero _)
  | n + 1, s, h => by
    cases h1 : sendStepP s with
    | some a =>
      have := measure_sendStepP h1
      obtain ⟨t, r, ht⟩ := exists_normal n a (by omega)
      exact ⟨t, IRun.send h1 r, ht⟩
    | none =>
      cases h2 : recvStepP s with
      | some b =>
        have := measure_recvStepP h2
        obtain ⟨t, r, ht⟩ := exists_normal n b (by omega)
        exact ⟨t, IRun.recv h2 r, ht⟩
      | none => exact ⟨s, IRun.refl s, h1, h2⟩

/-- whatever the schedule of the two loops, the state at quiescence is the same: by induction on the measure, closing
    each fork of a send step against a receive step with `diamond` -/
theorem normal_unique : ∀ (n : Nat) (s t1 t2 : Sess), measure s < n → SInv s → NoRace s →
    IRun s t1 → normalP t1 → IRun s t2 → normalP t2 → t1 = t2
  | 0, _, _, _, hm, _, _, _, _, _, _ => absurd hm (Nat.not_lt_zero _)
  | n + 1, s, t1, t2, hm, hS, hK, r1, n1, r2, n2 => by
    have fork : ∀ {a b u1 u2 : Sess}, sendStepP s = some a → recvStepP s = some b → IRun a u1 → normalP u1 →
        IRun b u2 → normalP u2 → u1 = u2 := by
      intro a b u1 u2 ha hb ra m1 rb m2
      have hma := measure_sendStepP ha
      have hmb := measure_recvStepP hb
      obtain ⟨d, hd1, hd2⟩ := diamond hS hK ha hb
      obtain ⟨nd, rd, nnd⟩ := exists_normal (measure d + 1) d (Nat.lt_succ_self _)
      rw [normal_unique n a u1 nd (by omega) (sinv_sendStepP hS ha) (norace_sendStepP hK ha) ra m1 (hd1.trans rd) nnd,
        normal_unique n b u2 nd (by omega) (sinv_recvStepP hS hb) (norace_recvStepP hK hb) rb m2 (hd2.trans rd) nnd]
    cases r1 with
    | refl =>
      cases r2 with
      | refl => rfl
      | send h _ => rw [n1.1] at h; cases h
      | recv h _ => rw [n1.2] at h; cases h
    | send ha ra =>
      rename_i a
      have hma := measure_sendStepP ha
      cases r2 with
      | refl => rw [n2.1] at ha; cases ha
      | send ha' ra' =>
        rw [ha] at ha'; cases ha'
        exact normal_unique n a t1 t2 (by omega) (sinv_sendStepP hS ha) (norace_sendStepP hK ha) ra n1 ra' n2
      | recv hb rb => exact fork ha hb ra n1 rb n2
    | recv hb rb =>
      rename_i b
      have hmb := measure_recvStepP hb
      cases r2 with
      | refl => rw [n2.2] at hb; cases hb
      | recv hb' rb' =>
        rw [hb] at hb'; cases hb'
        exact normal_unique n b t1 t2 (by omega) (sinv_recvStepP hS hb) (norace_recvStepP hK hb) rb n1 rb' n2
      | send ha ra => exact (fork ha hb ra n2 rb n1).symm

/-- a quiescent state followed by one environment event has no race -/
theorem norace_after_event {s : Sess} (h : ended s ∨ waiting s) (e : Env) : NoRace (envStep s e) := by
  intro ⟨p, st, hp⟩ hc
  rw [(envStep_counters s e).2] at hc
  rcases h with he | ⟨_, _, _, _, w5, _, w7⟩
  · rw [he.2.2.1] at hc; cases hc
  · cases e
    case readFail | handlerPanic =>
      -- the receive loop leaves its read; the send loop stays parked on its empty queue or blocked in its write
      simp only [envStep, w5, if_true]
      rcases w7 with ⟨a1, a2, _⟩ | ⟨x, _, a2, _⟩
      · exact Or.inr (Or.inl ⟨a1, a2⟩)
      · exact Or.inl (Or.inl a2)
    all_goals
      -- no other event moves the receive loop
      simp only [envStep] at hp
      try split at hp
      all_goals rw [w5] at hp; cases hp

end Nv.C16
