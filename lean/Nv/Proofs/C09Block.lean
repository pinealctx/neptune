import Nv.Model.C09
import Nv.Props.C08
/-! C09 — blocks (`BigU32`, `U32BitTip`): the constructor arithmetic, a single block read through the C08 iterator
(the two block kinds differ in the element width and the block base only, so both are instances of statements about
an arbitrary base `add`), and the block loop of the list forms. Core only. -/
namespace Nv.C09
open Nv.C08

theorem div_mod_1024 {w : Nat} (hw : 1024 < 2 ^ w) (x : BitVec w) :
    (x / 1024#w).toNat = x.toNat / 1024 ∧
    (BitVec.setWidth 16 (x % 1024#w)).toInt = ((x.toNat % 1024 : Nat) : Int) := by
  have h1k : (1024#w).toNat = 1024 := Nat.mod_eq_of_lt hw
  constructor
  · rw [BitVec.toNat_udiv, h1k]
  · have hlt : x.toNat % 1024 < 1024 := Nat.mod_lt _ (by decide)
    have hn : (BitVec.setWidth 16 (x % 1024#w)).toNat = x.toNat % 1024 := by
      rw [BitVec.toNat_setWidth, BitVec.toNat_umod, h1k, Nat.mod_eq_of_lt (by omega)]
    rw [BitVec.toInt_eq_toNat_of_lt (by omega), hn]

/-- arithmetic of `NewU32BitTipFromU32`/`SetU32` for all 2^32 arguments -/
theorem selU32_spec (u : BitVec 32) :
    (selU32 u).1.toNat = u.toNat / 1024 ∧ (selU32 u).2.toInt = ((u.toNat % 1024 : Nat) : Int) :=
  div_mod_1024 (by decide) u

/-- arithmetic of `NewBigU32FromI64`/`SetI64` for all 2^64 arguments -/
theorem selI64_spec (v : BitVec 64) :
    (0 ≤ v.toInt ∧ v.toInt < 4398046510080 →
      (selI64 v).1 = true ∧ (selI64 v).2.1.toNat = v.toInt.toNat / 1024 ∧
      (selI64 v).2.2.toInt = ((v.toInt.toNat % 1024 : Nat) : Int)) ∧
    (¬(0 ≤ v.toInt ∧ v.toInt < 4398046510080) → (selI64 v).1 = false) := by
  have h0 : (0#64 : BitVec 64).toInt = 0 := by decide
  have hmax : (4398046510080#64 : BitVec 64).toInt = 4398046510080 := by decide
  unfold selI64
  simp only [BitVec.slt_eq_decide, BitVec.sle_eq_decide, h0, hmax, Bool.or_eq_true, decide_eq_true_eq]
  constructor
  · intro ⟨ha, hb⟩
    rw [if_neg (by omega)]
    -- a non-negative `int64` divides like the `uint64` with the same bits
    have hmsb : v.msb = false := by rw [BitVec.msb_eq_toInt]; simpa using ha
    have hd : BitVec.sdiv v 1024#64 = v / 1024#64 := by rw [BitVec.sdiv_eq, hmsb]; rfl
    have hr : BitVec.srem v 1024#64 = v % 1024#64 := by rw [BitVec.srem_eq, hmsb]; rfl
    have hi := BitVec.toInt_eq_toNat_of_msb hmsb
    obtain ⟨e1, e2⟩ := div_mod_1024 (by decide) v
    rw [hd, hr, BitVec.toNat_toInt_of_msb v hmsb]
    refine ⟨rfl, ?_, e2⟩
    rw [BitVec.toNat_setWidth, e1, Nat.mod_eq_of_lt (by omega)]
  · intro hn
    rw [if_pos (by omega)]

/-! ### the repaired configuration: both block bases are `Start·C1K` in the element type, `getNAsU32` dispatches
`reverse ⇒ RIterAsU32` -/

theorem bigOffset_proved (c : Cfg) (hc : Proved c) (rev : Bool) (s : BitVec 32) :
    bigOffset c rev s = BitVec.setWidth 64 s * 1024#64 := by
  cases rev <;> simp [bigOffset, hc.2.1, hc.2.2.1, offsetOf]

theorem bigIter_proved (c : Cfg) (hc : Proved c) (magic : Int) (rev : Bool) (b : Block) (s : List (BitVec 64))
    (pos n : Int) :
    bigIter c magic rev b s pos n = iter1024 c.base magic rev b.bits s pos (BitVec.setWidth 64 b.start * 1024#64) n := by
  rw [bigIter, bigOffset_proved c hc]

theorem tipIter_proved (c : Cfg) (hc : Proved c) (magic : Int) (rev : Bool) (b : Block) (s : List (BitVec 32))
    (pos n : Int) :
    tipIter c magic rev b s pos n = iter1024 c.base magic rev b.bits s pos (b.start * 1024#32) n := by
  rw [tipIter, hc.2.2.2.2.1]

theorem tipDir_proved (c : Cfg) (hc : Proved c) (rev : Bool) : tipDir c rev = rev := by
  rw [tipDir, hc.2.2.2.1]

theorem block_elem_toNat {w : Nat} (hw : 1024 < 2 ^ w) (st : BitVec w) (i : Nat) (h : st.toNat * 1024 + i < 2 ^ w) :
    (BitVec.ofNat w i + st * 1024#w).toNat = st.toNat * 1024 + i := by
  have h1k : (1024#w).toNat = 1024 := Nat.mod_eq_of_lt hw
  have hi : (BitVec.ofNat w i).toNat = i := Nat.mod_eq_of_lt (Nat.lt_of_le_of_lt (Nat.le_add_left _ _) h)
  have hm : st.toNat * 1024 % 2 ^ w = st.toNat * 1024 :=
    Nat.mod_eq_of_lt (Nat.lt_of_le_of_lt (Nat.le_add_right _ _) h)
  rw [BitVec.toNat_add, BitVec.toNat_mul, h1k, hi, hm, Nat.add_comm, Nat.mod_eq_of_lt h]

/-- value of a BigU32 element under the repaired offset: `Start·1024 + i`, no wrap-around for any `uint32` start -/
theorem big_value (start : BitVec 32) (i : Nat) (hi : i < 1024) :
    (BitVec.ofNat 64 i + BitVec.setWidth 64 start * 1024#64).toInt = (start.toNat * 1024 : Nat) + i := by
  have hs : (BitVec.setWidth 64 start).toNat = start.toNat := BitVec.toNat_setWidth_of_le (by decide)
  have hn := block_elem_toNat (by decide) (BitVec.setWidth 64 start) i (by rw [hs]; omega)
  rw [hs] at hn
  rw [BitVec.toInt_eq_toNat_of_lt (by omega), hn]
  omega

/-- value of a U32BitTip element: `Start·1024 + i` as long as `Start ≤ MaxU32TipStart` -/
theorem tip_value (start : BitVec 32) (hst : start.toNat ≤ 4194303) (i : Nat) (hi : i < 1024) :
    ((BitVec.ofNat 32 i + start * 1024#32).toNat : Int) = (start.toNat * 1024 : Nat) + i := by
  rw [block_elem_toNat (by decide) start i (by omega)]
  omega

/-- everything one block contributes, in the direction's order: `ofNat m + base` for its members -/
def blockAll {w : Nat} (rev : Bool) (bits : Bit1024) (add : BitVec w) : List (BitVec w) :=
  (if rev then (members1024 bits).reverse else members1024 bits).map (fun i => BitVec.ofNat w i + add)

theorem expected_eq_take_blockAll {w : Nat} (rev : Bool) (bits : Bit1024) (add : BitVec w) (n : Int) :
    expected rev (members1024 bits) add n = (blockAll rev bits add).take n.toNat := by
  unfold expected blockAll
  rw [List.map_take]

theorem blockAll_map {w : Nat} (rev : Bool) (bits : Bit1024) (add : BitVec w) (val : BitVec w → Int) (base : Int)
    (hval : ∀ i, i < 1024 → val (BitVec.ofNat w i + add) = base + i) :
    (blockAll rev bits add).map val =
      (if rev then (members1024 bits).reverse else members1024 bits).map (fun (m : Nat) => base + (m : Int)) := by
  unfold blockAll
  rw [List.map_map]
  apply List.map_congr_left
  intro i hi
  have hi : i ∈ members1024 bits := by cases rev <;> simpa using hi
  exact hval i (mem1024_range bits i ((mem_members1024 bits i).1 hi))

theorem getN_of_iter {w : Nat} (c : Nv.C08.Cfg) (hc : Nv.C08.Proved c) (magic : Int) (rev : Bool) (bits : Bit1024)
    (add : BitVec w) (n : Int) (hn : 0 ≤ n) :
    getNOf n (fun s => iter1024 c magic rev bits s 0 add n) =
      if expected rev (members1024 bits) add n = [] then .nil else .slice (expected rev (members1024 bits) add n) := by
  apply getNOf_spec n hn
  intro s hs
  have := iter1024_spec c hc magic rev bits s 0 add n (by omega) (by rw [expected_length, hs]; simp; omega)
  simpa using this

/-- the output seen through any reading `val` of the elements under which element `i` of the block reads `base + i`:
    the first `min(n, Len)` members in the direction's order, so ascending resp. descending -/
theorem getN_block {w : Nat} (c : Nv.C08.Cfg) (hc : Nv.C08.Proved c) (magic : Int) (rev : Bool) (bits : Bit1024)
    (add : BitVec w) (n : Int) (hn : 0 ≤ n) (val : BitVec w → Int) (base : Int)
    (hval : ∀ i, i < 1024 → val (BitVec.ofNat w i + add) = base + i) :
    ∃ l, getNOf n (fun s => iter1024 c magic rev bits s 0 add n) = (if l = [] then GetN.nil else .slice l) ∧
      l.map val = ((if rev then (members1024 bits).reverse else members1024 bits).take n.toNat).map
        (fun (m : Nat) => base + (m : Int)) ∧
      l.length = min n.toNat (members1024 bits).length ∧
      (rev = false → (l.map val).Pairwise (· < ·)) ∧ (rev = true → (l.map val).Pairwise (· > ·)) := by
  have hvals : (expected rev (members1024 bits) add n).map val =
      ((if rev then (members1024 bits).reverse else members1024 bits).take n.toNat).map
        (fun (m : Nat) => base + (m : Int)) := by
    rw [expected_eq_take_blockAll, List.map_take, blockAll_map rev bits add val base hval, ← List.map_take]
  have hasc := members1024_ascending bits
  refine ⟨_, getN_of_iter c hc magic rev bits add n hn, hvals, expected_length _ _ _ _, ?_, ?_⟩
  · intro hr
    rw [hvals, hr, List.pairwise_map]
    exact (hasc.sublist (List.take_sublist _ _)).imp (fun h => by omega)
  · intro hr
    rw [hvals, hr, List.pairwise_map]
    exact ((List.pairwise_reverse.2 hasc).sublist (List.take_sublist _ _)).imp (fun h => by omega)

theorem mem_empty1024 (j : Nat) : mem1024 empty1024 j = false := by
  unfold mem1024 empty1024
  split <;> simp

theorem filter_range_eq (n m : Nat) (h : m < n) : (List.range n).filter (fun j => decide (j = m)) = [m] := by
  induction n with
  | zero => omega
  | succ n ih =>
    rw [List.range_succ, List.filter_append]
    by_cases e : m = n
    · subst e
      have : (List.range m).filter (fun j => decide (j = m)) = [] := by
        apply List.filter_eq_nil_iff.2
        intro a ha; have := List.mem_range.1 ha; simp; omega
      simp [this]
    · rw [ih (by omega)]
      have : ¬ n = m := fun h => e h.symm
      simp [this]

theorem members_single (m : BitVec 16) (k : Nat) (hk : k < 1024) (hm : m.toInt = (k : Int)) :
    members1024 (setI16 empty1024 m) = [k] := by
  unfold members1024
  rw [← filter_range_eq 1024 k hk]
  apply List.filter_congr
  intro j _
  rw [setI16_spec, mem_empty1024]
  simp only [Bool.false_or]
  apply decide_eq_decide.2
  omega

/-- the block the constructors build: one member, which any count `n ≥ 1` returns, whatever the direction -/
theorem getN_single {w : Nat} (c : Nv.C08.Cfg) (hc : Nv.C08.Proved c) (magic : Int) (rev : Bool) (m : BitVec 16)
    (k : Nat) (hk : k < 1024) (hm : m.toInt = (k : Int)) (add : BitVec w) (n : Int) (hn : 1 ≤ n) :
    getNOf n (fun s => iter1024 c magic rev (setI16 empty1024 m) s 0 add n) = .slice [BitVec.ofNat w k + add] := by
  have hexp : expected rev [k] add n = [BitVec.ofNat w k + add] := by
    rw [expected, List.reverse_singleton, ite_self, show n.toNat = (n.toNat - 1) + 1 by omega, List.take_succ_cons,
      List.take_nil]
    rfl
  rw [getN_of_iter c hc magic rev _ add n (by omega), members_single m k hk hm, hexp]
  simp

/-- `SetI64` / `SetU32` once the argument is known to be in range, with `st` and `m` its start and offset: accepted
    exactly into its own block, where the offset joins; otherwise nothing changes -/
theorem set_same_block (blk : Block) (st : BitVec 32) (m : BitVec 16) (k : Nat) (hk : k < 1024)
    (hm : m.toInt = (k : Int)) (r : Block × SetRes)
    (hr : r = if st != blk.start then (blk, .invalidStart) else (⟨blk.start, setI16 blk.bits m⟩, .ok)) :
    (r.2 = .ok ↔ blk.start.toNat = st.toNat) ∧ (r.2 ≠ .ok → r.1 = blk) ∧
    (r.2 = .ok → r.1.start = blk.start ∧ ∀ j, mem1024 r.1.bits j = (mem1024 blk.bits j || decide (k = j))) := by
  subst hr
  by_cases hs : st = blk.start
  · subst hs
    refine ⟨by simp, by simp, fun _ => ⟨by simp, fun j => ?_⟩⟩
    simp only [bne_self_eq_false, Bool.false_eq_true, if_false]
    rw [setI16_spec]
    congr 1
    apply decide_eq_decide.2
    omega
  · have hne : (st != blk.start) = true := by simpa using hs
    have hst : ¬ blk.start.toNat = st.toNat := fun e => hs (BitVec.eq_of_toNat_eq e.symm)
    simp [hne, hst]

/-- invariant of the block loop for any per-block iterator `it` that meets the single-block specification with full
    output `full b`: position `pos` is always `iterN`, `left` is always `n - iterN`, written here as the budget `m` -/
theorem listChain_spec {w : Nat} (it : Block → List (BitVec w) → Int → Int → Option (List (BitVec w) × Nat))
    (full : Block → List (BitVec w))
    (hit : ∀ (b : Block) (s : List (BitVec w)) (pos left : Int), 0 ≤ pos →
      pos.toNat + ((full b).take left.toNat).length ≤ s.length →
      it b s pos left = some (writeAt s pos.toNat ((full b).take left.toNat), ((full b).take left.toNat).length))
    (n : Int) :
    ∀ (bs : List Block) (s : List (BitVec w)) (iterN m : Nat), n = ((iterN + m : Nat) : Int) →
      iterN + ((bs.flatMap full).take m).length ≤ s.length →
      listChain it n bs s iterN =
        some (writeAt s iterN ((bs.flatMap full).take m), iterN + ((bs.flatMap full).take m).length)
  | [], s, iterN, m, _, _ => by
    simp [listChain, writeAt]
  | b :: rest, s, iterN, m, hn, hroom => by
    rw [listChain]
    by_cases hm : m = 0
    · rw [if_pos (by omega), hm]
      simp [writeAt]
    · rw [if_neg (by omega), show n - (iterN : Int) = (m : Int) by omega]
      rw [List.flatMap_cons, List.take_append, List.length_append] at hroom ⊢
      have hcall := hit b s iterN m (Int.natCast_nonneg _) (by rw [Int.toNat_natCast, Int.toNat_natCast]; omega)
      rw [Int.toNat_natCast, Int.toNat_natCast] at hcall
      rw [hcall]
      generalize full b = B at hroom ⊢
      -- the block takes `B.take m` of the budget and leaves `m - B.length` to the rest
      have hlen : (B.take m).length = min m B.length := List.length_take
      show listChain it n rest (writeAt s iterN (B.take m)) (iterN + (B.take m).length) = _
      rw [listChain_spec it full hit n rest _ _ (m - B.length) (by omega)
          (by rw [writeAt_length _ _ _ (by omega)]; omega),
        writeAt_append _ _ _ _ (by omega), Nat.add_assoc]

theorem length_flatMap_blockAll {w : Nat} (rev : Bool) (bs : List Block) (add : Block → BitVec w) :
    (bs.flatMap (fun b => blockAll rev b.bits (add b))).length = (bs.map (fun b => (members1024 b.bits).length)).sum := by
  have hl : ∀ b : Block, (blockAll rev b.bits (add b)).length = (members1024 b.bits).length := by
    intro b
    rw [blockAll, List.length_map]
    cases rev
    · rfl
    · exact List.length_reverse
  induction bs with
  | nil => rfl
  | cons b rest ih => rw [List.flatMap_cons, List.length_append, ih, List.map_cons, List.sum_cons, hl]

/-- a list form over the C08 iterator with block bases `add b`: `nil` for an empty list, a panic for a negative count
    on a non-empty list (`make`), otherwise the first `n` values of the concatenation (possibly empty, non-nil) -/
theorem listGetN_blocks {w : Nat} (c : Nv.C08.Cfg) (hc : Nv.C08.Proved c) (magic : Int) (rev : Bool)
    (add : Block → BitVec w) (n : Int) (bs : List Block) :
    listGetN (fun b s pos left => iter1024 c magic rev b.bits s pos (add b) left) n bs =
      if bs = [] then .nil else if n < 0 then .panic
      else .slice ((bs.flatMap (fun b => blockAll rev b.bits (add b))).take n.toNat) := by
  unfold listGetN
  cases bs with
  | nil => simp
  | cons b rest =>
    simp only [List.isEmpty_cons, Bool.false_eq_true, if_false, reduceCtorEq]
    by_cases hn : n < 0
    · simp [hn]
    · simp only [hn, if_false]
      rw [listChain_spec _ (fun b => blockAll rev b.bits (add b)) (fun b s pos left h0 hroom => by
          rw [← expected_eq_take_blockAll] at hroom ⊢
          exact iter1024_spec c hc magic rev b.bits s pos _ left h0 hroom) n (b :: rest) _ 0 n.toNat (by omega)
        (by simp; omega)]
      simp [writeAt]

end Nv.C09
