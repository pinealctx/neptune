import Nv.Model.C07
import Nv.Proofs.C06Step
/-! C07 — order of ids vs. order of their (timestamp, remaining bits) pairs; id intervals of time intervals. -/
namespace Nv.C07
open Nv.C06

/-- at most 43 bits of timestamp (`Node256`) and 22 remaining bits (`Node1024`) -/
theorem layout_pow {nb : BitVec 8} (hl : LayoutOk nb) : 2 ^ tsWidth nb ≤ 2 ^ 43 ∧ 2 ^ tsShift nb ≤ 2 ^ 22 := by
  rcases hl with rfl | rfl | rfl <;> decide

/-- C07's kernels write the time shift out instead of calling `figureShift` -/
theorem shift_toNat {nb : BitVec 8} (hl : LayoutOk nb) : (nb + 12#8).toNat = tsShift nb :=
  figureShift_time hl false

theorem rest_toNat {nb : BitVec 8} (hl : LayoutOk nb) (id : BitVec 64) : (rest id nb).toNat = id.toNat % 2 ^ tsShift nb := by
  unfold rest lowMask
  rw [shift_toNat hl]
  exact mask_toNat id (by have := width_add_shift hl; omega)

theorem rest_lt {nb : BitVec 8} (hl : LayoutOk nb) (id : BitVec 64) : (rest id nb).toNat < 2 ^ tsShift nb := by
  rw [rest_toNat hl]; exact Nat.mod_lt _ (Nat.two_pow_pos _)

theorem ts_toNat {nb : BitVec 8} (hl : LayoutOk nb) (nal : Bool) {id : BitVec 64} (h : id.toNat < 2 ^ 63) :
    (idFields id nb nal).1.toNat = id.toNat / 2 ^ tsShift nb := (idFields_toNat hl nal h).1

theorem ts_toInt {nb : BitVec 8} (hl : LayoutOk nb) (nal : Bool) {id : BitVec 64} (h : id.toNat < 2 ^ 63) :
    (idFields id nb nal).1.toInt = ((id.toNat / 2 ^ tsShift nb : Nat) : Int) := by
  rw [← ts_toNat hl nal h]
  exact (time_toInt (idFields_ranges hl nal h).1).1

/-- order of two numbers = lexicographic order of (quotient, remainder): comparing quotients is comparing with a
    multiple of `p`, and equal quotients mean equal multiples -/
theorem lt_iff_lex {p : Nat} (hp : 0 < p) (a b : Nat) :
    a < b ↔ (a / p < b / p ∨ (a / p = b / p ∧ a % p < b % p)) := by
  have hab : a / p < b / p ↔ a < b / p * p := Nat.div_lt_iff_lt_mul hp
  have hba : b / p < a / p ↔ b < a / p * p := Nat.div_lt_iff_lt_mul hp
  have heq : a / p = b / p → a / p * p = b / p * p := fun h => by rw [h]
  have ha := Nat.div_add_mod' a p
  have hb := Nat.div_add_mod' b p
  omega

/-- an id with timestamp `m` inside the width and every remaining bit set still fits 63 bits -/
theorem top_of_ts_lt {nb : BitVec 8} (hl : LayoutOk nb) {m : Nat} (hm : m < 2 ^ tsWidth nb) :
    m * 2 ^ tsShift nb + (2 ^ tsShift nb - 1) < 2 ^ 63 := by
  have := pack_lt hm (Nat.sub_lt (Nat.two_pow_pos (tsShift nb)) Nat.one_pos)
  rwa [width_add_shift hl] at this

theorem mem_block_iff {p : Nat} (hp : 0 < p) (lo hi n : Nat) :
    (lo * p ≤ n ∧ n ≤ hi * p + (p - 1)) ↔ (lo ≤ n / p ∧ n / p ≤ hi) := by
  have hlo : lo ≤ n / p ↔ lo * p ≤ n := Nat.le_div_iff_mul_le hp
  have hhi : n / p < hi + 1 ↔ n < (hi + 1) * p := Nat.div_lt_iff_lt_mul hp
  rw [Nat.succ_mul] at hhi
  omega

theorem timeBetweenID_toNat {nb : BitVec 8} (hl : LayoutOk nb) (epoch b e : BitVec 64)
    (hb : ((b * 1000#64) - epoch).toNat < 2 ^ tsWidth nb) (he : ((e * 1000#64) - epoch).toNat < 2 ^ tsWidth nb) :
    ((timeBetweenID nb epoch b e).1.toNat = ((b * 1000#64) - epoch).toNat * 2 ^ tsShift nb ∧
      (timeBetweenID nb epoch b e).1.toNat < 2 ^ 63) ∧
    ((timeBetweenID nb epoch b e).2.toNat = ((e * 1000#64) - epoch).toNat * 2 ^ tsShift nb + (2 ^ tsShift nb - 1) ∧
      (timeBetweenID nb epoch b e).2.toNat < 2 ^ 63) := by
  have tb := top_of_ts_lt hl hb
  have te := top_of_ts_lt hl he
  unfold timeBetweenID lowMask
  rw [shift_toNat hl, BitVec.toNat_or, shiftLeft_toNat tb (by decide), shiftLeft_toNat te (by decide),
    nodeMax_toNat (by have := width_add_shift hl; omega),
    or_eq_add_nat _ _ _ (Nat.sub_lt (Nat.two_pow_pos _) Nat.one_pos)]
  exact ⟨⟨rfl, by omega⟩, rfl, te⟩

end Nv.C07
