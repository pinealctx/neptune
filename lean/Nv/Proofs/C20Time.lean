import Nv.Proofs.C20Json
/-! C20 — instants and the int64 wrap of `UnixNano`. -/
namespace Nv.C20

theorem wrapI64_range (x : Int) : -(2 ^ 63 : Int) ≤ wrapI64 x ∧ wrapI64 x < 2 ^ 63 := by
  unfold wrapI64; omega

theorem wrapI64_eq_iff (x : Int) : wrapI64 x = x ↔ (-(2 ^ 63 : Int) ≤ x ∧ x < 2 ^ 63) := by
  unfold wrapI64; omega

theorem timeUnix_nano_iff (a : Int) (t : Time) (hv : t.nsec < 1000000000) :
    timeUnix 0 a = t ↔ a = t.sec * 1000000000 + t.nsec := by
  cases t with
  | mk s n =>
    have hv' : n < 1000000000 := hv
    simp only [timeUnix, Time.mk.injEq]
    omega

theorem timeUnix_unixNano_iff (t : Time) (hv : t.nsec < 1000000000) : timeUnix 0 t.unixNano = t ↔ t.FitsNano := by
  rw [timeUnix_nano_iff _ t hv]
  exact wrapI64_eq_iff _

theorem timeUnix_sec (v : Int) : timeUnix v 0 = ⟨v, 0⟩ := by
  simp [timeUnix]

theorem mapRes_ok {α β : Type} (f : α → β) {r : Res α} {v : α} (h : r = .ok v) : mapRes f r = .ok (f v) := by
  subst h; rfl

end Nv.C20
