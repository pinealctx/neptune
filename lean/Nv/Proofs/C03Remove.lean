import Nv.Proofs.C03Insert
/-!
C03 — `remove` / `growChildAndRemove` refine the sorted-set deletions and keep the structural invariant.
The dual of insert's discipline: before descending into a child the code makes sure it has more than
`minItems` items (steal from the left sibling, steal from the right sibling, or merge); each of the three
moves acts on an adjacent pair of children and the separator between them and keeps the pair's in-order
list. `deleteItem` adds the root collapse.
-/
namespace Nv.C03

/-! ### the index `remove` selects

After `grow` the Go code calls `remove` on the same node again, which recomputes the index on the changed
item list. `LocIs` pins an index down by the keys on either side of it, so that it can be followed through
the three moves. -/

theorem locate_le (is : List Item) (typ : Rm) : (locate is typ).1 ≤ is.length := by
  cases typ with
  | item k => exact findIdx_le is k
  | min => exact Nat.zero_le _
  | max => exact Nat.le_refl _

def LocIs (is : List Item) (typ : Rm) (j : Nat) : Prop :=
  match typ with
  | .item k => j ≤ is.length ∧ (∀ a ∈ is.take j, a.key < k) ∧ (∀ b ∈ is.drop j, k ≤ b.key)
  | .min => j = 0
  | .max => j = is.length

theorem locIs_locate (is : List Item) (typ : Rm) (hs : Sorted is) : LocIs is typ (locate is typ).1 := by
  cases typ with
  | item k => exact ⟨findIdx_le is k, findIdx_take_lt is k, findIdx_drop_ge is k hs⟩
  | min => rfl
  | max => rfl

theorem locate_of_locIs (is : List Item) (typ : Rm) (j : Nat) (h : LocIs is typ j) : (locate is typ).1 = j := by
  cases typ with
  | item k =>
    have := findIdx_append k (is.drop j) h.2.2 (is.take j) h.2.1
    rwa [List.take_append_drop, length_take_le _ _ h.1] at this
  | min => exact h.symm
  | max => exact h.symm

theorem locIs_below {A B : List Item} {s p : Item} {typ : Rm} (h : LocIs (A ++ s :: B) typ (A.length + 1))
    (hp : p.key < s.key) : LocIs (A ++ p :: B) typ (A.length + 1) := by
  cases typ with
  | min => exact h
  | max => simpa [LocIs] using h
  | item k =>
    obtain ⟨h1, h2, h3⟩ := h
    rw [take_pre1 _ _ _ _ rfl] at h2
    rw [drop_pre1 _ _ _ _ rfl] at h3
    refine ⟨by simp, ?_, by rwa [drop_pre1 _ _ _ _ rfl]⟩
    rw [take_pre1 _ _ _ _ rfl]
    intro a ha
    rcases List.mem_append.1 ha with ha | ha
    · exact h2 a (List.mem_append_left _ ha)
    · obtain rfl := List.mem_singleton.1 ha
      exact Int.lt_trans hp (h2 s (by simp))

theorem locIs_above {A B : List Item} {s p : Item} {typ : Rm} (h : LocIs (A ++ s :: B) typ A.length)
    (hp : s.key < p.key) : LocIs (A ++ p :: B) typ A.length := by
  cases typ with
  | min => exact h
  | max => simp [LocIs] at h
  | item k =>
    obtain ⟨h1, h2, h3⟩ := h
    rw [take_pre _ _ _ rfl] at h2
    rw [drop_pre _ _ _ rfl] at h3
    refine ⟨by simp, by rwa [take_pre _ _ _ rfl], ?_⟩
    rw [drop_pre _ _ _ rfl]
    intro b hb
    rcases List.mem_cons.1 hb with rfl | hb
    · exact Int.le_trans (h3 s (by simp)) (Int.le_of_lt hp)
    · exact h3 b (by simp [hb])

theorem locIs_remove {A B : List Item} {s : Item} {typ : Rm} {i : Nat} (h : LocIs (A ++ s :: B) typ i)
    (hi : i = A.length ∨ (i = A.length + 1 ∧ B = [])) : LocIs (A ++ B) typ A.length := by
  cases typ with
  | min =>
    rcases hi with hi | ⟨hi, _⟩
    · exact hi ▸ h
    · exact absurd (hi ▸ h : A.length + 1 = 0) (Nat.succ_ne_zero _)
  | max =>
    have h : i = (A ++ s :: B).length := h
    rcases hi with hi | ⟨hi, rfl⟩
    · simp [hi] at h
    · simp [LocIs]
  | item k =>
    obtain ⟨_, h2, h3⟩ := h
    rcases hi with rfl | ⟨rfl, rfl⟩
    · rw [take_pre _ _ _ rfl] at h2
      rw [drop_pre _ _ _ rfl] at h3
      exact ⟨by simp, by rwa [take_pre _ _ _ rfl], by
        rw [drop_pre _ _ _ rfl]; exact fun b hb => h3 b (by simp [hb])⟩
    · rw [take_pre1 _ _ _ _ rfl] at h2
      exact ⟨by simp, by simpa using fun a ha => h2 a (List.mem_append_left _ ha), by simp⟩

theorem leaf_remove_spec (is : List Item) (typ : Rm) (hs : Sorted is) :
    leafRemove is typ = specRemove is typ := by
  cases typ with
  | min => rfl
  | max => rfl
  | item k =>
    simp only [leafRemove, specRemove]
    cases hf : (findIdx is k).2 with
    | true =>
      obtain ⟨y, hy, rfl⟩ := (findIdx_found is k).1 hf
      have hsplit := split_of_getElem? hy
      rw [hsplit] at hs
      rw [if_pos rfl, hy, removeAt]
      conv => rhs; rw [hsplit]
      rw [specDelete_at _ y _ _ hs.lt_mid.1 hs.lt_mid.2 rfl, specFind_at _ y _ _ hs.lt_mid.1 rfl]
    | false =>
      have hne := findIdx_not_found_ne is k hs hf
      rw [if_neg (by simp), specDelete_none k is hne, specFind_none k is hne]

theorem steal_left_spec (mn mx : Nat) (h : Nat) (a b : Node) (sep : Item) (ha : nodeOk mn mx h a = true)
    (hb : nodeOk mn mx h b = true) (hbig : mn < a.items.length) (hroom : b.items.length < mx) :
    (Node.mk a.items.dropLast a.children.dropLast).inorder ++ (a.items.getLast?.getD default) ::
        (Node.mk (sep :: b.items) (a.children.getLast?.toList ++ b.children)).inorder =
      a.inorder ++ sep :: b.inorder ∧
    nodeOk mn mx h (.mk a.items.dropLast a.children.dropLast) = true ∧
    nodeOk mn mx h (.mk (sep :: b.items) (a.children.getLast?.toList ++ b.children)) = true := by
  obtain ⟨hma, hxa, ha⟩ := (nodeOk_iff _ _ _ _).1 ha
  obtain ⟨hmb, hxb, hb⟩ := (nodeOk_iff _ _ _ _).1 hb
  obtain ⟨ai, ac⟩ := a
  obtain ⟨bi, bc⟩ := b
  obtain ⟨ai, p, rfl⟩ := exists_snoc (List.ne_nil_of_length_pos (Nat.zero_lt_of_lt hbig))
  simp only [items_mk, children_mk, List.length_append, List.dropLast_concat, List.getLast?_concat,
    Option.getD_some, nodeOk_iff, List.length_cons] at hxa hbig hroom hmb ⊢
  cases h with
  | zero =>
    obtain rfl : ac = [] := ha
    obtain rfl : bc = [] := hb
    exact ⟨by simp, ⟨Nat.le_of_lt_succ hbig, Nat.le_of_succ_le hxa, rfl⟩, Nat.le_succ_of_le hmb, hroom, rfl⟩
  | succ h =>
    obtain ⟨ac, cl, rfl⟩ := exists_snoc (l := ac) (by intro e; have := ha.1; rw [e] at this; simp at this)
    have hl : ac.length = ai.length + 1 := by simpa using ha.1
    simp only [List.dropLast_concat, List.getLast?_concat, Option.toList_some, List.singleton_append]
    refine ⟨?_, ⟨Nat.le_of_lt_succ hbig, Nat.le_of_succ_le hxa, hl, fun c hc => ha.2 c (List.mem_append_left _ hc)⟩,
      Nat.le_succ_of_le hmb, hroom, by simpa using hb.1, ?_⟩
    · have := interleave_append ai ac p [] [cl] hl
      simp [this]
    · intro c hc
      rcases List.mem_cons.1 hc with rfl | hc
      · exact ha.2 _ (by simp)
      · exact hb.2 c hc

theorem steal_right_spec (mn mx : Nat) (h : Nat) (a b : Node) (sep : Item) (ha : nodeOk mn mx h a = true)
    (hb : nodeOk mn mx h b = true) (hbig : mn < b.items.length) (hroom : a.items.length < mx) :
    (Node.mk (a.items ++ [sep]) (a.children ++ b.children.take 1)).inorder ++ (b.items.head?.getD default) ::
        (Node.mk (b.items.drop 1) (b.children.drop 1)).inorder =
      a.inorder ++ sep :: b.inorder ∧
    nodeOk mn mx h (.mk (a.items ++ [sep]) (a.children ++ b.children.take 1)) = true ∧
    nodeOk mn mx h (.mk (b.items.drop 1) (b.children.drop 1)) = true := by
  obtain ⟨hma, hxa, ha⟩ := (nodeOk_iff _ _ _ _).1 ha
  obtain ⟨hmb, hxb, hb⟩ := (nodeOk_iff _ _ _ _).1 hb
  obtain ⟨ai, ac⟩ := a
  obtain ⟨bi, bc⟩ := b
  obtain ⟨bh, bi, rfl⟩ := List.exists_cons_of_ne_nil (List.ne_nil_of_length_pos (Nat.zero_lt_of_lt hbig))
  simp only [items_mk, children_mk, List.length_append, List.length_cons, List.length_nil, List.drop_succ_cons,
    List.drop_zero, List.head?_cons, Option.getD_some, nodeOk_iff] at hma hxb hbig hroom ⊢
  cases h with
  | zero =>
    obtain rfl : ac = [] := ha
    obtain rfl : bc = [] := hb
    exact ⟨by simp, ⟨Nat.le_succ_of_le hma, hroom, rfl⟩, Nat.le_of_lt_succ hbig, Nat.le_of_succ_le hxb, rfl⟩
  | succ h =>
    obtain ⟨g, bc, rfl⟩ := List.exists_cons_of_ne_nil (l := bc) (by intro e; have := hb.1; rw [e] at this; simp at this)
    have hal : ac.length = ai.length + 1 := ha.1
    simp only [List.take_succ_cons, List.take_zero, List.drop_succ_cons, List.drop_zero]
    refine ⟨?_, ⟨Nat.le_succ_of_le hma, hroom, by simp [hal], ?_⟩, Nat.le_of_lt_succ hbig, Nat.le_of_succ_le hxb,
      by simpa using hb.1, fun c hc => hb.2 c (List.mem_cons_of_mem g hc)⟩
    · have := interleave_append ai ac sep [] [g] hal
      simp [this]
    · intro c hc
      rcases List.mem_append.1 hc with hc | hc
      · exact ha.2 c hc
      · obtain rfl := List.mem_singleton.1 hc
        exact hb.2 c (by simp)

theorem merge_spec (mn mx : Nat) (h : Nat) (a b : Node) (sep : Item) (ha : nodeOk mn mx h a = true)
    (hb : nodeOk mn mx h b = true) (hfit : a.items.length + b.items.length + 1 ≤ mx) :
    (Node.mk (a.items ++ sep :: b.items) (a.children ++ b.children)).inorder = a.inorder ++ sep :: b.inorder ∧
    nodeOk mn mx h (.mk (a.items ++ sep :: b.items) (a.children ++ b.children)) = true := by
  obtain ⟨hma, _, ha⟩ := (nodeOk_iff _ _ _ _).1 ha
  obtain ⟨_, _, hb⟩ := (nodeOk_iff _ _ _ _).1 hb
  obtain ⟨ai, ac⟩ := a
  obtain ⟨bi, bc⟩ := b
  simp only [items_mk, children_mk, nodeOk_iff, List.length_append, List.length_cons] at hma hfit ⊢
  refine ⟨?_, Nat.le_trans hma (Nat.le_add_right _ _), hfit, ?_⟩
  · cases h with
    | zero =>
      obtain rfl : ac = [] := ha
      obtain rfl : bc = [] := hb
      simp
    | succ h => simpa using interleave_append ai ac sep bi bc ha.1
  · cases h with
    | zero => exact (by rw [show ac = [] from ha, show bc = [] from hb]; rfl)
    | succ h =>
      have hal : ac.length = ai.length + 1 := ha.1
      have hbl : bc.length = bi.length + 1 := hb.1
      refine ⟨by simp only [children_mk, items_mk, List.length_append, List.length_cons, hal, hbl]; omega, ?_⟩
      intro c hc
      rcases List.mem_append.1 hc with hc | hc
      · exact ha.2 c hc
      · exact hb.2 c hc

/-- what the rebalancing step guarantees: the node keeps its in-order list and invariant, loses at most one
    item, and the child that `remove` selects next has more than `minItems` items -/
structure GrowPost (mn : Nat) (h : Nat) (is : List Item) (cs : List Node) (typ : Rm) (g : List Item × List Node) : Prop where
  inorder : interleave g.1 g.2 = interleave is cs
  kids : KidsOk mn (2 * mn + 1) (h + 1) (.mk g.1 g.2)
  lo : is.length ≤ g.1.length + 1
  hi : g.1.length ≤ is.length
  big : mn < (g.2.getD (locate g.1 typ).1 default).items.length

theorem pair_at {is : List Item} {cs : List Node} {j : Nat} (hl : cs.length = is.length + 1) (hj : j < is.length) :
    ∃ A sep B Ac a b Bc, is = A ++ sep :: B ∧ cs = Ac ++ a :: b :: Bc ∧ A.length = j ∧ Ac.length = j := by
  have hj1 : j + 1 < cs.length := hl ▸ Nat.succ_lt_succ hj
  have hj0 : j < cs.length := Nat.lt_of_succ_lt hj1
  refine ⟨is.take j, is.getD j default, is.drop (j + 1), cs.take j, cs.getD j default, cs.getD (j + 1) default,
    cs.drop (j + 1 + 1), list_split_at is j default hj, ?_, length_take_le _ _ (Nat.le_of_lt hj),
    length_take_le _ _ (Nat.le_of_lt hj0)⟩
  rw [getD_eq_getElem cs (j + 1) default hj1, List.getElem_cons_drop hj1]
  exact list_split_at cs j default hj0

theorem growPost_pair {mn h : Nat} {A B : List Item} {sep p : Item} {Ac Bc : List Node} {a b a' b' : Node} {typ : Rm}
    (hAc : Ac.length = A.length) (hk : KidsOk mn (2 * mn + 1) (h + 1) (.mk (A ++ sep :: B) (Ac ++ a :: b :: Bc)))
    (hin : a'.inorder ++ p :: b'.inorder = a.inorder ++ sep :: b.inorder)
    (ha' : nodeOk mn (2 * mn + 1) h a' = true) (hb' : nodeOk mn (2 * mn + 1) h b' = true)
    (hbig : mn < ((Ac ++ a' :: b' :: Bc).getD (locate (A ++ p :: B) typ).1 default).items.length) :
    GrowPost mn h (A ++ sep :: B) (Ac ++ a :: b :: Bc) typ (A ++ p :: B, Ac ++ a' :: b' :: Bc) := by
  refine ⟨?_, kidsOk_splice (C := [a, b]) (C' := [a', b']) hk (by simp) ?_, by simp, by simp, hbig⟩
  · rw [interleave_decomp2 A Ac p B a' b' Bc hAc, interleave_decomp2 A Ac sep B a b Bc hAc, hin]
  · intro c hc
    rcases List.mem_cons.1 hc with rfl | hc
    · exact ha'
    · exact List.mem_singleton.1 hc ▸ hb'

theorem growPost_one {mn h : Nat} {A B : List Item} {sep : Item} {Ac Bc : List Node} {a b m : Node} {typ : Rm}
    (hAc : Ac.length = A.length) (hk : KidsOk mn (2 * mn + 1) (h + 1) (.mk (A ++ sep :: B) (Ac ++ a :: b :: Bc)))
    (hin : m.inorder = a.inorder ++ sep :: b.inorder) (hm : nodeOk mn (2 * mn + 1) h m = true)
    (hbig : mn < ((Ac ++ m :: Bc).getD (locate (A ++ B) typ).1 default).items.length) :
    GrowPost mn h (A ++ sep :: B) (Ac ++ a :: b :: Bc) typ (A ++ B, Ac ++ m :: Bc) := by
  refine ⟨?_, kidsOk_splice (C := [a, b]) (C' := [m]) hk (by simp [Nat.add_assoc]) ?_, by simp [Nat.add_assoc],
    by simp, hbig⟩
  · rw [interleave_decomp A Ac B m Bc hAc, interleave_decomp2 A Ac sep B a b Bc hAc, hin]
  · intro c hc
    exact List.mem_singleton.1 hc ▸ hm

theorem pair_sorted {A B : List Item} {sep : Item} {Ac Bc : List Node} {a b : Node} (hAc : Ac.length = A.length)
    (hs : Sorted (interleave (A ++ sep :: B) (Ac ++ a :: b :: Bc))) :
    (∀ x ∈ a.inorder, x.key < sep.key) ∧ (∀ y ∈ b.inorder, sep.key < y.key) := by
  rw [interleave_decomp2 A Ac sep B a b Bc hAc] at hs
  exact hs.append_left.append_right.lt_mid

/-- steal from the left sibling: the child `A.length + 1` that `remove` selected grows by the separator -/
theorem growPost_left {mn h : Nat} {A B : List Item} {sep : Item} {Ac Bc : List Node} {a b : Node} {typ : Rm}
    (hAc : Ac.length = A.length) (hk : KidsOk mn (2 * mn + 1) (h + 1) (.mk (A ++ sep :: B) (Ac ++ a :: b :: Bc)))
    (hs : Sorted (interleave (A ++ sep :: B) (Ac ++ a :: b :: Bc))) (hloc : LocIs (A ++ sep :: B) typ (A.length + 1))
    (hbig : mn < a.items.length) (hsmall : b.items.length ≤ mn) :
    GrowPost mn h (A ++ sep :: B) (Ac ++ a :: b :: Bc) typ
      (A ++ a.items.getLast?.getD default :: B,
        Ac ++ .mk a.items.dropLast a.children.dropLast ::
          .mk (sep :: b.items) (a.children.getLast?.toList ++ b.children) :: Bc) := by
  have ha := hk.2 a (by simp)
  have hb := hk.2 b (by simp)
  have hane : a.items ≠ [] := List.ne_nil_of_length_pos (Nat.zero_lt_of_lt hbig)
  have S := steal_left_spec mn (2 * mn + 1) h a b sep ha hb hbig (Nat.lt_of_le_of_lt hsmall (lt_full mn))
  have hp : (a.items.getLast?.getD default).key < sep.key := by
    apply (pair_sorted hAc hs).1
    rw [List.getLast?_eq_some_getLast hane]
    exact mem_items_inorder' a _ (kids_shape_or _ _ _ _ ((nodeOk_iff _ _ _ _).1 ha).2.2) (List.getLast_mem hane)
  refine growPost_pair hAc hk S.1 S.2.1 S.2.2 ?_
  rw [locate_of_locIs _ _ _ (locIs_below hloc hp), getD_pre1 _ _ _ _ _ _ hAc]
  exact Nat.lt_succ_of_le ((nodeOk_iff _ _ _ _).1 hb).1

/-- steal from the right sibling: the selected child `A.length` grows by the separator -/
theorem growPost_right {mn h : Nat} {A B : List Item} {sep : Item} {Ac Bc : List Node} {a b : Node} {typ : Rm}
    (hAc : Ac.length = A.length) (hk : KidsOk mn (2 * mn + 1) (h + 1) (.mk (A ++ sep :: B) (Ac ++ a :: b :: Bc)))
    (hs : Sorted (interleave (A ++ sep :: B) (Ac ++ a :: b :: Bc))) (hloc : LocIs (A ++ sep :: B) typ A.length)
    (hbig : mn < b.items.length) (hsmall : a.items.length ≤ mn) :
    GrowPost mn h (A ++ sep :: B) (Ac ++ a :: b :: Bc) typ
      (A ++ b.items.head?.getD default :: B,
        Ac ++ .mk (a.items ++ [sep]) (a.children ++ b.children.take 1) ::
          .mk (b.items.drop 1) (b.children.drop 1) :: Bc) := by
  have ha := hk.2 a (by simp)
  have hb := hk.2 b (by simp)
  have S := steal_right_spec mn (2 * mn + 1) h a b sep ha hb hbig (Nat.lt_of_le_of_lt hsmall (lt_full mn))
  have hp : sep.key < (b.items.head?.getD default).key := by
    apply (pair_sorted hAc hs).2
    obtain ⟨bh, bt, e⟩ := List.exists_cons_of_ne_nil (List.ne_nil_of_length_pos (Nat.zero_lt_of_lt hbig))
    rw [e]
    exact mem_items_inorder' b _ (kids_shape_or _ _ _ _ ((nodeOk_iff _ _ _ _).1 hb).2.2) (by simp [e])
  refine growPost_pair hAc hk S.1 S.2.1 S.2.2 ?_
  rw [locate_of_locIs _ _ _ (locIs_above hloc hp), getD_pre _ _ _ _ _ hAc, items_mk, List.length_append]
  exact Nat.lt_succ_of_le ((nodeOk_iff _ _ _ _).1 ha).1

/-- merge: both siblings are down to `mn` items; the merged node is the selected child -/
theorem growPost_merge {mn h : Nat} {A B : List Item} {sep : Item} {Ac Bc : List Node} {a b : Node} {typ : Rm}
    (hAc : Ac.length = A.length) (hk : KidsOk mn (2 * mn + 1) (h + 1) (.mk (A ++ sep :: B) (Ac ++ a :: b :: Bc)))
    (hloc : LocIs (A ++ B) typ A.length) (hla : a.items.length ≤ mn) (hlb : b.items.length ≤ mn) :
    GrowPost mn h (A ++ sep :: B) (Ac ++ a :: b :: Bc) typ
      (A ++ B, Ac ++ .mk (a.items ++ sep :: b.items) (a.children ++ b.children) :: Bc) := by
  have ha := hk.2 a (by simp)
  have S := merge_spec mn (2 * mn + 1) h a b sep ha (hk.2 b (by simp))
    (by rw [Nat.two_mul]; exact Nat.succ_le_succ (Nat.add_le_add hla hlb))
  refine growPost_one hAc hk S.1 S.2 ?_
  rw [locate_of_locIs _ _ _ hloc, getD_pre _ _ _ _ _ hAc, items_mk, List.length_append]
  exact Nat.lt_of_le_of_lt ((nodeOk_iff _ _ _ _).1 ha).1 (Nat.lt_add_of_pos_right (Nat.succ_pos _))

theorem grow_spec (mn : Nat) (h : Nat) (is : List Item) (cs : List Node) (typ : Rm) (i : Nat)
    (hk : KidsOk mn (2 * mn + 1) (h + 1) (.mk is cs)) (hs : Sorted (interleave is cs)) (h1 : 1 ≤ is.length)
    (hloc : LocIs is typ i) (hi : i ≤ is.length) (hsmall : (cs.getD i default).items.length ≤ mn) :
    GrowPost mn h is cs typ (grow mn is cs i) := by
  have hl : cs.length = is.length + 1 := hk.1
  unfold grow
  by_cases hA : 0 < i ∧ mn < (cs.getD (i - 1) default).items.length
  · -- steal from the left sibling: the pair is `(i - 1, i)`
    rw [if_pos hA]
    obtain ⟨j, rfl⟩ := Nat.exists_eq_add_one.2 hA.1
    obtain ⟨A, sep, B, Ac, a, b, Bc, rfl, rfl, rfl, hAc⟩ := pair_at hl hi
    simp only [Nat.add_sub_cancel, getD_pre _ _ _ _ _ hAc, getD_pre1 _ _ _ _ _ _ hAc, take_pre _ _ _ hAc,
      drop_pre2 _ _ _ _ _ hAc, setAt_pre _ _ _ _ _ rfl, getD_pre _ _ _ _ _ rfl] at hA hsmall ⊢
    exact growPost_left hAc hk hs hloc hA.2 hsmall
  · rw [if_neg hA]
    by_cases hB : i < is.length ∧ mn < (cs.getD (i + 1) default).items.length
    · -- steal from the right sibling: the pair is `(i, i + 1)`
      rw [if_pos hB]
      obtain ⟨A, sep, B, Ac, a, b, Bc, rfl, rfl, rfl, hAc⟩ := pair_at hl hB.1
      simp only [getD_pre _ _ _ _ _ hAc, getD_pre1 _ _ _ _ _ _ hAc, take_pre _ _ _ hAc,
        drop_pre2 _ _ _ _ _ hAc, setAt_pre _ _ _ _ _ rfl, getD_pre _ _ _ _ _ rfl] at hB hsmall ⊢
      exact growPost_right hAc hk hs hloc hB.2 hsmall
    · -- merge with the right sibling, or, for the last child, with the left one
      rw [if_neg hB]
      rcases Nat.lt_or_ge i is.length with hil | hil
      · rw [if_neg (Nat.not_le.2 hil)]
        obtain ⟨A, sep, B, Ac, a, b, Bc, rfl, rfl, rfl, hAc⟩ := pair_at hl hil
        simp only [getD_pre _ _ _ _ _ hAc, getD_pre1 _ _ _ _ _ _ hAc, take_pre _ _ _ hAc,
          drop_pre2 _ _ _ _ _ hAc, removeAt_pre _ _ _ _ rfl, getD_pre _ _ _ _ _ rfl] at hB hsmall ⊢
        exact growPost_merge hAc hk (locIs_remove hloc (Or.inl rfl)) hsmall
          (Nat.le_of_not_lt fun hh => hB ⟨hil, hh⟩)
      · rw [if_pos hil]
        obtain ⟨j, rfl⟩ := Nat.exists_eq_add_one.2 (Nat.lt_of_lt_of_le h1 hil)
        obtain ⟨A, sep, B, Ac, a, b, Bc, rfl, rfl, rfl, hAc⟩ := pair_at hl hi
        have hB0 : B = [] := by
          simp only [List.length_append, List.length_cons] at hil
          exact List.eq_nil_of_length_eq_zero
            (Nat.eq_zero_of_le_zero (Nat.le_of_succ_le_succ (Nat.le_of_add_le_add_left hil)))
        simp only [Nat.add_sub_cancel, getD_pre _ _ _ _ _ hAc, getD_pre1 _ _ _ _ _ _ hAc, take_pre _ _ _ hAc,
          drop_pre2 _ _ _ _ _ hAc, removeAt_pre _ _ _ _ rfl, getD_pre _ _ _ _ _ rfl] at hA hsmall ⊢
        exact growPost_merge hAc hk (locIs_remove hloc (Or.inr ⟨rfl, hB0⟩))
          (Nat.le_of_not_lt fun hh => hA ⟨Nat.succ_pos _, hh⟩) hsmall

/-- what `removeH` guarantees for a node with at least one item (a non-root node has more than `minItems`) -/
structure RemovePost (mn : Nat) (h : Nat) (n : Node) (typ : Rm) (r : Node × Option Item) : Prop where
  inorder : r.1.inorder = (specRemove n.inorder typ).1
  ret : r.2 = (specRemove n.inorder typ).2
  kids : KidsOk mn (2 * mn + 1) h r.1
  lo : n.items.length ≤ r.1.items.length + 1
  hi : r.1.items.length ≤ n.items.length

theorem removePost_transfer {mn h : Nat} {typ : Rm} {is is' : List Item} {cs cs' : List Node} {r : Node × Option Item}
    (hin : interleave is' cs' = interleave is cs) (hlo : is.length ≤ r.1.items.length + 1) (hhi : is'.length ≤ is.length)
    (D : RemovePost mn (h + 1) (.mk is' cs') typ r) : RemovePost mn (h + 1) (.mk is cs) typ r :=
  ⟨by rw [D.inorder, inorder_mk, inorder_mk, hin], by rw [D.ret, inorder_mk, inorder_mk, hin], D.kids,
    hlo, Nat.le_trans D.hi hhi⟩

theorem removePost_kids {mn h : Nat} {typ : Rm} {is is' : List Item} {Ac Bc : List Node} {c : Node}
    {r : Node × Option Item} (hk : KidsOk mn (2 * mn + 1) (h + 1) (.mk is (Ac ++ c :: Bc)))
    (hlen : is'.length = is.length) (hbig : mn < c.items.length) (P : RemovePost mn h c typ r) :
    KidsOk mn (2 * mn + 1) (h + 1) (.mk is' (Ac ++ r.1 :: Bc)) := by
  have hc := (nodeOk_iff _ _ _ _).1 (hk.2 c (by simp))
  refine kidsOk_splice (C := [c]) (C' := [r.1]) hk (congrArg (· + 1) hlen) ?_
  intro d hd
  obtain rfl := List.mem_singleton.1 hd
  exact (nodeOk_iff _ _ _ _).2 ⟨Nat.le_of_lt_succ (Nat.lt_of_lt_of_le hbig P.lo), Nat.le_trans P.hi hc.2.1, P.kids⟩

/-- the child `c` selected by `remove`, which has more than `minItems` items, is replaced by the result of
    the recursive call; the parts of the node on either side of `c` cannot be affected by the removal -/
theorem removePost_descend {mn h : Nat} {typ : Rm} {A B : List Item} {Ac Bc : List Node} {c : Node}
    {r : Node × Option Item} (hAc : Ac.length = A.length)
    (hk : KidsOk mn (2 * mn + 1) (h + 1) (.mk (A ++ B) (Ac ++ c :: Bc)))
    (hside : SideOk typ (flatL A Ac) (rightPart B Bc)) (hbig : mn < c.items.length)
    (P : RemovePost mn h c typ r) :
    RemovePost mn (h + 1) (.mk (A ++ B) (Ac ++ c :: Bc)) typ (.mk (A ++ B) (Ac ++ r.1 :: Bc), r.2) := by
  have hspec := specRemove_mid typ _ _ _ (inorder_ne_nil c (Nat.zero_lt_of_lt hbig)) hside
  rw [← interleave_decomp A Ac B c Bc hAc] at hspec
  refine ⟨?_, ?_, ?_, Nat.le_succ _, Nat.le_refl _⟩
  · rw [inorder_mk, inorder_mk, hspec, interleave_decomp A Ac B r.1 Bc hAc, P.inorder]
  · rw [inorder_mk, hspec, P.ret]
  · exact removePost_kids hk rfl hbig P

/-- the item to remove is `y`, an item of this node: it is replaced by its predecessor, the largest item
    of the child `c` left of it, which `remove(max)` pulls out of `c` -/
theorem removePost_pred {mn h : Nat} {y : Item} {A B : List Item} {Ac Bc : List Node} {c : Node}
    {r : Node × Option Item} (hAc : Ac.length = A.length)
    (hk : KidsOk mn (2 * mn + 1) (h + 1) (.mk (A ++ y :: B) (Ac ++ c :: Bc)))
    (hs : Sorted (interleave (A ++ y :: B) (Ac ++ c :: Bc))) (hbig : mn < c.items.length)
    (P : RemovePost mn h c .max r) :
    RemovePost mn (h + 1) (.mk (A ++ y :: B) (Ac ++ c :: Bc)) (.item y.key)
      (.mk (A ++ r.2.getD default :: B) (Ac ++ r.1 :: Bc), some y) := by
  obtain ⟨p, hp⟩ : ∃ p, c.inorder.getLast? = some p := by
    rw [List.getLast?_eq_some_getLast (inorder_ne_nil c (Nat.zero_lt_of_lt hbig))]; exact ⟨_, rfl⟩
  obtain ⟨init, hinit⟩ := List.getLast?_eq_some_iff.1 hp
  have hr1 : r.1.inorder = init := by rw [P.inorder, hinit]; simp [specRemove]
  have hr2 : r.2 = some p := by rw [P.ret]; exact hp
  have hold := interleave_decomp A Ac (y :: B) c Bc hAc
  rw [rightPart_cons] at hold
  rw [hold] at hs
  obtain ⟨hL, hR⟩ := hs.lt_mid
  refine ⟨?_, ?_, ?_, by simp, by simp⟩
  · rw [inorder_mk, inorder_mk, hold, specRemove, specDelete_at y.key y _ _ hL hR rfl, hr2, Option.getD_some,
      interleave_decomp A Ac (p :: B) r.1 Bc hAc, hr1, hinit]
    simp
  · rw [inorder_mk, hold, specRemove, specFind_at y.key y _ _ hL rfl]
  · exact removePost_kids hk (by simp) hbig P

/-- the second half of `remove` on an inner node: the selected child has more than `minItems` items;
    the node keeps its number of items -/
theorem descend_remove (mn : Nat) (h : Nat) (typ : Rm) (is : List Item) (cs : List Node)
    (ih : ∀ (n : Node) (typ : Rm), KidsOk mn (2 * mn + 1) h n → Sorted n.inorder → 1 ≤ n.items.length →
      RemovePost mn h n typ (removeH mn h n typ))
    (hk : KidsOk mn (2 * mn + 1) (h + 1) (.mk is cs)) (hs : Sorted (interleave is cs))
    (hbig : mn < (cs.getD (locate is typ).1 default).items.length) :
    let r := if (locate is typ).2 then
        (.mk (setAt is (locate is typ).1 ((removeH mn h (cs.getD (locate is typ).1 default) .max).2.getD default))
            (setAt cs (locate is typ).1 (removeH mn h (cs.getD (locate is typ).1 default) .max).1),
          is[(locate is typ).1]?)
      else
        (.mk is (setAt cs (locate is typ).1 (removeH mn h (cs.getD (locate is typ).1 default) typ).1),
          (removeH mn h (cs.getD (locate is typ).1 default) typ).2)
    RemovePost mn (h + 1) (.mk is cs) typ r ∧ is.length ≤ r.1.items.length := by
  have hi := locate_le is typ
  generalize hj : (locate is typ).1 = j at hbig hi ⊢
  obtain ⟨hcut, hAc, hCok, hCs⟩ := child_at hk hs hi
  have hCk := ((nodeOk_iff _ _ _ _).1 hCok).2.2
  have hC1 : 1 ≤ (cs.getD j default).items.length := Nat.zero_lt_of_lt hbig
  cases hf : (locate is typ).2 with
  | true =>
    -- only `removeItem` can find the item here
    cases typ with
    | min => exact absurd hf (by simp [locate])
    | max => exact absurd hf (by simp [locate])
    | item k =>
      obtain ⟨y, hy, rfl⟩ := (findIdx_found is k).1 hf
      have hj : (findIdx is y.key).1 = j := hj
      rw [hj] at hy
      have hicut := split_of_getElem? hy
      have D := removePost_pred (y := y) (A := is.take j) (B := is.drop (j + 1)) hAc (by rwa [← hicut, ← hcut])
        (by rwa [← hicut, ← hcut]) hbig (ih _ .max hCk hCs hC1)
      rw [← hicut, ← hcut] at D
      simp only [if_true, hy]
      exact ⟨D, Nat.le_of_eq (setAt_length _ _ _ (List.getElem?_eq_some_iff.1 hy).1).symm⟩
  | false =>
    have hside : SideOk typ (flatL (is.take j) (cs.take j)) (rightPart (is.drop j) (cs.drop (j + 1))) := by
      cases typ with
      | min => obtain rfl : 0 = j := hj; rfl
      | max => obtain rfl : is.length = j := hj; simp [SideOk]
      | item k =>
        obtain rfl : (findIdx is k).1 = j := hj
        exact sides_of_sorted k _ _ _ _ _ hAc (by rwa [List.take_append_drop, ← hcut]) (findIdx_take_lt is k)
          (findIdx_not_found_gt is k (sorted_items is cs hs) hf)
    have D := removePost_descend hAc (by rwa [List.take_append_drop, ← hcut]) hside hbig (ih _ typ hCk hCs hC1)
    rw [List.take_append_drop, ← hcut] at D
    simp only [Bool.false_eq_true, if_false]
    exact ⟨D, Nat.le_refl _⟩

theorem removeH_spec (mn : Nat) : ∀ (h : Nat) (n : Node) (typ : Rm),
    KidsOk mn (2 * mn + 1) h n → Sorted n.inorder → 1 ≤ n.items.length →
    RemovePost mn h n typ (removeH mn h n typ) := by
  intro h
  induction h with
  | zero =>
    rintro ⟨is, cs⟩ typ hk hs h1
    obtain rfl : cs = [] := hk
    rw [inorder_mk, interleave_nil_right] at hs
    have hl := specRemove_length typ is hs
    simp only [removeH, leaf_remove_spec is typ hs]
    refine ⟨rfl, rfl, rfl, ?_, ?_⟩ <;> rw [items_mk, items_mk, hl] <;> split
    · exact Nat.le_add_of_sub_le (Nat.le_refl _)
    · exact Nat.le_succ _
    · exact Nat.sub_le _ _
    · exact Nat.le_refl _
  | succ h ih =>
    rintro ⟨is, cs⟩ typ hk hs h1
    rw [inorder_mk] at hs
    obtain ⟨c0, cs0, rfl⟩ : ∃ c0 cs0, cs = c0 :: cs0 := by
      cases cs with
      | nil => have := hk.1; simp at this
      | cons c0 cs0 => exact ⟨c0, cs0, rfl⟩
    simp only [removeH]
    by_cases hsmall : ((c0 :: cs0).getD (locate is typ).1 default).items.length ≤ mn
    · simp only [hsmall, decide_true, if_true]
      have G := grow_spec mn h is (c0 :: cs0) typ (locate is typ).1 hk hs h1
        (locIs_locate is typ (sorted_items is _ hs)) (locate_le is typ) hsmall
      generalize grow mn is (c0 :: cs0) (locate is typ).1 = g at G ⊢
      obtain ⟨is', cs'⟩ := g
      obtain ⟨D, hD⟩ := descend_remove mn h typ is' cs' ih G.kids (by rw [G.inorder]; exact hs) G.big
      exact removePost_transfer G.inorder (Nat.le_trans G.lo (Nat.succ_le_succ hD)) G.hi D
    · simp only [hsmall, decide_false, Bool.false_eq_true, if_false]
      exact (descend_remove mn h typ is (c0 :: cs0) ih hk hs (Nat.lt_of_not_le hsmall)).1

theorem collapse_spec (mn mx : Nat) (hmn : 1 ≤ mn) (h : Nat) (n : Node) (hk : KidsOk mn mx h n) (hlen : n.items.length ≤ mx) :
    (collapse n).inorder = n.inorder ∧ rootOk mn mx (collapse n) = true := by
  cases n with
  | mk is cs =>
    cases is with
    | cons i is =>
      have : collapse (.mk (i :: is) cs) = .mk (i :: is) cs := by cases cs <;> rfl
      rw [this]
      refine ⟨rfl, (rootOk_iff _ _ _).2 ⟨hlen, ?_, fun _ => by simp⟩⟩
      rw [height_of_kidsOk _ _ _ _ hk]; exact hk
    | nil =>
      cases cs with
      | nil => exact ⟨rfl, rfl⟩
      | cons c cs =>
        cases h with
        | zero => exact absurd hk (List.cons_ne_nil _ _)
        | succ h =>
          obtain rfl : cs = [] := List.eq_nil_of_length_eq_zero (by simpa using hk.1)
          have hc := (nodeOk_iff _ _ _ _).1 (hk.2 c (by simp))
          simp only [collapse]
          refine ⟨by simp, (rootOk_iff _ _ _).2 ?_⟩
          exact ⟨hc.2.1, by rw [height_of_kidsOk _ _ _ _ hc.2.2]; exact hc.2.2, fun _ => Nat.le_trans hmn hc.1⟩

theorem tree_delete_spec (t : Tree) (typ : Rm) (h : t.ok = true) :
    (t.deleteItem typ).1.inorder = (specRemove t.inorder typ).1 ∧
    (t.deleteItem typ).2 = (specRemove t.inorder typ).2 ∧
    (t.deleteItem typ).1.ok = true ∧ (t.deleteItem typ).1.degree = t.degree := by
  cases hr : t.root with
  | none =>
    simp only [Tree.deleteItem, hr, Tree.inorder]
    refine ⟨?_, ?_, h, trivial⟩ <;> cases typ <;> rfl
  | some r =>
    obtain ⟨hd, hroot, hsr, hlen⟩ := ok_root t r hr h
    obtain ⟨hmx, hmn, h1⟩ := tree_bounds t hd
    have hroot' := hroot
    rw [hmx, hmn] at hroot'
    obtain ⟨hrlen, hrk, hrne⟩ := (rootOk_iff _ _ _).1 hroot'
    by_cases hemp : r.items.isEmpty = true
    · -- an empty root (after the last item was deleted): nothing to do
      simp only [Tree.deleteItem, hr, hemp, if_true, Tree.inorder]
      have hri : r.items = [] := by simpa using hemp
      have hrc : r.children = [] := by
        by_cases hc : r.children = []
        · exact hc
        · have := hrne hc; rw [hri] at this; simp at this
      have hin : r.inorder = [] := by
        cases r with
        | mk is cs => simp only [items_mk, children_mk] at hri hrc; subst hri; subst hrc; rfl
      refine ⟨?_, ?_, h, trivial⟩ <;> rw [hin] <;> cases typ <;> rfl
    · simp only [Tree.deleteItem, hr, hemp, Bool.false_eq_true, if_false, Tree.inorder]
      have hne : 1 ≤ r.items.length := by
        cases hri : r.items with
        | nil => rw [hri] at hemp; simp at hemp
        | cons _ _ => simp
      have P := removeH_spec (t.degree - 1) (height r) r typ hrk hsr hne
      rw [hmn]
      have C := collapse_spec (t.degree - 1) (2 * (t.degree - 1) + 1) h1 (height r) _ P.kids (Nat.le_trans P.hi hrlen)
      refine ⟨by rw [C.1, P.inorder], P.ret, ?_, trivial⟩
      apply ok_of_fields t.degree _ _ hd C.2
      · rw [C.1, P.inorder]
        cases typ with
        | item k => exact sorted_of_sublist List.filter_sublist hsr
        | min => exact sorted_of_sublist (List.drop_sublist 1 _) hsr
        | max => exact sorted_of_sublist (List.dropLast_sublist _) hsr
      · rw [C.1, P.inorder, P.ret, hlen, specRemove_length typ _ hsr]

end Nv.C03
