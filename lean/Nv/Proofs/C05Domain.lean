import Nv.Proofs.C05Agree
/-!
C05 — the comparison domain of the agreement theorem: restated on histories ("below the size bound" = every Set uses a
key of a fixed set `K` of at most `size` keys), with its computable check.
-/
namespace Nv.C05

/-! ### "below the size bound" on histories implies the state-level room clause of `admOp` -/

theorem room_of_key_bound {m : Mem} (hwf : WF m) {K : List Key} (hsub : ∀ a ∈ m.indexed, a ∈ K)
    (hlen : K.length ≤ m.size) {k : Key} (hk : k ∈ K) (hnew : m.lookup k = none) : m.live.length < m.size := by
  have hni := lookup_none_iff.1 hnew
  have h1 : (k :: keys m.live).Nodup :=
    List.nodup_cons.2 ⟨fun hm => hni (List.mem_append_left _ hm), (wf_iff.1 hwf).1⟩
  have h2 := h1.length_le_of_subset (l₂ := K) (fun a ha => by
    rcases List.mem_cons.1 ha with e | e
    · rw [e]; exact hk
    · exact hsub a (List.mem_append_left _ e))
  simp only [List.length_cons, keys, List.length_map] at h2
  omega

/-- only a Set can add a key to the index -/
theorem indexed_subset_step {c : Cfg} {m : Mem} (hwf : WF m) {K : List Key} (hsub : ∀ a ∈ m.indexed, a ∈ K) (now : Int)
    (op : Op) (hset : ∀ k v o, op = .set k v o → k ∈ K) : ∀ a ∈ (m.step c now op).1.indexed, a ∈ K := by
  intro a ha
  cases hs : setsKey a op with
  | true =>
    cases op with
    | set k v o => exact of_decide_eq_true hs ▸ hset k v o rfl
    | _ => cases hs
  | false =>
    refine hsub a (Classical.byContradiction fun hn => ?_)
    exact lookup_none_iff.1 (absent_stays_absent (lookup_none_iff.2 hn) hwf hs) ha

/-- the comparison domain with the size clause on the history: every Set uses a key of `K` -/
def admOpK (K : List Key) (s : Sys) : Op → Prop
  | .set k _ o =>
    ((o.keepTTL = true ∧ o.mustNotExist = false) ∨ 0 < o.ttl.getD s.mem.dttl) ∧ offDeadline s.mem (secOf s.clock) k ∧
    (o.keepTTL = true → o.mustNotExist = false →
      ∃ n, s.mem.lookup k = some n ∧ expired (secOf s.clock) n.dl = false) ∧ k ∈ K
  | op => admOp s op

def AdmissibleK (c : Cfg) (K : List Key) : Sys → List Op → Prop
  | _, [] => True
  | s, op :: ops => admOpK K s op ∧ AdmissibleK c K (Sys.step c s op).1 ops

theorem sys_step_mem (c : Cfg) (s : Sys) (op : Op) : (Sys.step c s op).1.mem = (s.mem.step c (secOf s.clock) op).1 := by
  cases op <;> rfl

theorem admissibleK_imp {c : Cfg} {K : List Key} : ∀ (ops : List Op) (s : Sys), WF s.mem →
    (∀ a ∈ s.mem.indexed, a ∈ K) → K.length ≤ s.mem.size → AdmissibleK c K s ops → Admissible c s ops := by
  intro ops
  induction ops with
  | nil => intro _ _ _ _ _; trivial
  | cons op ops ih =>
    intro s hwf hsub hlen h
    obtain ⟨h1, h2⟩ := h
    have hm := sys_step_mem c s op
    refine ⟨?_, ih _ (by rw [hm]; exact wf_step hwf _ _) ?_ (by rw [hm, step_size]; exact hlen) h2⟩
    · cases op with
      | set k v o =>
        obtain ⟨a, b, d, hk⟩ := h1
        exact ⟨a, b, d, fun hl => room_of_key_bound hwf hsub hlen hk hl⟩
      | _ => exact h1
    · rw [hm]
      apply indexed_subset_step hwf hsub
      intro k v o e
      subst e
      exact h1.2.2.2

def admOpKB (K : List Key) (s : Sys) : Op → Bool
  | .set k _ o =>
    ((o.keepTTL && !o.mustNotExist) || decide (0 < o.ttl.getD s.mem.dttl)) && offDeadlineB s.mem (secOf s.clock) k &&
    (!(o.keepTTL && !o.mustNotExist) ||
      (match s.mem.lookup k with
        | some n => !expired (secOf s.clock) n.dl
        | none => false)) && decide (k ∈ K)
  | op => admOpB s op

def admissibleKB (c : Cfg) (K : List Key) : Sys → List Op → Bool
  | _, [] => true
  | s, op :: ops => admOpKB K s op && admissibleKB c K (Sys.step c s op).1 ops

theorem admOpKB_sound {K : List Key} {s : Sys} {op : Op} (h : admOpKB K s op = true) : admOpK K s op := by
  cases op with
  | set k v o =>
    simp only [admOpKB, Bool.and_eq_true] at h
    obtain ⟨⟨⟨h1, h2⟩, h3⟩, h4⟩ := h
    obtain ⟨a, b, d⟩ := setClausesB_sound h1 h2 h3
    exact ⟨a, b, d, of_decide_eq_true h4⟩
  | get k o => exact admOpB_sound (op := .get k o) h
  | _ => trivial

theorem admissibleKB_sound {c : Cfg} {K : List Key} : ∀ (ops : List Op) (s : Sys),
    admissibleKB c K s ops = true → AdmissibleK c K s ops := by
  intro ops
  induction ops with
  | nil => intro _ _; trivial
  | cons op ops ih =>
    intro s h
    simp only [admissibleKB, Bool.and_eq_true] at h
    exact ⟨admOpKB_sound h.1, ih _ h.2⟩

end Nv.C05
