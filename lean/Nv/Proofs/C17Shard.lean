import Nv.Model.C17
import Nv.Proofs.C04Wide
/-!
C17 — sharded containers answer as the single container does, for ANY routing function.
The generic argument for per-key-independent containers (`Keyed`), with the association-list map as an instance.
Lock tables (multi-key calls span shards, so they are not `Keyed`): the table spread over shards admits, blocks,
releases and wakes exactly as the single table (`LockSt`) does, and a multi-key call visits its keys in a
permutation of the keys given, ascending in the shard index.
-/
namespace Nv.C17
open Nv.C04 (sim_outs)

theorem sharded_sim {S K R A V} (C : Keyed S K R A V) (idx : K → Nat) :
    ∀ (reqs : List (K × R)) (sh : Nat → S) (s : S), (∀ k, C.slot (sh (idx k)) k = C.slot s k) →
      outs (shardedStep C idx) sh reqs = outs (singleStep C) s reqs ∧
      (∀ k, C.slot (final (shardedStep C idx) sh reqs (idx k)) k = C.slot (final (singleStep C) s reqs) k) := by
  intro reqs sh s hrel
  exact sim_outs (shardedStep C idx) (singleStep C) (fun sh s => ∀ k, C.slot (sh (idx k)) k = C.slot s k)
    (fun _ => True) (fun sh s req hr _ => by
      obtain ⟨k, r⟩ := req
      refine ⟨?_, ?_⟩
      · intro k'
        simp only [shardedStep, singleStep]
        by_cases hk : k' = k
        · subst hk
          simp only [if_true, C.step_slot, hr]
        · rw [C.step_other s k k' r hk]
          by_cases hi : idx k' = idx k
          · simp only [hi, if_true]
            rw [C.step_other _ k k' r hk, ← hi]; exact hr k'
          · simp only [hi, if_false]; exact hr k'
      · simp only [shardedStep, singleStep, C.step_resp, hr])
    reqs sh s hrel (fun _ _ => trivial)

theorem mlookup_merase_self (k : Key) (s : MapSt) : mlookup k (merase k s) = none := by
  induction s with
  | nil => rfl
  | cons p s ih =>
    obtain ⟨k', v⟩ := p
    simp only [merase]
    split
    · exact ih
    · simp [mlookup, *]

theorem mlookup_merase_other (k k' : Key) (s : MapSt) (h : k' ≠ k) : mlookup k' (merase k s) = mlookup k' s := by
  induction s with
  | nil => rfl
  | cons p s ih =>
    obtain ⟨k2, v⟩ := p
    simp only [merase]
    split
    · rename_i h2
      subst h2
      have : ¬ (k2 = k') := fun e => h e.symm
      simp [mlookup, this, ih]
    · simp only [mlookup]
      split
      · rfl
      · exact ih

def mapKeyed : Keyed MapSt Key MReq MResp (Option Nat) where
  step := mapStep
  slot := fun s k => mlookup k s
  local_ := mapLocal
  step_slot := by
    intro s k r
    cases r <;> simp [mapStep, mapLocal, mlookup, mlookup_merase_self]
  step_resp := by
    intro s k r
    cases r <;> simp [mapStep, mapLocal]
  step_other := by
    intro s k k' r h
    have h' : ¬ (k = k') := fun e => h e.symm
    cases r <;> simp [mapStep, mlookup, h', mlookup_merase_other k k' s h]

theorem insertByShard_perm (idx : Key → Nat) (k : Key) (l : List Key) : (insertByShard idx k l).Perm (k :: l) := by
  induction l with
  | nil => exact List.Perm.refl _
  | cons y ys ih =>
    rw [insertByShard]
    split
    · exact List.Perm.refl _
    · exact (List.Perm.cons y ih).trans (List.Perm.swap k y ys)

theorem shardOrder_perm (idx : Key → Nat) (l : List Key) : (shardOrder idx l).Perm l := by
  induction l with
  | nil => exact List.Perm.refl _
  | cons y ys ih => exact (insertByShard_perm idx y _).trans (List.Perm.cons y ih)

theorem mem_shardOrder (idx : Key → Nat) (x : Key) (l : List Key) : x ∈ shardOrder idx l ↔ x ∈ l :=
  (shardOrder_perm idx l).mem_iff

/-- ascending shard indices: every caller climbs the shards in the same direction -/
def AscendingBy (idx : Key → Nat) : List Key → Prop
  | [] => True
  | x :: xs => (∀ y ∈ xs, idx x ≤ idx y) ∧ AscendingBy idx xs

theorem ascending_insert (idx : Key → Nat) (k : Key) (l : List Key) (h : AscendingBy idx l) :
    AscendingBy idx (insertByShard idx k l) := by
  induction l with
  | nil => simp [insertByShard, AscendingBy]
  | cons y ys ih =>
    simp only [insertByShard]
    split
    · rename_i hle
      refine ⟨?_, h⟩
      intro z hz
      simp at hz
      rcases hz with rfl | hz
      · exact hle
      · exact Nat.le_trans hle (h.1 z hz)
    · rename_i hgt
      refine ⟨?_, ih h.2⟩
      intro z hz
      rcases List.mem_cons.1 ((insertByShard_perm idx k ys).mem_iff.1 hz) with rfl | hz
      · exact Nat.le_of_lt (Nat.lt_of_not_le hgt)
      · exact h.1 z hz

theorem shardOrder_ascending (idx : Key → Nat) (l : List Key) : AscendingBy idx (shardOrder idx l) := by
  induction l with
  | nil => trivial
  | cons y ys ih => exact ascending_insert idx y _ ih

theorem free_iff (l : List Hold) (k : Key) (w : Bool) :
    free l k w = true ↔ ∀ h ∈ l, h.key = k → (w = false ∧ h.write = false) := by
  simp only [free, List.all_eq_true]
  constructor
  · intro H h hh hk
    have := H h hh
    simp [hk] at this
    exact this
  · intro H h hh
    by_cases hk : h.key = k
    · have := H h hh hk; simp [hk, this.1, this.2]
    · simp [hk]

theorem mem_grant (holds : List Hold) (t : Nat) (keys : List Key) (w : Bool) (h : Hold) :
    h ∈ grant holds t keys w ↔ h ∈ holds ∨ ∃ k ∈ keys, h = ⟨t, k, w⟩ := by
  simp only [grant, List.mem_append, List.mem_map]
  constructor
  · rintro (h1 | ⟨k, hk, rfl⟩)
    · exact Or.inl h1
    · exact Or.inr ⟨k, hk, rfl⟩
  · rintro (h1 | ⟨k, hk, rfl⟩)
    · exact Or.inl h1
    · exact Or.inr ⟨k, hk, rfl⟩

/-- the sharded table and the single table hold the same entries WITH MULTIPLICITY, each in the shard of its key -/
structure Rel (idx : Key → Nat) (sh : Nat → List Hold) (holds : List Hold) : Prop where
  same : ∀ h, holds.count h = (sh (idx h.key)).count h
  home : ∀ i h, h ∈ sh i → idx h.key = i

theorem Rel.mem {idx sh holds} (r : Rel idx sh holds) (h : Hold) : h ∈ holds ↔ h ∈ sh (idx h.key) := by
  rw [← List.count_pos_iff, ← List.count_pos_iff, r.same h]

theorem rel_free0 {idx sh holds} (r : Rel idx sh holds) (k : Key) (w : Bool) : free (sh (idx k)) k w = free holds k w := by
  rw [Bool.eq_iff_iff, free_iff, free_iff]
  constructor
  · intro H h hh hk
    exact H h (by have := (r.mem h).1 hh; rwa [hk] at this) hk
  · intro H h hh hk
    exact H h ((r.mem h).2 (by rwa [hk])) hk

theorem countP_congr_count {α} [BEq α] [LawfulBEq α] {l₁ l₂ : List α} (q : α → Bool)
    (h : ∀ a, q a = true → l₁.count a = l₂.count a) : l₁.countP q = l₂.countP q := by
  simp only [List.countP_eq_length_filter]
  apply List.Perm.length_eq
  rw [List.perm_iff_count]
  intro a
  by_cases hq : q a = true
  · rw [List.count_filter hq, List.count_filter hq, h a hq]
  · rw [List.count_eq_zero.2 (fun hm => hq (List.mem_filter.1 hm).2),
      List.count_eq_zero.2 (fun hm => hq (List.mem_filter.1 hm).2)]

theorem rel_readers {idx sh holds} (r : Rel idx sh holds) (k : Key) : readers (sh (idx k)) k = readers holds k :=
  countP_congr_count _ (fun h hq => by
    have hk : h.key = k := of_decide_eq_true (Bool.and_eq_true_iff.1 hq).1
    rw [r.same h, hk])

theorem rel_free {idx sh holds} (cap : Nat) (r : Rel idx sh holds) (k : Key) (w : Bool) :
    shFree cap idx sh k w = freeC cap holds k w := by
  simp only [shFree, freeC, rel_free0 r, rel_readers r]

theorem rel_all_free {idx sh holds} (cap : Nat) (r : Rel idx sh holds) (keys : List Key) (w : Bool) :
    (shardOrder idx keys).all (fun k => shFree cap idx sh k w) = keys.all (fun k => freeC cap holds k w) := by
  rw [(shardOrder_perm idx keys).all_eq]
  simp only [rel_free cap r]

/-- granting `keys` adds an entry equal to `h` only for a key of `h`'s shard -/
theorem count_filter_map (idx : Key → Nat) (t : Nat) (w : Bool) (h : Hold) (l : List Key) :
    ((l.filter (fun k => idx k = idx h.key)).map (fun k => (⟨t, k, w⟩ : Hold))).count h =
      (l.map (fun k => (⟨t, k, w⟩ : Hold))).count h := by
  rw [List.count_eq_countP, List.count_eq_countP, List.countP_map, List.countP_map, List.countP_filter]
  apply List.countP_congr
  intro k _
  simp only [Function.comp, Bool.and_eq_true, beq_iff_eq, decide_eq_true_eq]
  exact ⟨fun h => h.1, fun hk => ⟨hk, by rw [← hk]⟩⟩

theorem rel_grant {idx sh holds} (r : Rel idx sh holds) (t : Nat) (keys : List Key) (w : Bool) :
    Rel idx (shGrant idx sh t keys w) (grant holds t keys w) := by
  constructor
  · intro h
    simp only [grant, shGrant, List.count_append, r.same h, count_filter_map]
    rw [((shardOrder_perm idx keys).map _).count_eq h]
  · intro i h
    simp only [shGrant, List.mem_append, List.mem_map, List.mem_filter, mem_shardOrder, decide_eq_true_eq]
    rintro (h1 | ⟨k, ⟨_, hi⟩, rfl⟩)
    · exact r.home i h h1
    · exact hi

theorem rel_erase {idx sh holds} (r : Rel idx sh holds) (a : Hold) :
    Rel idx (fun i => (sh i).erase a) (holds.erase a) := by
  constructor
  · intro h; simp only [List.count_erase, r.same h]
  · intro i h hh; exact r.home i h (List.mem_of_mem_erase hh)

theorem rel_drop {idx sh holds} (r : Rel idx sh holds) (t : Nat) (keys : List Key) (w : Bool) :
    Rel idx (shDrop sh t keys w) (dropHolds holds t keys w) := by
  induction keys generalizing sh holds with
  | nil => exact r
  | cons k ks ih => exact ih (rel_erase r ⟨t, k, w⟩)

theorem rel_held {idx sh holds} (r : Rel idx sh holds) (t : Nat) (keys : List Key) :
    keys.any (fun k => (sh (idx k)).any (fun h => h.thread = t && h.key = k)) =
      holds.any (fun h => h.thread = t && keys.contains h.key) := by
  rw [Bool.eq_iff_iff]
  simp only [List.any_eq_true, Bool.and_eq_true, decide_eq_true_eq, List.contains_iff_mem]
  constructor
  · rintro ⟨k, hk, h, hh, ht, hkey⟩
    exact ⟨h, (r.mem h).2 (by rwa [hkey]), ht, by rwa [hkey]⟩
  · rintro ⟨h, hh, ht, hkey⟩
    exact ⟨h.key, hkey, h, (r.mem h).1 hh, ht, rfl⟩

theorem rel_counts {idx sh holds} (r : Rel idx sh holds) (t : Nat) (keys : List Key) (w : Bool) :
    keys.all (fun k => decide (keys.count k ≤ (sh (idx k)).count ⟨t, k, w⟩)) =
      keys.all (fun k => decide (keys.count k ≤ holds.count ⟨t, k, w⟩)) := by
  congr 1
  funext k
  rw [r.same ⟨t, k, w⟩]

theorem lock_step_sim (cap : Nat) (idx : Key → Nat) (s : ShLockSt) (l : LockSt) (r : Rel idx s.shards l.holds)
    (hw : s.waiter = l.waiter) (req : LReq) :
    (Rel idx (shLockStep cap idx s req).1.shards (lockStep cap l req).1.holds ∧
      (shLockStep cap idx s req).1.waiter = (lockStep cap l req).1.waiter) ∧
    (shLockStep cap idx s req).2 = (lockStep cap l req).2 := by
  cases req with
  | acq t keys w | acqDone t keys w =>
    -- the two requests differ only in what a refusal leaves behind: a parked waiter, or nothing
    simp only [shLockStep, lockStep, ShLockSt.acquire, LockSt.acquire, ShLockSt.acquireDone, LockSt.acquireDone, hw,
      rel_held r, rel_all_free cap r]
    generalize (l.waiter.isSome || keys.isEmpty || (w && !distinct keys) ||
      l.holds.any fun h => decide (h.thread = t) && keys.contains h.key) = C
    cases C with
    | true => exact ⟨⟨r, hw⟩, rfl⟩
    | false =>
      generalize (keys.all fun k => freeC cap l.holds k w) = D
      cases D with
      | true => exact ⟨⟨rel_grant r t keys w, rfl⟩, rfl⟩
      | false => first | exact ⟨⟨r, rfl⟩, rfl⟩ | exact ⟨⟨r, hw⟩, rfl⟩
  | rel t keys w =>
    simp only [shLockStep, lockStep, ShLockSt.release, LockSt.release, hw, rel_counts r]
    generalize (keys.isEmpty || (w && !distinct keys) || (l.waiter.any fun w => decide (w.thread = t)) ||
      !keys.all fun k => decide (keys.count k ≤ l.holds.count ⟨t, k, w⟩)) = C
    cases C with
    | true => exact ⟨⟨r, hw⟩, rfl⟩
    | false =>
      have rd := rel_drop r t keys w
      cases hwt : l.waiter with
      | none => exact ⟨⟨rd, rfl⟩, rfl⟩
      | some wt =>
        simp only [Bool.false_eq_true, if_false, rel_all_free cap rd]
        generalize (wt.keys.all fun k => freeC cap (dropHolds l.holds t keys w) k wt.write) = D
        cases D with
        | true => exact ⟨⟨rel_grant rd _ _ _, rfl⟩, rfl⟩
        | false => exact ⟨⟨rd, rfl⟩, rfl⟩

end Nv.C17
