import Nv.Proofs.C15Generic
/-!
C15 — handlers are local: what a handler does depends on the store only through the row of its own key (and on its
worker's cache). Together with the frame (`HOk.frame`: it writes the store at its key only) this makes operations of
different workers commute.
-/
namespace Nv.C15

/-- `c'` is `c` with a store that may differ anywhere except at `k` -/
structure Near (k : Key) (c c' : Ctx) : Prop where
  cache : c'.cache = c.cache
  faults : c'.faults = c.faults
  trace : c'.trace = c.trace
  row : sGet c'.store k = sGet c.store k

theorem Near.mapCache {k : Key} {c c' : Ctx} (h : Near k c c') (f : Cache → Cache) :
    Near k { c with cache := f c.cache } { c' with cache := f c'.cache } :=
  ⟨by simp only [h.cache], h.faults, h.trace, h.row⟩

theorem Near.withCache {k : Key} {c c' : Ctx} (h : Near k c c') (ca : Cache) :
    Near k { c with cache := ca } { c' with cache := ca } := h.mapCache fun _ => ca

theorem Near.setRow {k : Key} {c c' : Ctx} (h : Near k c c') (v : Val) :
    Near k { c with store := sSet c.store k v } { c' with store := sSet c'.store k v } :=
  ⟨h.cache, h.faults, h.trace, by simp [sGet_sSet]⟩

def Same (k : Key) (r r' : Ctx × Res) : Prop := r'.2 = r.2 ∧ Near k r.1 r'.1

theorem Same.refl' {k : Key} {c c' : Ctx} (h : Near k c c') (r : Res) : Same k (c, r) (c', r) := ⟨rfl, h⟩

/-- the step every handler is made of: a callback's error ends the run, its value goes on to `F`
(`generalizing := false`: the hypothesis `h` about `p` is not to be carried into the `match`) -/
theorem bind_near {k : Key} {p p' : Except Err Val × Ctx} (h : p'.1 = p.1 ∧ Near k p.2 p'.2)
    {F : Val → Ctx → Ctx × Res} (hF : ∀ a d d', Near k d d' → Same k (F a d) (F a d')) :
    Same k
      (match (generalizing := false) p with
        | (.error e, c) => ((c, Res.err e) : Ctx × Res)
        | (.ok a, c) => F a c)
      (match (generalizing := false) p' with
        | (.error e, c) => ((c, Res.err e) : Ctx × Res)
        | (.ok a, c) => F a c) := by
  obtain ⟨r, c⟩ := p
  obtain ⟨r', c'⟩ := p'
  obtain ⟨h1, h2⟩ := h
  cases (show r' = r from h1)
  cases r with
  | error e => exact Same.refl' h2 _
  | ok a => exact hF a c c' h2

/-- the same step for the delete callback, which returns no value (a statement of its own only because `match` on
another type is another function) -/
theorem bind_del_near {k : Key} {p p' : Except Err Unit × Ctx} (h : p'.1 = p.1 ∧ Near k p.2 p'.2)
    {F : Ctx → Ctx × Res} (hF : ∀ d d', Near k d d' → Same k (F d) (F d')) :
    Same k
      (match (generalizing := false) p with
        | (.error e, c) => ((c, Res.err e) : Ctx × Res)
        | (.ok _, c) => F c)
      (match (generalizing := false) p' with
        | (.error e, c) => ((c, Res.err e) : Ctx × Res)
        | (.ok _, c) => F c) := by
  obtain ⟨r, c⟩ := p
  obtain ⟨r', c'⟩ := p'
  obtain ⟨h1, h2⟩ := h
  cases (show r' = r from h1)
  cases r with
  | error e => exact Same.refl' h2 _
  | ok a => exact hF c c' h2

/-- the common tail of the handlers: error → pass on; value → cache it -/
theorem tail_near {k : Key} {p p' : Except Err Val × Ctx} (h : p'.1 = p.1 ∧ Near k p.2 p'.2) :
    Same k
      (match (generalizing := false) p with
        | (.error e, c) => ((c, Res.err e) : Ctx × Res)
        | (.ok nv, c) => (setCache c k nv, .ok nv))
      (match (generalizing := false) p' with
        | (.error e, c) => ((c, Res.err e) : Ctx × Res)
        | (.ok nv, c) => (setCache c k nv, .ok nv)) :=
  bind_near (F := fun nv c => (setCache c k nv, .ok nv)) h fun nv _ _ hd => Same.refl' (hd.mapCache (cSet · k nv)) _

/-! ### the model's callbacks are local -/

theorem call_near {k : Key} {c c' : Ctx} (h : Near k c c') (cb : Cb) :
    (c'.call cb).1 = (c.call cb).1 ∧ Near k (c.call cb).2 (c'.call cb).2 := by
  obtain ⟨h1, h2, h3, h4⟩ := h
  unfold Ctx.call
  rw [h2, h3]
  cases c.faults <;> exact ⟨rfl, h1, rfl, rfl, h4⟩

theorem callLoad_near {k : Key} {c c' : Ctx} (h : Near k c c') :
    (callLoad c' k).1 = (callLoad c k).1 ∧ Near k (callLoad c k).2 (callLoad c' k).2 := by
  obtain ⟨hf, hn⟩ := call_near h .load
  unfold callLoad
  simp only [hf]
  split
  · exact ⟨rfl, hn⟩
  · rw [hn.row]
    split <;> exact ⟨rfl, hn⟩

theorem callAdd_near {k : Key} {c c' : Ctx} (v : Val) (h : Near k c c') :
    (callAdd c' k v).1 = (callAdd c k v).1 ∧ Near k (callAdd c k v).2 (callAdd c' k v).2 := by
  obtain ⟨hf, hn⟩ := call_near h .add
  unfold callAdd
  simp only [hf]
  split
  · exact ⟨rfl, hn⟩
  · rw [hn.row]
    split
    · exact ⟨rfl, hn⟩
    · exact ⟨rfl, hn.setRow v⟩

theorem callUpd_near {k : Key} {c c' : Ctx} (v e : Val) (h : Near k c c') :
    (callUpd c' k v e).1 = (callUpd c k v e).1 ∧ Near k (callUpd c k v e).2 (callUpd c' k v e).2 := by
  obtain ⟨hf, hn⟩ := call_near h .upd
  unfold callUpd
  simp only [hf]
  split
  · exact ⟨rfl, hn⟩
  · rw [hn.row]
    split
    · exact ⟨rfl, hn⟩
    · exact ⟨rfl, hn.setRow _⟩

theorem callUpsert_near {k : Key} {c c' : Ctx} (v : Val) (e : Option Val) (h : Near k c c') :
    (callUpsert c' k v e).1 = (callUpsert c k v e).1 ∧ Near k (callUpsert c k v e).2 (callUpsert c' k v e).2 := by
  obtain ⟨hf, hn⟩ := call_near h .upsert
  unfold callUpsert
  simp only [hf]
  split
  · exact ⟨rfl, hn⟩
  · cases e with
    | some e0 => exact ⟨rfl, hn.setRow _⟩
    | none =>
      simp only [hn.row, true_and]
      exact hn.setRow _

theorem callDel_near {k : Key} {c c' : Ctx} (h : Near k c c') :
    (callDel c' k).1 = (callDel c k).1 ∧ Near k (callDel c k).2 (callDel c' k).2 := by
  obtain ⟨hf, hn⟩ := call_near h .del
  unfold callDel
  simp only [hf]
  split
  · exact ⟨rfl, hn⟩
  · exact ⟨rfl, hn.cache, hn.faults, hn.trace, by simp [sGet_sErase]⟩

/-! ### so are the handlers -/

theorem hLoad_near {k : Key} {c c' : Ctx} (h : Near k c c') : Same k (hLoad c k) (hLoad c' k) := by
  unfold hLoad
  rw [h.cache]
  rcases cGet c.cache k with ⟨_ | v, ca⟩
  · apply tail_near (callLoad_near (h.withCache ca))
  · apply Same.refl' (h.withCache ca)

theorem hAdd_near {k : Key} {c c' : Ctx} (v : Val) (h : Near k c c') : Same k (hAdd c k v) (hAdd c' k v) := by
  unfold hAdd
  rw [h.cache]
  cases cPeek c.cache k with
  | some _ => apply Same.refl' h
  | none => apply tail_near (callAdd_near v h)

theorem hUpdate_near {k : Key} {c c' : Ctx} (v : Val) (h : Near k c c') : Same k (hUpdate c k v) (hUpdate c' k v) := by
  unfold hUpdate
  rw [h.cache]
  cases cPeek c.cache k with
  | some pre => apply tail_near (callUpd_near v pre h)
  | none =>
    apply bind_near (callLoad_near h)
    intro cur d d' hd
    apply tail_near (callUpd_near v cur hd)

theorem hDelete_near (cfg : Cfg) {k : Key} {c c' : Ctx} (h : Near k c c') : Same k (hDelete cfg c k) (hDelete cfg c' k) := by
  unfold hDelete
  rw [h.cache]
  cases cfg.delOrder with
  | cacheFirst =>
    apply bind_del_near (callDel_near (h.withCache _))
    intro d d' hd
    apply Same.refl' hd
  | storeFirst =>
    apply bind_del_near (callDel_near h)
    intro d d' hd
    apply Same.refl' (hd.mapCache (cDelete · k))
  | noDelete | unknown =>
    apply bind_del_near (callDel_near h)
    intro d d' hd
    apply Same.refl' hd

theorem hUpdOrAdd_near {k : Key} {c c' : Ctx} (v : Val) (h : Near k c c') : Same k (hUpdOrAdd c k v) (hUpdOrAdd c' k v) := by
  unfold hUpdOrAdd
  rw [h.cache]
  cases cPeek c.cache k with
  | some pre => apply tail_near (callUpd_near v pre h)
  | none =>
    -- `notFound` goes on to the add, so this step is not of the `bind_near` shape
    obtain ⟨h1, h2⟩ := callLoad_near h
    generalize callLoad c k = p at h1 h2 ⊢
    generalize callLoad c' k = p' at h1 h2 ⊢
    obtain ⟨r, d⟩ := p
    obtain ⟨r', d'⟩ := p'
    cases (show r' = r from h1)
    rcases r with e | cur
    · cases e
      case notFound => apply tail_near (callAdd_near v h2)
      all_goals apply Same.refl' h2
    · apply tail_near (callUpd_near v cur h2)

theorem hUpsertThenLoad_near {k : Key} {c c' : Ctx} (v : Val) (h : Near k c c') :
    Same k (hUpsertThenLoad c k v) (hUpsertThenLoad c' k v) := by
  unfold hUpsertThenLoad
  rw [h.cache]
  cases cPeek c.cache k with
  | some pre => apply tail_near (callUpsert_near v (some pre) h)
  | none =>
    apply bind_near (callUpsert_near v none h)
    intro _ d d' hd
    apply tail_near (callLoad_near hd)

theorem hUpsertThenRenew_near {k : Key} {c c' : Ctx} (v : Val) (h : Near k c c') :
    Same k (hUpsertThenRenew c k v) (hUpsertThenRenew c' k v) := by
  unfold hUpsertThenRenew
  rw [h.cache]
  cases cPeek c.cache k with
  | some pre => apply tail_near (callUpsert_near v (some pre) h)
  | none =>
    apply bind_near (callUpsert_near v none h)
    intro nv d d' hd
    apply Same.refl' hd

/-- a handler reads the store only at its own key — run from two contexts whose stores agree at that key
(and are arbitrary elsewhere) it returns the same result, leaves the same cache, consumes the same faults, calls the same
callbacks, and leaves the same row at its key -/
theorem handle_near (cfg : Cfg) {c c' : Ctx} (op : Op) (h : Near op.key c c') :
    Same op.key (handle cfg c op) (handle cfg c' op) := by
  cases op with
  | get k => rw [handle_get, handle_get]; apply hLoad_near h
  | add k v => apply hAdd_near v h
  | upd k v => apply hUpdate_near v h
  | del k => apply hDelete_near cfg h
  | uoa k v => apply hUpdOrAdd_near v h
  | utl k v => apply hUpsertThenLoad_near v h
  | utr k v => apply hUpsertThenRenew_near v h

/-- one operation, seen from outside. Its worker `w` runs the handler on its own cache `ca` and on the row of its key, so
from any state that has `ca` at `w`, and any store `st` with the same row at the key, the handler run on `st` tells what
the operation does: the answer, the cache left at `w`, the row left at the key. No other cache and no other row moves. -/
theorem step_local (cfg : Cfg) (hd : DelOk cfg) (loc : Loc) {t : State} {st : Store} {inp : Op × List Bool} {w : Nat}
    {ca : Cache} (hw : workerOf loc t.caches.length inp.1.key = some w) (hca : t.caches[w]? = some ca)
    (hrow : sGet t.store inp.1.key = sGet st inp.1.key) :
    (step cfg loc t inp).2 = ⟨(handle cfg ⟨st, ca, inp.2, []⟩ inp.1).2, (handle cfg ⟨st, ca, inp.2, []⟩ inp.1).1.trace⟩ ∧
    (step cfg loc t inp).1.caches = t.caches.set w (handle cfg ⟨st, ca, inp.2, []⟩ inp.1).1.cache ∧
    sGet (step cfg loc t inp).1.store inp.1.key = sGet (handle cfg ⟨st, ca, inp.2, []⟩ inp.1).1.store inp.1.key ∧
    ∀ k, k ≠ inp.1.key → sGet (step cfg loc t inp).1.store k = sGet t.store k := by
  obtain ⟨hres, hn⟩ := handle_near cfg (c := ⟨st, ca, inp.2, []⟩) (c' := ⟨t.store, ca, inp.2, []⟩) inp.1 ⟨rfl, rfl, rfl, hrow⟩
  rw [step_eq cfg loc t inp hw hca]
  exact ⟨by rw [hres, hn.trace], by rw [hn.cache], hn.row, (handle_ok cfg hd ⟨t.store, ca, inp.2, []⟩ inp.1).frame⟩

end Nv.C15
