import Nv.Proofs.C02Inv
/-!
C02 — deadlock freedom: who is responsible for a sleeping thread, the acquisition-order discipline and its
preservation, the rank argument, finiteness of the table; threads that are not asleep can step.
-/
namespace Nv.C02

/-- thread `t` is asleep inside `rwLocker.Lock()/RLock()` -/
def blockedT (s : State) (t : Tid) : Prop :=
  ∃ m all k o rest, (s.th t).phase = .acq m all ((k, o) :: rest) ∧ tryLock m t (s.objs o) = .blocked

theorem not_blockedT_of_phase {s : State} {u : Tid} {m all k o rest} (hph : (s.th u).phase = .acq m all ((k, o) :: rest))
    (h : tryLock m u (s.objs o) ≠ .blocked) : ¬ blockedT s u := by
  rintro ⟨_, _, _, _, _, e, hb⟩
  rw [hph] at e; cases e; exact h hb

theorem blocked_cases {s : State} (hI : Inv s) {t : Tid} {m all k o rest}
    (hph : (s.th t).phase = .acq m all ((k, o) :: rest)) (hb : tryLock m t (s.objs o) = .blocked) :
    (m = .w ∧ (s.objs o).readers ≠ []) ∨ (m = .w ∧ (s.objs o).tokens ≠ 0) ∨
    ∃ u, u ≠ t ∧ (s.objs o).wOwner = some u := by
  cases m with
  | w =>
    rcases tryW_blocked hb with ⟨_, hr | ht⟩ | ⟨u, hu, hne⟩
    · exact .inl ⟨rfl, hr⟩
    · exact .inr (.inl ⟨rfl, ht⟩)
    · exact .inr (.inr ⟨u, hne, hu⟩)
  | r =>
    obtain ⟨hin, htok⟩ := tryR_blocked hb
    cases hown : (s.objs o).wOwner with
    | none =>
      have := (hI.obj o).tokGe hown
      rw [htok, Nat.le_zero, List.length_eq_zero_iff] at this
      rw [this] at hin; cases hin
    | some u =>
      refine .inr (.inr ⟨u, fun e => ?_, rfl⟩)
      subst e
      rcases (hI.link u o).own hown with hw | ⟨_, _, _, e⟩
      · obtain ⟨k', hk'⟩ := ((hI.link u o).hold .w).1 hw
        exact hI.not_held_of_todo hph k' .w hk'
      · rw [hph] at e; cases e

theorem token_sleeper {s : State} (hI : Inv s) {o : ObjId} (h : (s.objs o).tokens ≠ 0) :
    ∃ p all k rest, (s.th p).phase = .acq .r all ((k, o) :: rest) ∧ ¬ blockedT s p := by
  have hne : (s.objs o).pendR ≠ [] := fun e => h (Nat.le_zero.1 (by simpa [e] using (hI.obj o).tokLe))
  obtain ⟨p, hp⟩ := List.exists_mem_of_ne_nil _ hne
  obtain ⟨all, k, rest, hph⟩ := (hI.link p o).pendR hp
  exact ⟨p, all, k, rest, hph, not_blockedT_of_phase hph fun hb => h (tryR_blocked hb).2⟩

theorem responsible {s : State} (hI : Inv s) {t : Tid} {m all k o rest}
    (hph : (s.th t).phase = .acq m all ((k, o) :: rest)) (hb : tryLock m t (s.objs o) = .blocked) :
    (∃ u k' m', (k', o, m') ∈ (s.th u).held) ∨ (∃ u, (s.th u).phase ≠ .idle ∧ ¬ blockedT s u) := by
  have readers : (s.objs o).readers ≠ [] → ∃ u k' m', (k', o, m') ∈ (s.th u).held := fun h =>
    let ⟨u, hu⟩ := List.exists_mem_of_ne_nil _ h
    let ⟨k', hk'⟩ := ((hI.link u o).hold .r).1 hu
    ⟨u, k', .r, hk'⟩
  have tokens : (s.objs o).tokens ≠ 0 → ∃ u, (s.th u).phase ≠ .idle ∧ ¬ blockedT s u := fun h =>
    let ⟨p, _, _, _, hp, hnb⟩ := token_sleeper hI h
    ⟨p, fun e => (nomatch hp.symm.trans e), hnb⟩
  rcases blocked_cases hI hph hb with ⟨_, hr⟩ | ⟨_, ht⟩ | ⟨u, _, hown⟩
  · exact .inl (readers hr)
  · exact .inr (tokens ht)
  · -- the owner of `rw.w` holds the write lock, or waits for the readers to drain, or can move
    rcases (hI.link u o).own hown with hw | ⟨_, _, _, hu⟩
    · obtain ⟨k', hk'⟩ := ((hI.link u o).hold .w).1 hw
      exact .inl ⟨u, k', .w, hk'⟩
    · by_cases hbu : tryLock .w u (s.objs o) = .blocked
      · rcases tryW_blocked hbu with ⟨_, hr | ht⟩ | ⟨v, hv, hne⟩
        · exact .inl (readers hr)
        · exact .inr (tokens ht)
        · exact absurd (Option.some.inj (hown.symm.trans hv)) (Ne.symm hne)
      · exact .inr ⟨u, fun e => (nomatch hu.symm.trans e), not_blockedT_of_phase hu hbu⟩

/-- keys of the current call not yet locked, in the order they will be locked -/
def seqKeys (th : Thread) : List Key := (pend th.phase).map (·.1) ++ future th.phase

/-- the thread acquires upwards: its remaining keys ascend in rank and lie above everything it holds -/
def OrdTh (rank : Key → Nat) (th : Thread) : Prop :=
  (seqKeys th).Pairwise (fun a b => rank a < rank b) ∧ ∀ h ∈ heldKeys th, ∀ k ∈ seqKeys th, rank h < rank k

def Ordered (rank : Key → Nat) (s : State) : Prop := ∀ t, OrdTh rank (s.th t)

/-- what a disciplined caller promises: the keys of a call ascend in rank in the order the locker takes them, and
lie above every key the caller already holds -/
def okAct (c : Cfg) (n : Nat) (sh : Key → Nat) (rank : Key → Nat) (s : State) : Act → Prop
  | .call t _ keys =>
    (acqOrder c n sh keys).Pairwise (fun a b => rank a < rank b) ∧
    ∀ h ∈ heldKeys (s.th t), ∀ k ∈ acqOrder c n sh keys, rank h < rank k
  | _ => True

theorem ordTh_of_seq_nil (rank : Key → Nat) (th : Thread) (h : seqKeys th = []) : OrdTh rank th := by
  unfold OrdTh; rw [h]; exact ⟨List.Pairwise.nil, fun _ _ _ hk => nomatch hk⟩

theorem ordered_init (rank : Key → Nat) : Ordered rank State.init := fun _ => ordTh_of_seq_nil _ _ rfl

theorem rank_held_lt_awaited {rank : Key → Nat} {th : Thread} (h : OrdTh rank th) {k o m} (hheld : (k, o, m) ∈ th.held)
    {m2 all k2 o2 rest} (hph : th.phase = .acq m2 all ((k2, o2) :: rest)) : rank k < rank k2 :=
  h.2 k (List.mem_map.2 ⟨_, hheld, rfl⟩) k2 (by rw [seqKeys, hph]; exact List.mem_append_left _ List.mem_cons_self)

theorem ordTh_congr {rank : Key → Nat} {th th' : Thread} (h : OrdTh rank th) (hs : seqKeys th' = seqKeys th)
    (hh : th'.held = th.held) : OrdTh rank th' := by
  unfold OrdTh heldKeys; rw [hs, hh]; exact h

theorem ordered_step {c : Cfg} {n : Nat} {sh : Key → Nat} {rank : Key → Nat} {s s' : State} {a : Act}
    (hord : Ordered rank s) (hok : okAct c n sh rank s a) (h : step c n sh s a = some s') : Ordered rank s' := by
  intro u
  have hS := (Step.of_step h).2
  by_cases hu : u = actor a
  case neg => rw [hS.th_other u hu]; exact hord u
  subst hu
  -- registration moves keys from `future` to `pend` without reordering them; unlocking has no keys ahead
  cases hS with
  | call => exact (setTh_th_same ..).symm ▸ hok
  | @lockWait t => exact hord t
  | @regDone t _ _ _ hph | @regSkip t _ _ _ _ hph =>
    exact (setTh_th_same ..).symm ▸ ordTh_congr (hord t) (by unfold seqKeys; rw [hph]; rfl) rfl
  | @regKey t _ _ _ _ _ _ hph =>
    refine (setTh_th_same ..).symm ▸ ordTh_congr (hord t) ?_ rfl
    unfold seqKeys; rw [hph]
    simp only [pend, future, List.map_append, List.map_cons, List.map_nil, List.flatten_cons, List.append_assoc,
      List.cons_append, List.nil_append]
  | @lockEnter t _ _ _ _ _ _ hph =>
    have old := hord t
    rw [show actor (.lock t) = t from rfl, setTh_th_same, advance_acq hph]
    simp only [OrdTh, seqKeys, pend, future, hph, heldKeys, List.map_cons, List.append_nil,
      List.pairwise_cons, List.mem_cons] at old ⊢
    refine ⟨old.1.2, fun h' hh' k' hk' => ?_⟩
    rcases hh' with rfl | hh'
    · exact old.1.1 k' hk'
    · exact old.2 h' hh' k' (.inr hk')
  | lockDone | uncall | relDone | relSkip | relKey =>
    exact (setTh_th_same ..).symm ▸ ordTh_of_seq_nil _ _ rfl

/-- follow "waits for a holder" upwards; ranks of awaited keys are bounded by the table -/
theorem unblocked_exists {s : State} (hI : Inv s) (rank : Key → Nat) (hord : Ordered rank s)
    (R : Nat) (hR : ∀ k o, s.table k = some o → rank k < R) :
    ∀ (d : Nat) (t : Tid) {m all k o rest}, (s.th t).phase = .acq m all ((k, o) :: rest) →
      tryLock m t (s.objs o) = .blocked → R - rank k ≤ d →
      ∃ u, ¬ blockedT s u ∧ ((s.th u).phase ≠ .idle ∨ (s.th u).held ≠ []) := by
  intro d
  induction d with
  | zero =>
    intro t m all k o rest hph _ hd
    exact absurd (hR k o (hI.refTab t k o m (head_mem_refs hph))) (Nat.not_lt.2 (Nat.le_of_sub_eq_zero (Nat.le_zero.1 hd)))
  | succ d ih =>
    intro t m all k o rest hph hb hd
    have htk : s.table k = some o := hI.refTab t k o m (head_mem_refs hph)
    rcases responsible hI hph hb with ⟨u, k', m', hk'⟩ | ⟨u, hu1, hu2⟩
    · have hkk : k' = k := hI.tInj k' k o (hI.refTab u k' o m' (mem_refs_of_held hk')) htk
      subst hkk
      by_cases hbu : blockedT s u
      · obtain ⟨m2, a2, k2, o2, r2, e2, hb2⟩ := hbu
        have hlt := Nat.sub_lt_sub_left (hR k' o htk) (rank_held_lt_awaited (hord u) hk' e2)
        exact ih u e2 hb2 (Nat.le_of_lt_succ (Nat.lt_of_lt_of_le hlt hd))
      · exact ⟨u, hbu, .inr (List.ne_nil_of_mem hk')⟩
    · exact ⟨u, hu2, .inl hu1⟩

/-- finitely many keys have an entry: an injective table into `[0, N)` has bounded rank -/
theorem rank_bound (rank : Key → Nat) : ∀ (N : Nat) (table : Key → Option ObjId),
    (∀ k o, table k = some o → o < N) → (∀ k1 k2 o, table k1 = some o → table k2 = some o → k1 = k2) →
    ∃ R, ∀ k o, table k = some o → rank k < R
  | 0, _, hN, _ => ⟨0, fun k o h => absurd (hN k o h) (Nat.not_lt_zero _)⟩
  | N + 1, table, hN, hinj => by
    -- bound the keys whose object is below `N`, then add the key of `N`, if any
    obtain ⟨R', hR'⟩ := rank_bound rank N (fun k => if table k = some N then none else table k)
      (fun k o h => by
        split at h
        · cases h
        · next hne => exact Nat.lt_of_le_of_ne (Nat.le_of_lt_succ (hN k o h)) fun e => hne (e ▸ h))
      (fun k1 k2 o a b => by
        split at a
        · cases a
        · split at b
          · cases b
          · exact hinj k1 k2 o a b)
    by_cases hex : ∃ k0, table k0 = some N
    · obtain ⟨k0, hk0⟩ := hex
      refine ⟨max R' (rank k0 + 1), fun k o h => ?_⟩
      by_cases e : table k = some N
      · rw [hinj k k0 N e hk0]; exact Nat.lt_of_lt_of_le (Nat.lt_succ_self _) (Nat.le_max_right _ _)
      · exact Nat.lt_of_lt_of_le (hR' k o (by rw [if_neg e]; exact h)) (Nat.le_max_left _ _)
    · exact ⟨R', fun k o h => hR' k o (by rw [if_neg fun e => hex ⟨k, e⟩]; exact h)⟩

theorem stepReg_isSome {c : Cfg} {s : State} {t : Tid} {m all gs acc} (h : (s.th t).phase = .reg m all gs acc) :
    (stepReg c s t).isSome := by
  unfold stepReg; rw [h]
  cases gs with
  | nil => rfl
  | cons g gs => cases g <;> rfl

theorem stepRel_isSome {c : Cfg} {s : State} {t : Tid} {m gs} (h : (s.th t).phase = .rel m gs) :
    (stepRel c s t).isSome := by
  unfold stepRel; rw [h]
  cases gs with
  | nil => rfl
  | cons g gs => cases g <;> rfl

theorem stepLock_isSome {c : Cfg} {s : State} {t : Tid} {m all todo} (h : (s.th t).phase = .acq m all todo)
    (hnb : ¬ blockedT s t) : (stepLock c s t).isSome := by
  unfold stepLock; rw [h]
  cases todo with
  | nil => rfl
  | cons p rest =>
    obtain ⟨k, o⟩ := p
    simp only
    cases hres : tryLock m t (s.objs o) with
    | blocked => exact absurd ⟨m, all, k, o, rest, h, hres⟩ hnb
    | wait w1 => rfl
    | enter w1 => rfl

theorem can_step {c : Cfg} {n : Nat} {sh : Key → Nat} {s : State} (hf : s.fault = false) (u : Tid)
    (hbusy : (s.th u).phase ≠ .idle) (hnb : ¬ blockedT s u) :
    ∃ a s', (a = .reg u ∨ a = .lock u ∨ a = .rel u) ∧ step c n sh s a = some s' := by
  have hnf : ¬ s.fault = true := by rw [hf]; decide
  cases hph : (s.th u).phase with
  | idle => exact absurd hph hbusy
  | reg m all gs acc =>
    obtain ⟨s', hs'⟩ := Option.isSome_iff_exists.1 (stepReg_isSome (c := c) hph)
    exact ⟨.reg u, s', .inl rfl, (if_neg hnf).trans hs'⟩
  | acq m all todo =>
    obtain ⟨s', hs'⟩ := Option.isSome_iff_exists.1 (stepLock_isSome (c := c) hph hnb)
    exact ⟨.lock u, s', .inr (.inl rfl), (if_neg hnf).trans hs'⟩
  | rel m gs =>
    obtain ⟨s', hs'⟩ := Option.isSome_iff_exists.1 (stepRel_isSome (c := c) hph)
    exact ⟨.rel u, s', .inr (.inr rfl), (if_neg hnf).trans hs'⟩

end Nv.C02
