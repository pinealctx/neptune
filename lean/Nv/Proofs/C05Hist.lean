import Nv.Proofs.C05Mem
/-!
C05 — runs of the in-memory cache as histories (events = call + result): at most one consuming read succeeds, a
successful Get returns the value of the latest successful Set, and a node nobody rewrites is still the same node later.
-/
namespace Nv.C05

def events (c : Cfg) (s : MSys) (ops : List Op) : List (Op × Out) := ops.zip (outs (MSys.step c) s ops)

theorem events_cons (c : Cfg) (s : MSys) (op : Op) (ops : List Op) :
    events c s (op :: ops) = (op, (MSys.step c s op).2) :: events c (MSys.step c s op).1 ops := by
  simp [events]

theorem consumes_cons_skip {k : Key} {op : Op} {out : Out} (rest : List (Op × Out))
    (h : ¬ ∃ o v, op = .get k o ∧ o.remove = true ∧ out = .value v) :
    consumes k ((op, out) :: rest) = consumes k rest := by
  cases op with
  | get k' o =>
    cases out with
    | value v =>
      have : ¬ (k' = k ∧ o.remove = true) := fun ⟨e, hr⟩ => h ⟨o, v, by rw [e], hr, rfl⟩
      simp [consumes, this]
    | _ => rfl
  | _ => rfl

/-- Without a Set of `k`, an absent key stays absent and a successful consuming read makes it absent: so the reads
    that succeed are none if `k` is absent at the start, and at most one otherwise. -/
theorem consumes_le {c : Cfg} {k : Key} : ∀ (ops : List Op) (s : MSys), WF s.mem →
    (∀ op ∈ ops, setsKey k op = false) → consumes k (events c s ops) ≤ if s.mem.lookup k = none then 0 else 1 := by
  intro ops
  induction ops with
  | nil => intro s _ _; exact Nat.zero_le _
  | cons op ops ih =>
    intro s hwf hops
    rw [events_cons]
    obtain ⟨hm, ho⟩ := msys_step_mem c s op
    have hrest := ih (MSys.step c s op).1 (by rw [hm]; exact wf_step hwf _ _) (fun o ho => hops o (by simp [ho]))
    by_cases hcnt : ∃ o v, op = .get k o ∧ o.remove = true ∧ (MSys.step c s op).2 = .value v
    · obtain ⟨o, v, rfl, hr, hout⟩ := hcnt
      obtain ⟨n, hn, _⟩ := get_value_iff.1 (ho ▸ hout)
      have hgone : (MSys.step c s (.get k o)).1.mem.lookup k = none := by
        rw [hm]; exact get_remove_absent _ _ _ hr
      rw [if_pos hgone] at hrest
      rw [if_neg (by rw [hn]; exact Option.some_ne_none n), hout]
      simp only [consumes, hr, and_self, if_true]
      omega
    · rw [consumes_cons_skip _ hcnt]
      split
      · rename_i h
        rwa [if_pos (by rw [hm]; exact absent_stays_absent h hwf (hops op (by simp)))] at hrest
      · exact Nat.le_trans hrest (by split <;> decide)

def Agree (m : Mem) (f : Hist) : Prop := ∀ k n, m.lookup k = some n → f k = some n.val

theorem histStep_other (f : Hist) {op : Op} (out : Out) {k : Key} (hk : opKey op ≠ some k) (hc : op ≠ .clear) :
    histStep f op out k = f k := by
  cases op with
  | set k' v o =>
    have : ¬ k = k' := fun e => hk (by rw [e]; rfl)
    cases out <;> simp [histStep, this]
  | get k' o =>
    have : ¬ k = k' := fun e => hk (by rw [e]; rfl)
    cases out <;> simp [histStep, this]
  | remove k' =>
    have : ¬ k = k' := fun e => hk (by rw [e]; rfl)
    simp [histStep, this]
  | clear => exact absurd rfl hc
  | tick _ => rfl

/-- other keys: the call leaves their index entries and their history alone; the call's own key: what it leaves
    indexed is what the history records -/
theorem agree_step {c : Cfg} {m : Mem} {f : Hist} (hwf : WF m) (h : Agree m f) (now : Int) (op : Op) :
    (∀ k o v, op = .get k o → (m.step c now op).2 = .value v → f k = some v) ∧
    Agree (m.step c now op).1 (histStep f op (m.step c now op).2) := by
  refine ⟨fun k o v e hv => ?_, fun k' x hx => ?_⟩
  · subst e
    obtain ⟨n, hn, _, rfl⟩ := get_value_iff.1 hv
    exact h k n hn
  by_cases hk : opKey op = some k'
  · cases op with
    | set k v o =>
      simp only [opKey, Option.some.injEq] at hk
      subst hk
      have hp : ∀ n, (m.preSet c now k).lookup k = some n → f k = some n.val := by
        intro n hn
        rcases preSet_cases c m now k with e | e <;> rw [e] at hn
        · exact h k n hn
        · rw [lookup_removeKey_self] at hn; cases hn
      rw [Mem.step, Mem.set] at hx ⊢
      generalize m.preSet c now k = m' at hp hx
      cases hl : m'.lookup k with
      | none =>
        rw [setCore_absent c now v o hl] at hx ⊢
        rcases lookup_insertNew_self c m' ⟨k, v, deadline now (setTtl m' o)⟩ with e | ⟨_, e⟩ <;> rw [e] at hx
        · cases hx; simp [histStep]
        · rw [hl] at hx; cases hx
      | some n =>
        cases hm : o.mustNotExist with
        | true =>
          rw [setCore_exists c now v hl hm] at hx ⊢
          simpa [histStep] using hp x hx
        | false =>
          rw [setCore_overwrite c now v hl hm] at hx ⊢
          rw [lookup_touch_self] at hx
          cases hx; simp [histStep]
    | get k o =>
      simp only [opKey, Option.some.injEq] at hk
      subst hk
      rw [Mem.step] at hx ⊢
      cases hl : m.lookup k with
      | none => rw [get_absent o hl, hl] at hx; cases hx
      | some n =>
        cases he : expired now n.dl with
        | true => rw [get_expired o hl he, lookup_removeKey_self] at hx; cases hx
        | false =>
          cases hr : o.remove with
          | true => rw [get_consume hl he hr, lookup_removeKey_self] at hx; cases hx
          | false =>
            rw [get_hit hl he hr] at hx ⊢
            rw [lookup_touch_self] at hx
            cases hx
            simpa [histStep, hr] using h k n hl
    | remove k =>
      simp only [opKey, Option.some.injEq] at hk
      subst hk
      rw [Mem.step, lookup_removeKey_self] at hx; cases hx
    | clear => cases hk
    | tick _ => cases hk
  · by_cases hc : op = .clear
    · subst hc; cases hx
    · rw [histStep_other f _ hk hc]
      exact h k' x (lookup_step_other hwf hk hx)

theorem histOk_run {c : Cfg} : ∀ (ops : List Op) (s : MSys) (f : Hist), WF s.mem → Agree s.mem f →
    HistOk f (events c s ops) := by
  intro ops
  induction ops with
  | nil => intro s f _ _; simp [events, HistOk]
  | cons op ops ih =>
    intro s f hwf hag
    rw [events_cons]
    obtain ⟨hm, ho⟩ := msys_step_mem c s op
    obtain ⟨h1, h2⟩ := agree_step (c := c) hwf hag (secOf s.clock) op
    refine ⟨?_, ?_⟩
    · intro k o v e hv; rw [ho] at hv; exact h1 k o v e hv
    · apply ih
      · rw [hm]; exact wf_step hwf _ _
      · rw [hm, ho]; exact h2

theorem lookup_run_keeps {c : Cfg} {k : Key} (ops : List Op) (s : MSys) (hwf : WF s.mem)
    (hops : ∀ op ∈ ops, writesTtl k op = false) {n : Node}
    (h : (final (MSys.step c) s ops).mem.lookup k = some n) : s.mem.lookup k = some n :=
  (final_inv (MSys.step c) (fun s' => WF s'.mem ∧ ∀ n, s'.mem.lookup k = some n → s.mem.lookup k = some n)
    (fun op => writesTtl k op = false)
    (fun s' op ⟨hw, hk⟩ hop => by
      rw [(msys_step_mem c s' op).1]
      exact ⟨wf_step hw _ _, fun n hn => hk n (lookup_step_keeps hw hop hn)⟩)
    ops s ⟨hwf, fun _ h => h⟩ hops).2 n h

theorem elapsed_history {c : Cfg} (s1 : MSys) (hwf : WF s1.mem) (mid : List Op) (k : Key) (v : Val) (o : SetOpt)
    (g : GetOpt) (hkeep : o.keepTTL = false) (hd : 0 < o.ttl.getD s1.mem.dttl)
    (hmid : ∀ op ∈ mid, writesTtl k op = false) (hok : (MSys.step c s1 (.set k v o)).2 = .ok) :
    let s3 := final (MSys.step c) (MSys.step c s1 (.set k v o)).1 mid
    (secOf s1.clock + o.ttl.getD s1.mem.dttl < secOf s3.clock → (MSys.step c s3 (.get k g)).2 = .notFound) ∧
    (secOf s3.clock ≤ secOf s1.clock + o.ttl.getD s1.mem.dttl →
      (MSys.step c s3 (.get k g)).2 = .value v ∨
      ((MSys.step c s3 (.get k g)).2 = .notFound ∧ s3.mem.lookup k = none)) := by
  intro s3
  obtain ⟨hm2, ho2⟩ := msys_step_mem c s1 (.set k v o)
  rw [(msys_step_mem c s3 (.get k g)).2]
  change _ ∧ (_ → (s3.mem.get (secOf s3.clock) k g).2 = _ ∨ (s3.mem.get (secOf s3.clock) k g).2 = _ ∧ _)
  cases hl : s3.mem.lookup k with
  | none =>
    have hnf : (s3.mem.get (secOf s3.clock) k g).2 = .notFound := get_notFound_iff.2 (Or.inl hl)
    exact ⟨fun _ => hnf, fun _ => Or.inr ⟨hnf, rfl⟩⟩
  | some n =>
    -- the node found is still the one the Set stored
    have hn : n = ⟨k, v, some (secOf s1.clock + o.ttl.getD s1.mem.dttl)⟩ := by
      have h2 := lookup_run_keeps mid _ (by rw [hm2]; exact wf_step hwf _ _) hmid hl
      rw [hm2] at h2
      rcases set_ok_lookup hkeep (ho2 ▸ hok) with e | ⟨_, e⟩ <;> rw [Mem.step, e] at h2
      · rw [deadline, if_neg (by omega)] at h2
        exact (Option.some.inj h2).symm
      · cases h2
    subst hn
    constructor
    · intro hlt
      exact get_notFound_iff.2 (Or.inr ⟨_, hl, by simp only [expired, decide_eq_true_eq]; omega⟩)
    · intro hle
      exact Or.inl (get_value_iff.2 ⟨_, hl, by simp only [expired, decide_eq_false_iff_not]; omega, rfl⟩)

end Nv.C05
