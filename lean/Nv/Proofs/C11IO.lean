import Nv.Proofs.C11Sim
/-!
C11 — simulation of ReadFrom against scripted readers. Every `Read` call of the loop is `grow(MinRead)`, a reslice back
and a store behind the unread bytes; the relation to the abstract buffer holding what was delivered so far is carried
from call to call.
-/
namespace Nv.C11
open Spec

/-- bytes the terminal event of a scripted reader may still deliver -/
def termTail : RTerm → Nat → Nat
  | .eof, tail => tail
  | .err, tail => tail
  | _, _ => 0

def termOut : RTerm → Nat → Out
  | .eof, n => .nErr n .nil
  | .err, n => .nErr n .readerErr
  | .neg, _ => .panic .negativeRead
  | .over, _ => .panic .sliceBounds

theorem rfg_none {c : Cfg} {st s1 : St} (hg : readFromGrow c st = (s1, none)) : (grow c st c.minRead).2 = none := by
  unfold readFromGrow at hg
  cases hh : grow c st c.minRead with
  | mk a r =>
    rw [hh] at hg
    cases r with
    | none => rfl
    | some i => cases hg

theorem rfg_some {c : Cfg} (hs : c.small ≤ allocLimit) {st s2 : St} {sd : Bytes} {space : Nat}
    (R : Rel false st ⟨sd, .invalid⟩) (hg : readFromGrow c st = (s2, some space)) :
    c.minRead ≤ space ∧ ∀ d : Bytes, d.length ≤ space → Rel false { s2 with buf := s2.buf ++ d } ⟨sd ++ d, .invalid⟩ := by
  unfold readFromGrow at hg
  cases hh : grow c st c.minRead with
  | mk s1 r =>
    rw [hh] at hg
    cases r with
    | none => cases hg
    | some i =>
      simp only [Prod.mk.injEq, Option.some.injEq] at hg
      obtain ⟨rfl, rfl⟩ := hg
      have g : Grown st s1 c.minRead i := grow_spec (fun _ => hs) R.inv hh
      have hcap : i + c.minRead ≤ s1.cap := g.len ▸ g.inv.len_le
      exact ⟨Nat.le_sub_of_add_le' hcap, fun d hd => put_rel g R.data (R.last rfl)
        (Nat.add_le_of_le_sub' (Nat.le_trans (Nat.le_add_right _ _) hcap) hd)⟩

def LoopOk (term : RTerm) (sd : Bytes) (n : Nat) (r : St × Out) : Prop :=
  r.2 = .panic .tooLarge ∨ (Rel false r.1 ⟨sd, .invalid⟩ ∧ r.2 = termOut term n)

theorem readFromTerm_sim {c : Cfg} (hs : c.small ≤ allocLimit) {tail : Nat} (term : RTerm) (ht : tail ≤ c.minRead)
    (data : Bytes) {st : St} {sd : Bytes} (acc : Nat) (R : Rel false st ⟨sd, .invalid⟩) :
    LoopOk term (sd ++ data.take (termTail term tail)) (acc + (data.take (termTail term tail)).length)
      (readFromTerm c tail term data st acc) := by
  unfold readFromTerm
  cases hg : readFromGrow c st with
  | mk s2 r =>
    cases r with
    | none => exact Or.inl rfl
    | some space =>
      have k := rfg_some hs R hg
      have hts : tail ≤ space := Nat.le_trans ht k.1
      have e : min tail space = tail := Nat.min_eq_left hts
      have a := k.2 (data.take tail) (by rw [List.length_take]; exact Nat.le_trans (Nat.min_le_left _ _) hts)
      have a0 := k.2 [] (Nat.zero_le _)
      simp only [List.append_nil] at a0
      cases term with
      | neg => exact Or.inr ⟨by simpa [termTail] using a0, rfl⟩
      | over => exact Or.inr ⟨by simpa [termTail] using a0, rfl⟩
      | eof => simp only [e]; exact Or.inr ⟨a, rfl⟩
      | err => simp only [e]; exact Or.inr ⟨a, rfl⟩

/-- the loop went on after storing `d`: what the rest delivers comes behind `d` -/
theorem LoopOk_after {term : RTerm} {sd d rest : Bytes} {acc : Nat} {r : St × Out}
    (h : LoopOk term (sd ++ d ++ rest) (acc + d.length + rest.length) r) :
    LoopOk term (sd ++ (d ++ rest)) (acc + (d ++ rest).length) r := by
  rw [← List.append_assoc, List.length_append, ← Nat.add_assoc]
  exact h

theorem drop_take_length {α} (l : List α) (k : Nat) : l.drop (l.take k).length = l.drop k := by
  rw [List.length_take]
  by_cases h : k ≤ l.length
  · rw [Nat.min_eq_left h]
  · rw [Nat.min_eq_right (by omega), List.drop_length, List.drop_eq_nil_of_le (by omega)]

/-- a greedy reader hands over all of its data whatever space it is offered (`MinRead ≥ 1`) -/
theorem readFromGreedy_sim {c : Cfg} (hs : c.small ≤ allocLimit) (hm : 1 ≤ c.minRead) {tail : Nat} (term : RTerm)
    (ht : tail ≤ c.minRead) :
    ∀ (fuel : Nat) (data : Bytes) {st : St} {sd : Bytes} (acc : Nat), Rel false st ⟨sd, .invalid⟩ → data.length ≤ fuel →
      LoopOk term (sd ++ data) (acc + data.length) (readFromGreedy c tail term fuel data st acc) := by
  have base : ∀ (data : Bytes) {st : St} {sd : Bytes} (acc : Nat), Rel false st ⟨sd, .invalid⟩ → data.length = 0 →
      LoopOk term (sd ++ data) (acc + data.length) (readFromTerm c tail term data st acc) := by
    intro data st sd acc R h0
    have hnil : data = [] := List.eq_nil_of_length_eq_zero h0
    subst hnil
    have := readFromTerm_sim hs term ht [] acc R
    rwa [List.take_nil] at this
  intro fuel
  induction fuel with
  | zero =>
    intro data st sd acc R hf
    exact base data acc R (Nat.le_zero.1 hf)
  | succ fuel ih =>
    intro data st sd acc R hf
    unfold readFromGreedy
    by_cases h0 : data.length = 0
    · rw [if_pos h0]
      exact base data acc R h0
    · rw [if_neg h0]
      cases hg : readFromGrow c st with
      | mk s2 r =>
        cases r with
        | none => exact Or.inl rfl
        | some space =>
          have k := rfg_some hs R hg
          have a := k.2 (data.take space) (by rw [List.length_take]; exact Nat.min_le_left _ _)
          have hsp := k.1
          have := ih (data.drop (data.take space).length) (acc + (data.take space).length) a
            (by rw [List.length_drop, List.length_take]; omega)
          simp only
          rw [drop_take_length] at this ⊢
          have := LoopOk_after this
          rw [List.take_append_drop] at this
          exact this

theorem readFromLoop_sim {c : Cfg} (hs : c.small ≤ allocLimit) (hm : 1 ≤ c.minRead) {tail : Nat} (term : RTerm)
    (greedy : Bool) (ht : tail ≤ c.minRead) :
    ∀ (sizes : List Nat) (data : Bytes) {st : St} {sd : Bytes} (acc : Nat), Rel false st ⟨sd, .invalid⟩ →
      (∀ k ∈ sizes, k ≤ c.minRead) →
      LoopOk term (sd ++ delivered greedy sizes (termTail term tail) data)
        (acc + (delivered greedy sizes (termTail term tail) data).length)
        (readFromLoop c tail term greedy sizes data st acc) := by
  intro sizes
  induction sizes with
  | nil =>
    intro data st sd acc R _
    unfold readFromLoop
    cases greedy with
    | true => exact readFromGreedy_sim hs hm term ht data.length data acc R (Nat.le_refl _)
    | false => exact readFromTerm_sim hs term ht data acc R
  | cons k sizes ih =>
    intro data st sd acc R hk
    unfold readFromLoop
    cases hg : readFromGrow c st with
    | mk s2 r =>
      cases r with
      | none => exact Or.inl rfl
      | some space =>
        have kk := rfg_some hs R hg
        have hks : k ≤ space := Nat.le_trans (hk k (List.mem_cons_self ..)) kk.1
        have e : min k space = k := Nat.min_eq_left hks
        have a := kk.2 (data.take k) (by rw [List.length_take]; exact Nat.le_trans (Nat.min_le_left _ _) hks)
        have := ih (data.drop (data.take k).length) (acc + (data.take k).length) a
          (fun j hj => hk j (List.mem_cons_of_mem _ hj))
        simp only [e]
        rw [drop_take_length] at this ⊢
        exact LoopOk_after this

theorem sim_readFrom {c : Cfg} (hs : c.small ≤ allocLimit) (hm : 1 ≤ c.minRead) {t : Bool} {i : St} {s : SSt}
    (R : Rel t i s) (r : Reader)
    (hk : ∀ k ∈ r.sizes, k ≤ c.minRead) (ht : r.tail ≤ c.minRead)
    (hmem : (readFrom c i r).2 ≠ .panic .tooLarge) :
    StepOk false (readFrom c i r) (Spec.step s (.readFrom r)) := by
  obtain ⟨data, sizes, tail, term, greedy⟩ := r
  rcases readFromLoop_sim hs hm term greedy ht sizes data 0 (rel_invalidate R) hk with hh | ⟨a, e⟩
  · exact absurd hh hmem
  · unfold Spec.step
    rw [Nat.zero_add] at e
    cases term <;> exact ⟨e, a⟩

end Nv.C11
