import Nv.Proofs.C03Cow4
/-!
C03, layer B — programs of clones and writes over any number of handles, in stores whose free list has capacity 0:
the invariant `World.WI` (every cell reachable from a handle's root exists and carries no OTHER handle's current tag)
holds in every reachable world, and a write through one handle leaves every reading of every other handle unchanged —
for arbitrary interleavings of writers.
-/
namespace Nv.C03.Cow

def IsCur (w : World) (cc : Nat) : Prop := ∃ (j : Nat) (u : HTree), w.hs[j]? = some u ∧ u.cow = cc

structure World.WI (w : World) : Prop where
  good : w.Good
  nofree : w.H.free = [] ∧ w.H.cap = 0
  distinct : ∀ (i j : Nat) (a b : HTree), w.hs[i]? = some a → w.hs[j]? = some b → i ≠ j → a.cow ≠ b.cow
  own : ∀ (j : Nat) (u : HTree), w.hs[j]? = some u → ∀ r, u.root = some r → ∀ id, Reach w.H r id →
    id < w.H.size ∧ ∀ cc, w.H.tag id = some cc → IsCur w cc → cc = u.cow

theorem get_set_cases {α} {l : List α} {i j : Nat} {a u : α} (h : (l.set i a)[j]? = some u) :
    (j = i ∧ u = a ∧ i < l.length) ∨ (j ≠ i ∧ l[j]? = some u) := by
  by_cases hij : i = j
  · subst hij
    by_cases hl : i < l.length
    · rw [List.getElem?_set_self hl] at h
      exact Or.inl ⟨rfl, (Option.some.inj h).symm, hl⟩
    · rw [List.getElem?_eq_none (by rw [List.length_set]; exact Nat.le_of_not_lt hl)] at h
      cases h
  · rw [List.getElem?_set_ne hij] at h
    exact Or.inr ⟨Ne.symm hij, h⟩

theorem get_snoc_cases {α} {l : List α} {b u : α} {j : Nat} (h : (l ++ [b])[j]? = some u) :
    (j < l.length ∧ l[j]? = some u) ∨ (j = l.length ∧ u = b) := by
  rcases Nat.lt_trichotomy j l.length with hj | hj | hj
  · rw [List.getElem?_append_left hj] at h
    exact Or.inl ⟨hj, h⟩
  · subst hj
    rw [List.getElem?_concat_length] at h
    exact Or.inr ⟨rfl, (Option.some.inj h).symm⟩
  · rw [List.getElem?_eq_none (by rw [List.length_append]; exact hj)] at h
    cases h

theorem World.write_src {w : World} {i : Nat} {t : HTree} (op : WOp) (hi : w.hs[i]? = some t) {j : Nat} {u : HTree}
    (hj : (w.step (.write i op)).hs[j]? = some u) :
    (j ≠ i ∧ w.hs[j]? = some u) ∨ (j = i ∧ u = ((applyW t op) w.H).1.1) := by
  rw [World.step_write op hi] at hj
  rcases get_set_cases hj with ⟨e, e', _⟩ | h
  · exact Or.inr ⟨e, e'⟩
  · exact Or.inl h

theorem World.write_cow {w : World} {i : Nat} {t : HTree} (op : WOp) (hi : w.hs[i]? = some t) {j : Nat} {u : HTree}
    (hj : (w.step (.write i op)).hs[j]? = some u) : ∃ v, w.hs[j]? = some v ∧ v.cow = u.cow := by
  rcases World.write_src op hi hj with ⟨_, h⟩ | ⟨rfl, rfl⟩
  · exact ⟨u, h, rfl⟩
  · exact ⟨t, hi, (applyW_cow t op w.H).symm⟩

theorem World.clone_src {w : World} {i : Nat} {t : HTree} (hi : w.hs[i]? = some t) {j : Nat} {u : HTree}
    (hj : (w.step (.clone i)).hs[j]? = some u) :
    (j ≠ i ∧ w.hs[j]? = some u) ∨
    (u.root = t.root ∧ w.next ≤ u.cow ∧ ((j = i ∧ u.cow = w.next) ∨ (j = w.hs.length ∧ u.cow = w.next + 1))) := by
  rw [World.step_clone hi] at hj
  rcases get_snoc_cases hj with ⟨_, hj'⟩ | ⟨hjl, rfl⟩
  · rcases get_set_cases hj' with ⟨rfl, rfl, _⟩ | h
    · exact Or.inr ⟨rfl, Nat.le_refl _, Or.inl ⟨rfl, rfl⟩⟩
    · exact Or.inl h
  · exact Or.inr ⟨rfl, Nat.le_succ _, Or.inr ⟨by rw [hjl, List.length_set], rfl⟩⟩

theorem World.clone_H (w : World) (i : Nat) : (w.step (.clone i)).H = w.H := by
  cases hi : w.hs[i]? with
  | none => rw [World.step_clone_none hi]
  | some t => rw [World.step_clone hi]

theorem World.WI.sep {w : World} (h : w.WI) {i j : Nat} {t u : HTree} (hi : w.hs[i]? = some t) (hj : w.hs[j]? = some u)
    (hij : j ≠ i) {r : Nat} (hr : u.root = some r) : Sep w.H t.cow r := by
  intro id hid
  obtain ⟨h1, h2⟩ := h.own j u hj r hr id hid
  refine ⟨h1, fun htag => ?_, by rw [h.nofree.1]; exact List.not_mem_nil⟩
  exact h.distinct i j t u hi hj (fun e => hij e.symm) (h2 t.cow htag ⟨i, t, hi, rfl⟩)

theorem World.WI.write {w : World} (h : w.WI) (i : Nat) (op : WOp) (t : HTree) (hi : w.hs[i]? = some t) :
    (w.step (.write i op)).WI ∧
    ∀ (j : Nat) (u : HTree) (r : Nat), j ≠ i → w.hs[j]? = some u → u.root = some r → ∀ fuel,
      absNode (w.step (.write i op)).H fuel r = absNode w.H fuel r ∧
      heightB (w.step (.write i op)).H fuel r = heightB w.H fuel r := by
  have hH : (w.step (.write i op)).H = ((applyW t op) w.H).2 := by rw [World.step_write op hi]
  have hcl := write_closed t op w.H h.nofree (fun r hr id hreach => (h.own i t hi r hr id hreach).1)
  have hcur : ∀ cc, IsCur (w.step (.write i op)) cc → IsCur w cc := by
    rintro cc ⟨j, u, hj, hu⟩
    obtain ⟨v, hv, e⟩ := World.write_cow op hi hj
    exact ⟨j, v, hv, e.trans hu⟩
  rw [hH]
  refine ⟨⟨World.good_step w _ h.good, by rw [hH]; exact hcl.1, fun a b x y ha hb hab => ?_,
    fun j u hj r hr id hid => ?_⟩,
    fun j u r hji hj hr => (write_isolated t op w.H r (h.sep hi hj hji hr)).1⟩
  · obtain ⟨x', hx', ex⟩ := World.write_cow op hi ha
    obtain ⟨y', hy', ey⟩ := World.write_cow op hi hb
    rw [← ex, ← ey]
    exact h.distinct a b x' y' hx' hy' hab
  · rw [hH] at hid ⊢
    rcases World.write_src op hi hj with ⟨hji, hj'⟩ | ⟨rfl, rfl⟩
    · -- another handle: nothing it reaches was touched
      have hsep := h.sep hi hj' hji hr
      have hag : ∀ id, Reach w.H r id → ((applyW t op) w.H).2.get id = w.H.get id :=
        fun id hid => frame_write t op w.H id (hsep id hid).1 (hsep id hid).2.1 (hsep id hid).2.2
      have hold := reach_agree w.H _ r hag id hid
      refine ⟨((write_isolated t op w.H r hsep).2 id hid).1, fun cc htag hc => ?_⟩
      rw [Heap.tag, hag id hold] at htag
      exact (h.own j u hj' r hr id hold).2 cc htag (hcur cc hc)
    · -- the writer: what its new tree reaches is its own, or was in its old tree
      obtain ⟨h1, h2⟩ := hcl.2 r hr id hid
      refine ⟨h1, fun cc htag hc => ?_⟩
      rw [applyW_cow]
      rcases h2 cc htag with e | ⟨h0, r0, hr0, hreach⟩
      · exact e
      · exact (h.own j t hi r0 hr0 id hreach).2 cc h0 (hcur cc hc)

theorem World.WI.clone {w : World} (h : w.WI) (i : Nat) : (w.step (.clone i)).WI := by
  cases hi : w.hs[i]? with
  | none => rw [World.step_clone_none hi]; exact h
  | some t =>
    have hil : i < w.hs.length := (List.getElem?_eq_some_iff.1 hi).1
    have hlt : ∀ (j : Nat) (u : HTree), w.hs[j]? = some u → u.cow < w.next :=
      fun j u hj => h.good.2 u (List.mem_of_getElem? hj)
    refine ⟨World.good_step w _ h.good, by rw [World.clone_H]; exact h.nofree, fun a b x y ha hb hab => ?_,
      fun j u hj r hr id hid => ?_⟩
    · -- old tags are below the counter, and the places of the two copies tell their tags
      rcases World.clone_src hi ha with ⟨_, ha'⟩ | ⟨_, hx, hxp⟩
      · rcases World.clone_src hi hb with ⟨_, hb'⟩ | ⟨_, hy, _⟩
        · exact h.distinct a b x y ha' hb' hab
        · exact Nat.ne_of_lt (Nat.lt_of_lt_of_le (hlt a x ha') hy)
      · rcases World.clone_src hi hb with ⟨_, hb'⟩ | ⟨_, _, hyp⟩
        · exact Nat.ne_of_gt (Nat.lt_of_lt_of_le (hlt b y hb') hx)
        · omega
    · rw [World.clone_H] at hid ⊢
      -- a tag found in the store is below the counter: if it is current now, it was so in a handle other than `i`
      have hcur : ∀ cc, w.H.tag id = some cc → IsCur (w.step (.clone i)) cc →
          ∃ (k : Nat) (v : HTree), k ≠ i ∧ w.hs[k]? = some v ∧ v.cow = cc := by
        rintro cc htag ⟨k, v, hk, hv⟩
        rcases World.clone_src hi hk with ⟨hki, hk'⟩ | ⟨_, hvc, _⟩
        · exact ⟨k, v, hki, hk', hv⟩
        · exact absurd (h.good.1 id cc htag) (Nat.not_lt.2 (hv ▸ hvc))
      rcases World.clone_src hi hj with ⟨_, hj'⟩ | ⟨hur, _⟩
      · obtain ⟨h1, h2⟩ := h.own j u hj' r hr id hid
        refine ⟨h1, fun cc htag hc => ?_⟩
        obtain ⟨k, v, _, hk, hv⟩ := hcur cc htag hc
        exact h2 cc htag ⟨k, v, hk, hv⟩
      · -- a copy of handle `i`, whose old tag is no longer current
        obtain ⟨h1, h2⟩ := h.own i t hi r (hur ▸ hr) id hid
        refine ⟨h1, fun cc htag hc => ?_⟩
        obtain ⟨k, v, hki, hk, hv⟩ := hcur cc htag hc
        exact absurd (hv.trans (h2 cc htag ⟨k, v, hk, hv⟩)) (h.distinct k i v t hk hi hki)

theorem World.init_handle {degree cap j : Nat} {u : HTree} (h : (World.init degree cap).hs[j]? = some u) :
    j = 0 ∧ u.root = none := by
  cases j with
  | zero => cases h; exact ⟨rfl, rfl⟩
  | succ k => cases h

theorem World.WI.init (degree : Nat) : (World.init degree 0).WI := by
  refine ⟨World.good_run degree 0 [], ⟨rfl, rfl⟩, fun i j a b ha hb hab => ?_, fun j u hj r hr => ?_⟩
  · exact absurd ((World.init_handle ha).1.trans (World.init_handle hb).1.symm) hab
  · rw [(World.init_handle hj).2] at hr
    cases hr

theorem World.WI.run (degree : Nat) (ops : List POp) : (ops.foldl World.step (World.init degree 0)).WI := by
  refine World.run_induct (fun w op h => ?_) ops _ (World.WI.init degree)
  cases op with
  | write i wop =>
    cases hi : w.hs[i]? with
    | none => rw [World.step_write_none wop hi]; exact h
    | some t => exact (h.write i wop t hi).1
  | clone i => exact h.clone i

end Nv.C03.Cow
