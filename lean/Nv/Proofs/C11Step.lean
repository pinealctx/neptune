import Nv.Proofs.C11IO
/-! C11 — one step of any operation of the compared interface preserves the simulation. -/
namespace Nv.C11
open Spec

def isUnread : Op → Bool
  | .unreadByte | .unreadRune => true
  | _ => false

/-- taint: set by `Grow`, kept by pure observers (and ReWrite), cleared by everything that (re)assigns `lastRead` -/
def taintAfter (t : Bool) : Op → Bool
  | .grow _ => true
  | .len | .bytes | .string | .cap | .off | .rewrite _ _ => t
  | _ => false

/-- operations of the interface shared with `bytes.Buffer`. A scripted reader hands over at most `MinRead` bytes per call
    (or is greedy): then what it delivers does not depend on the size `cap-len` of the slice it is offered. A reader whose
    output depends on that size observes the capacity policy, which is outside the contract in the same way as `Cap()`. -/
def Common (c : Cfg) : Op → Prop
  | .cap | .off | .rewrite _ _ => False
  | .readFrom r => (∀ k ∈ r.sizes, k ≤ c.minRead) ∧ r.tail ≤ c.minRead
  | _ => True

instance (c : Cfg) : DecidablePred (Common c) := fun op => by
  cases op <;> unfold Common <;> exact inferInstance

/-- the operation itself asks for more than can ever be allocated -/
def opTooLarge : Op → Prop
  | .grow n => 0 ≤ n ∧ n.toNat > allocLimit
  | _ => False

instance : DecidablePred opTooLarge := fun op => by
  cases op <;> unfold opTooLarge <;> exact inferInstance

theorem sim_step {c : Cfg} (hc : Proved c) {t : Bool} {i : St} {s : SSt} (R : Rel t i s) (op : Op)
    (hcom : Common c op) (hun : ¬ (t = true ∧ isUnread op = true))
    (hmem : (step c i op).2 = .panic .tooLarge → opTooLarge op) :
    StepOk (taintAfter t op) (step c i op) (Spec.step s op) := by
  have hs := hc.2.2.2
  have ht : isUnread op = true → t = false := fun hu => Bool.eq_false_iff.2 (fun h => hun ⟨h, hu⟩)
  cases op with
  -- `write` and `writeByte` are `store` by definition
  | write p | writeString p => exact sim_store hs R (Nat.le_refl _) _ (fun h => hmem h)
  | writeByte b => exact sim_store hs R (Nat.le_refl 1) _ (fun h => hmem h)
  | writeRune r =>
    have hw : step c i (.writeRune r) = _ := writeRune_eq hc.1 i r
    rw [hw] at hmem ⊢
    exact sim_store hs R (encodeRune_fits hc.1 r) _ (fun h => hmem h)
  | read k => exact sim_read R k
  | readByte => exact sim_readByte R
  | readRune => exact sim_readRune R
  | unreadByte =>
    obtain rfl := ht rfl
    exact sim_unreadByte R
  | unreadRune =>
    obtain rfl := ht rfl
    exact sim_unreadRune R
  | next n => exact sim_next R n
  | truncate n => exact sim_truncate R n
  | reset => exact sim_reset R
  | grow n => exact sim_grow hs R n (fun h => hmem h)
  | readFrom r => exact sim_readFrom hs hc.2.2.1 R r hcom.1 hcom.2 (fun h => hmem h)
  | writeTo w => exact sim_writeTo R w
  | len =>
    refine ⟨?_, R⟩
    simp only [step, Spec.step, R.data, List.length_drop]
  | bytes | string => exact ⟨by simp only [step, Spec.step, St.data, R.data], R⟩
  | cap | off | rewrite _ _ => exact hcom.elim

end Nv.C11
