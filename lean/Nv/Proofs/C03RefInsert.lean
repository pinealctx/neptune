import Nv.Proofs.C03RefStep
/-!
C03 — refinement B → A, insert path: `maybeSplitChild`, `node.insert` and `ReplaceOrInsert` on the store compute what
`insertH` and `Tree.replaceOrInsert` compute on the denoted tree (root copy and root split included). Also here: what
it means for a handle to be well-formed in a store (`TreeWF`), and what one write through a handle delivers (`WriteOut`).
-/
namespace Nv.C03.Cow

namespace HTree

theorem bounds (t : HTree) (hd : 2 ≤ t.degree) : 1 ≤ t.degree - 1 ∧ t.maxItems = 2 * (t.degree - 1) + 1 := by
  unfold HTree.maxItems; omega

end HTree

theorem insertAt_setAt_succ {α} (l : List α) (i : Nat) (a b : α) (hi : i < l.length) :
    insertAt (setAt l i a) (i + 1) b = l.take i ++ a :: b :: l.drop (i + 1) := by
  simp only [insertAt, setAt]
  rw [take_pre1 _ _ _ _ (length_take_le l i (by omega)), drop_pre1 _ _ _ _ (length_take_le l i (by omega))]
  simp

/-- the store after `maybeSplitChild` split the full child `i` of the owned node `n`
    (`mutableChild`, `split`, then the node's item and child lists are extended) -/
def splitChildRun (cow mn n i : Nat) (H : Heap) : Heap :=
  let r1 := (Cow.mutableChild cow n i) H
  let r2 := (Cow.splitB cow r1.1 mn) r1.2
  ((Cow.wr n (insertAt (r2.2.get n).items i r2.1.1) (insertAt (r2.2.get n).children (i + 1) r2.1.2)) r2.2).2

/-- the separator `maybeSplitChild` pushes up -/
def splitChildItem (cow mn n i : Nat) (H : Heap) : Item :=
  ((Cow.splitB cow ((Cow.mutableChild cow n i) H).1 mn) ((Cow.mutableChild cow n i) H).2).1.1

/-- the node `n` in the store `H3` after its full child `i` was split -/
structure SplitChildPost (mn cow : Nat) (H : Heap) (fuel n i : Nat) (H3 : Heap) : Prop where
  inner : Inner mn cow H3 fuel n
  items : (H3.get n).items = insertAt (H.get n).items i ((absNode H fuel ((H.get n).children.getD i n)).split mn).2.1
  kids : (H3.get n).children.map (absNode H3 fuel) =
    ((H.get n).children.map (absNode H fuel)).take i ++
      ((absNode H fuel ((H.get n).children.getD i n)).split mn).1 ::
      ((absNode H fuel ((H.get n).children.getD i n)).split mn).2.2 ::
      ((H.get n).children.map (absNode H fuel)).drop (i + 1)
  item : splitChildItem cow mn n i H = ((absNode H fuel ((H.get n).children.getD i n)).split mn).2.1
  len : (H3.get n).children.length = (H.get n).children.length + 1
  left : absNode H3 fuel ((H3.get n).children.getD i n) = ((absNode H fuel ((H.get n).children.getD i n)).split mn).1
  right : absNode H3 fuel ((H3.get n).children.getD (i + 1) n) =
    ((absNode H fuel ((H.get n).children.getD i n)).split mn).2.2
  step : Step cow H (fuel + 1) n H3 (fuel + 1) n

theorem children_of_abs {H : Heap} {f n : Nat} {is : List Item} {cs : List Node}
    (h : absNode H (f + 1) n = .mk is cs) : (H.get n).items = is ∧ (H.get n).children.map (absNode H f) = cs := by
  rw [abs_succ] at h
  injection h with h1 h2
  exact ⟨h1, h2⟩

theorem splitChild_abs (mn cow : Nat) (hmn : 1 ≤ mn) (H : Heap) (fuel n i : Nat) (h : Inner mn cow H fuel n)
    (hi : i < (H.get n).children.length)
    (hfull : (H.get ((H.get n).children.getD i n)).items.length = 2 * mn + 1) :
    SplitChildPost mn cow H fuel n i (splitChildRun cow mn n i H) := by
  unfold splitChildRun
  have hile : i ≤ (H.get n).items.length := Nat.le_of_lt_succ (Nat.lt_of_lt_of_eq hi h.len)
  have hitem : splitChildItem cow mn n i H =
      ((Cow.splitB cow ((Cow.mutableChild cow n i) H).1 mn) ((Cow.mutableChild cow n i) H).2).1.1 := rfl
  obtain ⟨first, H1, e1, e2, M⟩ := mutableChild_spec cow hmn H fuel n i h hi
  simp only [e1, e2] at hitem ⊢
  have hcm : (H.get n).children.getD i n ∈ (H.get n).children := getD_mem _ i n hi
  have hpos : (H.get n).children[i]? = some ((H.get n).children.getD i n) := getD_getElem? _ i n hi
  have hgd := getD_map (absNode H fuel) (H.get n).children i n hi
  generalize hc : (H.get n).children.getD i n = c at *
  have hcok := (nodeOk_iff _ _ _ _).1 (h.childOk hcm)
  have hfne : (H1.get first).items ≠ [] := by
    intro e
    have : (H1.get first).items.length = 2 * mn + 1 := by rw [← abs_items H1 fuel first, M.abs, abs_items]; exact hfull
    rw [e] at this; simp at this
  obtain ⟨m, next, H2, e1, e2, S⟩ := splitB_spec cow hmn H1 fuel first mn (M.sub hmn h hcm) hfne
  simp only [e1, e2] at hitem ⊢
  -- the node's cell through the two steps, and the write to it
  have hn1ne : H1.get n ≠ HNode.empty := by rw [M.node]; simp [HNode.empty]
  have hemp1 : ∀ y, H1.get y = HNode.empty → H.get y = HNode.empty :=
    fun y e => (frame_empty M.frame y e).resolve_left (fun e2 => hn1ne (e2 ▸ e))
  have hn2 : H2.get n = H1.get n := S.frame n (fun e => M.ne e.symm) hn1ne
  rw [hn2, M.node]
  simp only
  obtain ⟨H3, e, w1, w2, w3, w4⟩ := wr_owned H2 n cow (insertAt (H.get n).items i m)
    (insertAt (setAt (H.get n).children i first) (i + 1) next) (by simp only [Heap.tag]; rw [hn2, M.node]) S.wf
  rw [e]
  rw [insertAt_setAt_succ _ _ _ _ hi] at w1
  -- the two halves are apart from the node's cell
  have hcells1 := M.cells hpos
  have hn_first : ¬ InSub H1 fuel first n := fun hin => by
    rcases M.subs n hin with e | e
    · exact M.ne e.symm
    · exact h.notInChild hmn hcm e
  have hfirst3 := sub_agree H2 H3 fuel first (fun y hy => w2 y (fun e => hn_first (S.subsL n (e ▸ hy))))
  have hnext3 := sub_agree H2 H3 fuel next (fun y hy => w2 y (fun e => by
    rcases S.subsR n (e ▸ hy) with e2 | e2
    · exact hn1ne (e2 ▸ S.fresh)
    · exact hn_first e2))
  obtain ⟨r1, r2, _⟩ := h.rebuild hmn (H' := H3) (a := i) (b := i + 1) (is' := insertAt (H.get n).items i m)
    (new := [first, next]) (by rw [w1]; simp)
    (Frame.trans (Frame.trans (M.frame.mono (fun _ e => Or.inl e)) S.frame
        (fun y e => (hcells1 y (e ▸ InSub.self H1 fuel first)).imp Or.inr id))
      (fun y hy _ => w2 y hy) (fun y e => Or.inl (Or.inl e)))
    (by
      intro c' hc' y hy
      simp only [List.mem_cons, List.not_mem_nil, or_false] at hc'
      rcases hc' with rfl | rfl
      · exact hcells1 y (S.subsL y (hfirst3.2 y hy))
      · rcases S.subsR y (hnext3.2 y hy) with e | e
        · exact Or.inr (hemp1 y (e ▸ S.fresh))
        · exact hcells1 y e)
    w4 (by rw [w3]; exact Nat.le_trans M.size S.size)
  have hkids3 : (H3.get n).children.map (absNode H3 fuel) =
      ((H.get n).children.map (absNode H fuel)).take i ++ ((absNode H fuel c).split mn).1 ::
        ((absNode H fuel c).split mn).2.2 :: ((H.get n).children.map (absNode H fuel)).drop (i + 1) := by
    rw [(children_of_abs r1).2, List.map_cons, List.map_cons, List.map_nil, hfirst3.1, hnext3.1, S.left, S.right, M.abs]
    simp
  -- layer A: the node after the split is well-formed and has the same in-order list
  have hA := split_child_spec mn fuel (H.get n).items ((H.get n).children.map (absNode H fuel)) i
    (by have := h.kids; rw [abs_succ] at this; exact this) hile
    (by rw [hgd, abs_items]; exact hfull)
  rw [hgd] at hA
  have hs0 := h.sorted; rw [abs_succ, inorder_mk] at hs0
  have hitems3 : (H3.get n).items = insertAt (H.get n).items i ((absNode H fuel c).split mn).2.1 := by
    rw [w1, S.item, M.abs]
  have habs3 : absNode H3 (fuel + 1) n = .mk (insertAt (H.get n).items i ((absNode H fuel c).split mn).2.1)
      (((H.get n).children.map (absNode H fuel)).take i ++ ((absNode H fuel c).split mn).1 ::
        ((absNode H fuel c).split mn).2.2 :: ((H.get n).children.map (absNode H fuel)).drop (i + 1)) := by
    rw [abs_succ, hitems3, hkids3]
  have hti : ((H.get n).children.take i).length = i := length_take_le _ i (Nat.le_of_lt hi)
  have hin3 : Inner mn cow H3 fuel n := ⟨by rw [habs3]; exact hA.2, by rw [habs3, inorder_mk, hA.1]; exact hs0, r2.own, w4⟩
  subst hc
  exact ⟨hin3, hitems3, hkids3, by rw [hitem, S.item, M.abs],
    by rw [hin3.len, hitems3, insertAt_length _ _ _ hile, h.len],
    by rw [w1, getD_pre _ _ _ _ _ hti, hfirst3.1, S.left, M.abs],
    by rw [w1, getD_pre1 _ _ _ _ _ _ hti, hnext3.1, S.right, M.abs], r2⟩

theorem insertHere_eq (n : Nat) (nd : HNode) (x : Item) (H : Heap) :
    (Cow.insertHere n nd x) H =
      if (findIdx nd.items x.key).2 then
        (nd.items[(findIdx nd.items x.key).1]?, ((Cow.wr n (setAt nd.items (findIdx nd.items x.key).1 x) nd.children) H).2)
      else (none, ((Cow.wr n (insertAt nd.items (findIdx nd.items x.key).1 x) []) H).2) := by
  unfold Cow.insertHere
  rw [run_ite]
  split <;> rfl

theorem insertH_inner (mx : Nat) (x : Item) (f : Nat) (is : List Item) (cs : List Node) (hne : cs ≠ []) :
    insertH mx x (f + 1) (.mk is cs) =
      let i := (findIdx is x.key).1
      let c := cs.getD i default
      let s := c.split (mx / 2)
      if (findIdx is x.key).2 then (.mk (setAt is i x) cs, is[i]?)
      else if c.items.length < mx then (.mk is (setAt cs i (insertH mx x f c).1), (insertH mx x f c).2)
      else if x.key < s.2.1.key then
        (.mk (insertAt is i s.2.1) (cs.take i ++ (insertH mx x f s.1).1 :: s.2.2 :: cs.drop (i + 1)), (insertH mx x f s.1).2)
      else if s.2.1.key < x.key then
        (.mk (insertAt is i s.2.1) (cs.take i ++ s.1 :: (insertH mx x f s.2.2).1 :: cs.drop (i + 1)), (insertH mx x f s.2.2).2)
      else (.mk (setAt (insertAt is i s.2.1) i x) (cs.take i ++ s.1 :: s.2.2 :: cs.drop (i + 1)), some s.2.1) := by
  cases cs with
  | nil => exact absurd rfl hne
  | cons c0 rest => simp only [insertH]

theorem insertB_inner (cow mx : Nat) (x : Item) (f n : Nat) (H : Heap) (hne : (H.get n).children ≠ []) :
    (Cow.insertB cow mx x (f + 1) n) H =
      if (findIdx (H.get n).items x.key).2 then (Cow.insertHere n (H.get n) x) H
      else if (H.get ((H.get n).children.getD (findIdx (H.get n).items x.key).1 n)).items.length < mx then
        (Cow.insertB cow mx x f ((Cow.mutableChild cow n (findIdx (H.get n).items x.key).1) H).1)
          ((Cow.mutableChild cow n (findIdx (H.get n).items x.key).1) H).2
      else
        let i := (findIdx (H.get n).items x.key).1
        let H3 := splitChildRun cow (mx / 2) n i H
        let m := splitChildItem cow (mx / 2) n i H
        if x.key < m.key then
          (Cow.insertB cow mx x f ((Cow.mutableChild cow n i) H3).1) ((Cow.mutableChild cow n i) H3).2
        else if m.key < x.key then
          (Cow.insertB cow mx x f ((Cow.mutableChild cow n (i + 1)) H3).1) ((Cow.mutableChild cow n (i + 1)) H3).2
        else (some m, ((Cow.wr n (setAt (H3.get n).items i x) (H3.get n).children) H3).2) := by
  have hemp : (H.get n).children.isEmpty = false := by
    cases hc : (H.get n).children with
    | nil => exact absurd hc hne
    | cons _ _ => rfl
  rw [Cow.insertB, run_bind, run_rd]
  simp only [hemp, Bool.or_false]
  rw [run_ite]
  by_cases h1 : (findIdx (H.get n).items x.key).2 = true
  · rw [if_pos h1, if_pos h1]
  · rw [if_neg h1, if_neg h1, run_bind, run_rd]
    simp only []
    rw [run_ite]
    by_cases h2 : (H.get ((H.get n).children.getD (findIdx (H.get n).items x.key).1 n)).items.length < mx
    · rw [if_pos h2, if_pos h2]; rfl
    · rw [if_neg h2, if_neg h2]
      simp only [run_bind, run_rd, run_ite]
      rfl

theorem insertB_refines (mn cow : Nat) (hmn : 1 ≤ mn) (x : Item) : ∀ (fuel n : Nat) (H : Heap),
    Sub mn cow H fuel n → (H.get n).items.length < 2 * mn + 1 →
    Refines cow H fuel n ((Cow.insertB cow (2 * mn + 1) x fuel n) H) (insertH (2 * mn + 1) x fuel (absNode H fuel n)) := by
  intro fuel
  induction fuel with
  | zero =>
    intro n H h _
    have hleaf := h.leaf
    have hrun : (Cow.insertB cow (2 * mn + 1) x 0 n) H = (Cow.insertHere n (H.get n) x) H := by
      unfold Cow.insertB
      rw [run_bind, run_rd]
      simp only []
      rw [run_ite, if_pos (by simp [hleaf])]
    rw [hrun, insertHere_eq, show absNode H 0 n = .mk (H.get n).items [] by simp [absNode, hleaf], hleaf]
    by_cases hf : (findIdx (H.get n).items x.key).2 = true
    · rw [if_pos hf]
      exact (leaf_write h _ _).of_eq (by simp [insertH, hf])
    · rw [if_neg hf]
      exact (leaf_write h _ _).of_eq (by simp [insertH, hf])
  | succ f ih =>
    intro n H h hroom
    have hin := h.inner
    have hlen := hin.len
    have hne : (H.get n).children ≠ [] := by intro e; rw [e] at hlen; simp at hlen
    have hA := insertH_inner (2 * mn + 1) x f (H.get n).items ((H.get n).children.map (absNode H f)) (by simpa using hne)
    simp only [] at hA
    have hi : (findIdx (H.get n).items x.key).1 < (H.get n).children.length :=
      hlen ▸ Nat.lt_succ_of_le (findIdx_le (H.get n).items x.key)
    rw [half_full, getD_map (absNode H f) (H.get n).children (findIdx (H.get n).items x.key).1 n hi] at hA
    rw [insertB_inner cow (2 * mn + 1) x f n H hne, half_full, abs_succ H f n, hA]
    -- the recursive call on a child `ch` that denotes what `g` did and has room
    have hrec : ∀ (H0 : Heap) (g : Nat), (absNode H0 f g).items.length < 2 * mn + 1 → ∀ (ch : Nat) (H1 : Heap),
        Sub mn cow H1 f ch → absNode H1 f ch = absNode H0 f g →
        Refines cow H1 f ch ((Cow.insertB cow (2 * mn + 1) x f ch) H1) (insertH (2 * mn + 1) x f (absNode H0 f g)) := by
      intro H0 g hc ch H1 hsub habs
      rw [← habs]
      exact ih ch H1 hsub (by rw [← abs_items H1 f ch, habs]; exact hc)
    by_cases hf : (findIdx (H.get n).items x.key).2 = true
    · -- the key is in this node
      rw [if_pos hf, if_pos hf, insertHere_eq, if_pos hf]
      exact hin.rewrite hmn _ _
    · rw [if_neg hf, if_neg hf]
      generalize (findIdx (H.get n).items x.key).1 = i at *
      have hcm : (H.get n).children.getD i n ∈ (H.get n).children := getD_mem _ i n hi
      by_cases hchild : (absNode H f ((H.get n).children.getD i n)).items.length < 2 * mn + 1
      · -- the child has room: descend
        rw [if_pos hchild, if_pos (by rw [← abs_items H f]; exact hchild)]
        exact (descend_abs cow hmn H f n i hin hi (fun ch => Cow.insertB cow (2 * mn + 1) x f ch) _ (hrec H _ hchild)).1
      · -- the child is full: split it first
        rw [if_neg hchild, if_neg (by rw [← abs_items H f]; exact hchild)]
        have hfull : (H.get ((H.get n).children.getD i n)).items.length = 2 * mn + 1 := by
          rw [← abs_items H f]
          exact Nat.le_antisymm ((nodeOk_iff _ _ _ _).1 (hin.childOk hcm)).2.1 (Nat.le_of_not_lt hchild)
        obtain ⟨Pinner, Pitems, Pkids, Pitem, Plen, Pleft, Pright, Pstep⟩ := splitChild_abs mn cow hmn H f n i hin hi hfull
        obtain ⟨_, hl1, hl2, _⟩ := split_spec mn f (absNode H f ((H.get n).children.getD i n))
          ((nodeOk_iff _ _ _ _).1 (hin.childOk hcm)).2.2 (by rw [abs_items]; exact hfull)
        simp only []
        rw [Pitem]
        generalize splitChildRun cow mn n i H = H3 at Pinner Pitems Pkids Plen Pleft Pright Pstep
        rw [← Pleft] at hl1
        rw [← Pright] at hl2
        generalize (absNode H f ((H.get n).children.getD i n)).split mn = sp at Pitems Pkids Pleft Pright ⊢
        obtain ⟨c1, m, c2⟩ := sp
        simp only at Pitems Pkids Pleft Pright ⊢
        have hilen : i ≤ ((H.get n).children.map (absNode H f)).length := by
          rw [List.length_map]; exact Nat.le_of_lt hi
        by_cases hxm : x.key < m.key
        · rw [if_pos hxm, if_pos hxm]
          obtain ⟨D, _⟩ := descend_abs cow hmn H3 f n i Pinner (by rw [Plen]; exact Nat.lt_succ_of_lt hi)
            (fun ch => Cow.insertB cow (2 * mn + 1) x f ch) _ (hrec H3 _ (by rw [hl1]; exact lt_full mn))
          rw [Pleft, Pitems, Pkids, setAt_splice2 _ _ _ _ _ hilen] at D
          exact ⟨Pstep.trans D.toStep, D.abs, D.ret⟩
        · rw [if_neg hxm, if_neg hxm]
          by_cases hmx : m.key < x.key
          · rw [if_pos hmx, if_pos hmx]
            obtain ⟨D, _⟩ := descend_abs cow hmn H3 f n (i + 1) Pinner (by rw [Plen]; exact Nat.succ_lt_succ hi)
              (fun ch => Cow.insertB cow (2 * mn + 1) x f ch) _ (hrec H3 _ (by rw [hl2]; exact lt_full mn))
            rw [Pright, Pitems, Pkids, setAt_splice2' _ _ _ _ _ hilen] at D
            exact ⟨Pstep.trans D.toStep, D.abs, D.ret⟩
          · -- the separator itself has the key: replace it
            rw [if_neg hmx, if_neg hmx]
            have D := Pinner.rewrite hmn (setAt (H3.get n).items i x) (some m)
            exact ⟨Pstep.trans D.toStep, by rw [D.abs, Pitems, Pkids], D.ret⟩

/-- a root in the store: what `Tree.ok` says about the denoted node, plus the store facts -/
structure RootWF (mn : Nat) (H : Heap) (h r : Nat) : Prop where
  len : (H.get r).items.length ≤ 2 * mn + 1
  kids : KidsOk mn (2 * mn + 1) h (absNode H h r)
  ne : (H.get r).items ≠ [] ∨ h = 0
  sorted : Sorted (absNode H h r).inorder
  wf : WFree H
  lt : r < H.size

def HTree.absAt (t : HTree) (H : Heap) (h : Nat) : Tree := ⟨t.degree, t.root.map (absNode H h), t.length⟩

/-- the handle denotes a well-formed tree of height `h`, and parked cells are empty -/
structure TreeWF (t : HTree) (H : Heap) (h : Nat) : Prop where
  ok : (t.absAt H h).ok = true
  height : ∀ r, t.root = some r → height (absNode H h r) = h ∧ r < H.size ∧ r ∉ H.free
  wf : WFree H

theorem TreeWF.degree {t : HTree} {H : Heap} {h : Nat} (w : TreeWF t H h) : 2 ≤ t.degree := by
  have := w.ok; unfold Tree.ok at this
  simp only [Bool.and_eq_true, decide_eq_true_eq] at this; exact this.1

namespace TreeWF

theorem rootWF {t : HTree} {H : Heap} {h r : Nat} (w : TreeWF t H h) (hr : t.root = some r) :
    RootWF (t.degree - 1) H h r := by
  have hroot : (t.absAt H h).root = some (absNode H h r) := by simp [HTree.absAt, hr]
  obtain ⟨hd, hro, hs, _⟩ := ok_root _ _ hroot w.ok
  obtain ⟨hmx, hmn, _⟩ := tree_bounds (t.absAt H h) hd
  rw [hmx, hmn] at hro
  obtain ⟨a, b, c⟩ := (rootOk_iff _ _ _).1 hro
  obtain ⟨hh, hlt, _⟩ := w.height r hr
  rw [hh] at b
  refine ⟨by rw [abs_items] at a; exact a, b, ?_, hs, w.wf, hlt⟩
  cases h with
  | zero => exact Or.inr rfl
  | succ h =>
    left
    intro e
    have hl := (kids_succ b).1
    have := c (by rw [abs_succ, children_mk]; intro e2; rw [List.map_eq_nil_iff] at e2; rw [e2] at hl; simp at hl)
    rw [abs_items, e] at this; simp at this

end TreeWF

def applyA (t : Tree) : WOp → Tree × Option Item
  | .insert x => t.replaceOrInsert x
  | .remove typ => t.deleteItem typ
  | .clear _ => (t.clear, none)

structure WriteOut (t : HTree) (H : Heap) (h : Nat) (r : (HTree × Option Item) × Heap) (a : Tree × Option Item)
    (h' : Nat) : Prop where
  abs : r.1.1.absAt r.2 h' = a.1
  ret : r.1.2 = a.2
  wf : TreeWF r.1.1 r.2 h'
  subs : ∀ r', r.1.1.root = some r' → ∀ y, InSub r.2 h' r' y →
    (∃ r0, t.root = some r0 ∧ InSub H h r0 y) ∨ H.get y = HNode.empty

theorem WriteOut.root {t : HTree} {H H' : Heap} {h h' r' len : Nat} {ret : Option Item} {a : Tree × Option Item}
    {rA : Node} (ha : a = (⟨t.degree, some rA, len⟩, ret)) (hok : a.1.ok = true) (habs : absNode H' h' r' = rA)
    (hh : height rA = h') (hlt : r' < H'.size) (hnf : r' ∉ H'.free) (hwf : WFree H')
    (hsubs : ∀ y, InSub H' h' r' y → (∃ r0, t.root = some r0 ∧ InSub H h r0 y) ∨ H.get y = HNode.empty) :
    WriteOut t H h ((⟨t.degree, some r', len, t.cow⟩, ret), H') a h' := by
  subst ha habs
  exact ⟨rfl, rfl, ⟨hok, fun r e => by cases e; exact ⟨hh, hlt, hnf⟩, hwf⟩, fun r e y hy => by cases e; exact hsubs y hy⟩

theorem rootMutable (mn cow : Nat) (hmn : 1 ≤ mn) (H : Heap) (h r0 : Nat) (w : RootWF mn H h r0) :
    ∃ r H1, ((Cow.mutableFor cow r0) H).1 = r ∧ ((Cow.mutableFor cow r0) H).2 = H1 ∧
      Sub mn cow H1 h r ∧ absNode H1 h r = absNode H h r0 ∧ (H1.get r).items = (H.get r0).items ∧
      Step cow H h r0 H1 h r := by
  obtain ⟨r, H1, e1, e2, m1, m2, m3, m4, m5, a1, a2⟩ := mutableFor_spec mn (2 * mn + 1) cow hmn H h r0 w.wf w.kids
  have hown : H1.tag r = some cow := by simp only [Heap.tag]; rw [m1]
  have hitems : (H1.get r).items = (H.get r0).items := by rw [m1]
  refine ⟨r, H1, e1, e2, ⟨by rw [a1]; exact w.kids, by rw [a1]; exact w.sorted, hown, m5, by rw [hitems]; exact w.ne⟩,
    a1, hitems, hown, m5, m4, m3.mono (fun _ e => e.elim), fun y hy => ?_⟩
  rcases a2 y hy with e | e
  · exact m2.imp (fun e2 => by rw [e, e2]; exact InSub.self H h r0) (fun e2 => by rw [e]; exact e2)
  · exact Or.inl e

/-- the root `insert` is called on, and the store at that moment -/
def rootPrep (t : HTree) (r0 : Nat) (H : Heap) : Nat × Heap :=
  let r1 := (Cow.mutableFor t.cow r0) H
  if t.maxItems ≤ (r1.2.get r1.1).items.length then
    let s := (Cow.splitB t.cow r1.1 (t.maxItems / 2)) r1.2
    let nr := (Cow.newNode t.cow) s.2
    (nr.1, ((Cow.wr nr.1 [s.1.1] [r1.1, s.1.2]) nr.2).2)
  else r1

def insOut (t : HTree) (x : Item) (p : Nat × Heap) : Option Item × Heap :=
  (Cow.insertB t.cow t.maxItems x (heightB p.2 p.2.size p.1) p.1) p.2

theorem replaceOrInsertB_some (t : HTree) (r0 : Nat) (x : Item) (H : Heap) (hr : t.root = some r0) :
    (replaceOrInsertB t x) H =
      (({ t with root := some (rootPrep t r0 H).1,
                 length := if (insOut t x (rootPrep t r0 H)).1.isNone then t.length + 1 else t.length },
        (insOut t x (rootPrep t r0 H)).1), (insOut t x (rootPrep t r0 H)).2) := by
  unfold replaceOrInsertB rootPrep insOut
  rw [hr]
  show ((Cow.mutableFor t.cow r0) >>= _) H = _
  rw [run_bind, run_bind, run_rd, run_bind]
  by_cases hc : t.maxItems ≤ (((Cow.mutableFor t.cow r0) H).2.get ((Cow.mutableFor t.cow r0) H).1).items.length
  · rw [if_pos hc, if_pos hc]; rfl
  · rw [if_neg hc, if_neg hc]; rfl

/-- the node `insert` is called on at layer A -/
def rootPrepA (mn : Nat) (rA : Node) : Node :=
  if 2 * mn + 1 ≤ rA.items.length then .mk [(rA.split mn).2.1] [(rA.split mn).1, (rA.split mn).2.2] else rA

theorem rootPrep_abs (t : HTree) (mn : Nat) (hmn : 1 ≤ mn) (hmx : t.maxItems = 2 * mn + 1) (H : Heap) (h r0 : Nat)
    (w : RootWF mn H h r0) :
    ∃ h', Sub mn t.cow (rootPrep t r0 H).2 h' (rootPrep t r0 H).1 ∧
      ((rootPrep t r0 H).2.get (rootPrep t r0 H).1).items.length < 2 * mn + 1 ∧
      absNode (rootPrep t r0 H).2 h' (rootPrep t r0 H).1 = rootPrepA mn (absNode H h r0) ∧
      height (rootPrepA mn (absNode H h r0)) = h' ∧ Step t.cow H h r0 (rootPrep t r0 H).2 h' (rootPrep t r0 H).1 := by
  unfold rootPrep rootPrepA
  rw [hmx, half_full]
  obtain ⟨r, H1, e1, e2, hsub, a1, hitems, hstep⟩ := rootMutable mn t.cow hmn H h r0 w
  simp only [e1, e2]
  rw [abs_items, ← hitems]
  by_cases hfull : 2 * mn + 1 ≤ (H1.get r).items.length
  · rw [if_pos hfull, if_pos hfull]
    have hlen : (H1.get r).items.length = 2 * mn + 1 := Nat.le_antisymm (hitems ▸ w.len) hfull
    obtain ⟨mid, nx, H2, e1, e2, S⟩ := splitB_spec t.cow hmn H1 h r mn hsub (by intro e; rw [e] at hlen; simp at hlen)
    simp only [e1, e2]
    obtain ⟨nr, H3, e1, e2, n1, n2, n3, n4, n5⟩ := newNode_spec t.cow H2 S.wf
    rw [e1, e2]
    obtain ⟨H4, e, w1, w2, w3, w4⟩ := wr_owned H3 nr t.cow [mid] [r, nx] (by simp only [Heap.tag]; rw [n1]) n5
    rw [e]
    have hF24 : Frame H2 H4 (fun _ => False) := by
      intro x _ hx
      have hxn : x ≠ nr := fun e => hx (by rw [e, n2])
      rw [w2 x hxn, n3 x hxn]
    obtain ⟨hin, hl1, hl2, hk1, hk2, hh⟩ := split_spec mn h (absNode H1 h r) hsub.kids (by rw [abs_items]; exact hlen)
    obtain ⟨f1, f2⟩ := abs_frame mn (2 * mn + 1) hmn hF24 h r (by rw [S.left]; exact nodeOk_of_length_eq hl1 hk1) (fun _ _ e => e)
    obtain ⟨g1, g2⟩ := abs_frame mn (2 * mn + 1) hmn hF24 h nx (by rw [S.right]; exact nodeOk_of_length_eq hl2 hk2) (fun _ _ e => e)
    have habs : absNode H4 (h + 1) nr =
        .mk [((absNode H h r0).split mn).2.1] [((absNode H h r0).split mn).1, ((absNode H h r0).split mn).2.2] := by
      rw [abs_succ, w1]
      simp only [List.map_cons, List.map_nil]
      rw [f1, g1, S.left, S.item, S.right, a1]
    have hown : H4.tag nr = some t.cow := by simp only [Heap.tag]; rw [w1]
    -- from the copied root to the new root above its two halves
    have hstep14 : Step t.cow H1 h r H4 (h + 1) nr := by
      refine ⟨hown, w4, by rw [w3]; exact Nat.le_trans S.size n4,
        Frame.trans (S.frame.mono (fun y e => e ▸ InSub.self H1 h r)) hF24 (fun _ e => e.elim), ?_⟩
      rintro y (e | ⟨c, hc, hy⟩)
      · exact (frame_empty S.frame y (by rw [e, n2])).imp_left (fun (e2 : y = r) => by rw [e2]; exact InSub.self H1 h r)
      · rw [w1] at hc
        simp only [List.mem_cons, List.not_mem_nil, or_false] at hc
        rcases hc with rfl | rfl
        · exact Or.inl (S.subsL y (f2 y hy))
        · exact (S.subsR y (g2 y hy)).symm.imp_right (fun e => by rw [e]; exact S.fresh)
    refine ⟨h + 1, ⟨?_, ?_, hown, w4, Or.inl (by rw [w1]; simp)⟩,
      by rw [w1]; exact Nat.succ_lt_succ (Nat.mul_pos (Nat.succ_pos 1) hmn), habs, ?_, hstep.trans hstep14⟩
    · rw [habs, ← a1]
      simp only [KidsOk, children_mk, items_mk, List.length_cons, List.length_nil, List.mem_cons, List.not_mem_nil, or_false]
      refine ⟨trivial, ?_⟩
      rintro c (rfl | rfl)
      · exact nodeOk_of_length_eq hl1 hk1
      · exact nodeOk_of_length_eq hl2 hk2
    · rw [habs, ← a1]
      have hs := hsub.sorted
      rw [hin] at hs
      simpa using hs
    · simp only [height]
      rw [← a1, hh, height_of_kidsOk _ _ _ _ hsub.kids]
  · rw [if_neg hfull, if_neg hfull, e1, e2]
    exact ⟨h, hsub, Nat.lt_of_not_le hfull, a1, height_of_kidsOk _ _ _ _ w.kids, hstep⟩

theorem replaceOrInsertB_refines (t : HTree) (H : Heap) (x : Item) (h : Nat) (w : TreeWF t H h) :
    ∃ h', WriteOut t H h ((replaceOrInsertB t x) H) ((t.absAt H h).replaceOrInsert x) h' := by
  have hd := w.degree
  have hvok : ((t.absAt H h).replaceOrInsert x).1.ok = true := (tree_insert_spec (t.absAt H h) x w.ok).2.2.1
  cases hr : t.root with
  | none =>
    have hrun : (replaceOrInsertB t x) H =
        (({ t with root := some ((Cow.newNode t.cow) H).1, length := t.length + 1 }, none),
          ((Cow.wr ((Cow.newNode t.cow) H).1 [x] []) ((Cow.newNode t.cow) H).2).2) := by
      unfold replaceOrInsertB; rw [hr]; rfl
    have hval : (t.absAt H h).replaceOrInsert x = (⟨t.degree, some (.mk [x] []), t.length + 1⟩, none) := by
      simp [Tree.replaceOrInsert, HTree.absAt, hr]
    rw [hrun]
    obtain ⟨nr, H1, e1, e2, n1, n2, n3, n4, n5⟩ := newNode_spec t.cow H w.wf
    rw [e1, e2]
    obtain ⟨H2, e, w1, w2, w3, w4⟩ := wr_owned H1 nr t.cow [x] [] (by simp only [Heap.tag]; rw [n1]) n5
    rw [e]
    have hown2 : H2.tag nr = some t.cow := by simp only [Heap.tag]; rw [w1]
    exact ⟨0, WriteOut.root hval hvok (by simp [absNode, w1]) rfl (tag_some_lt _ _ _ hown2) (not_free_of_tag w4 hown2) w4
      (fun y hy => Or.inr (by rw [show y = nr from hy, n2]))⟩
  | some r0 =>
    obtain ⟨hmn, hmx⟩ := t.bounds hd
    obtain ⟨h', p1, p2, p3, p4, p5⟩ := rootPrep_abs t (t.degree - 1) hmn hmx H h r0 (w.rootWF hr)
    rw [replaceOrInsertB_some t r0 x H hr]
    have hval : (t.absAt H h).replaceOrInsert x =
        (⟨t.degree, some (insertH (2 * (t.degree - 1) + 1) x h' (rootPrepA (t.degree - 1) (absNode H h r0))).1,
            if (insertH (2 * (t.degree - 1) + 1) x h' (rootPrepA (t.degree - 1) (absNode H h r0))).2.isNone
              then t.length + 1 else t.length⟩,
          (insertH (2 * (t.degree - 1) + 1) x h' (rootPrepA (t.degree - 1) (absNode H h r0))).2) := by
      have e1 : (t.absAt H h).maxItems = 2 * (t.degree - 1) + 1 := hmx
      have e2 : (t.absAt H h).root = some (absNode H h r0) := by simp [HTree.absAt, hr]
      rw [← p4]
      unfold Tree.replaceOrInsert rootPrepA
      rw [e2]
      simp only [e1, half_full]
      rfl
    have o := insertB_refines (t.degree - 1) t.cow hmn x h' (rootPrep t r0 H).1 (rootPrep t r0 H).2 p1 p2
    unfold insOut
    rw [heightB_eq (t.degree - 1) (2 * (t.degree - 1) + 1) hmn _ h' _ p1.kids p1.sorted p1.nonempty p1.lt, hmx]
    generalize (Cow.insertB t.cow (2 * (t.degree - 1) + 1) x h' (rootPrep t r0 H).1) (rootPrep t r0 H).2 = out at o
    have oabs := o.abs
    have oret := o.ret
    rw [p3] at oabs oret
    have hpost := insertH_spec (t.degree - 1) x h' (rootPrepA (t.degree - 1) (absNode H h r0))
      (by rw [← p3]; exact p1.kids) (by rw [← p3, abs_items]; exact p2) (by rw [← p3]; exact p1.sorted)
    rw [oret]
    exact ⟨h', WriteOut.root hval hvok oabs (height_of_kidsOk _ _ _ _ hpost.kids) (tag_some_lt _ _ _ o.own)
      (not_free_of_tag o.wf o.own) o.wf
      (fun y hy => ((p5.trans o.toStep).subs y hy).imp_left (fun e => ⟨r0, hr, e⟩))⟩

end Nv.C03.Cow
