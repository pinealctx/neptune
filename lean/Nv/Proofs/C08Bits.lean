import Nv.Model.C08
/-! C08 — bit-level lemmas: `bit i`, set/clear, membership lists, first/last set bit. Core only. -/
namespace Nv.C08

theorem bit_eq_twoPow (i : Nat) : bit i = BitVec.twoPow 64 i := by
  unfold bit; rw [BitVec.twoPow_eq]

theorem getLsbD_bit (i j : Nat) : (bit i).getLsbD j = (decide (i < 64) && decide (i = j)) := by
  rw [bit_eq_twoPow, BitVec.getLsbD_twoPow]

theorem twoPow_ne_zero {i : Nat} (h : i < 64) : BitVec.twoPow 64 i ≠ 0#64 := by
  intro h0
  have := congrArg (fun x => x.getLsbD i) h0
  simp [h] at this

theorem test_bit (w : Bit64) {i : Nat} (h : i < 64) : (w &&& bit i != 0#64) = w.getLsbD i := by
  rw [bit_eq_twoPow, BitVec.and_twoPow]
  cases hb : w.getLsbD i
  · simp
  · simp [twoPow_ne_zero h]

theorem getLsbD_clear (w : Bit64) (i j : Nat) :
    (w &&& ~~~(bit i)).getLsbD j = (w.getLsbD j && !decide (i = j)) := by
  rw [BitVec.getLsbD_and, BitVec.getLsbD_not, getLsbD_bit]
  by_cases hj : j < 64
  · by_cases hi : i < 64 <;> by_cases hij : i = j <;> simp [hj, hi, hij]
  · have : w.getLsbD j = false := BitVec.getLsbD_of_ge w j (by omega)
    simp [this]

theorem getLsbD_setbit (w : Bit64) (i j : Nat) (hi : i < 64) :
    (w ||| bit i).getLsbD j = (w.getLsbD j || decide (i = j)) := by
  rw [BitVec.getLsbD_or, getLsbD_bit]; simp [hi]

theorem exists_bit_of_ne_zero {w : Bit64} (h : w ≠ 0#64) : ∃ j, j < 64 ∧ w.getLsbD j = true := by
  apply Classical.byContradiction
  intro hn
  apply h
  apply BitVec.eq_of_getLsbD_eq
  intro i hi
  cases hb : w.getLsbD i
  · simp
  · exact absurd ⟨i, hi, hb⟩ hn

theorem filter_zero (L : List Nat) : L.filter (0#64).getLsbD = [] :=
  List.filter_eq_nil_iff.2 fun _ _ => by simp

theorem members_zero : members 0#64 = [] := filter_zero _

theorem members_eq_nil_iff (w : Bit64) : members w = [] ↔ w = 0#64 := by
  constructor
  · intro h
    apply Classical.byContradiction
    intro hne
    obtain ⟨j, hj, hb⟩ := exists_bit_of_ne_zero hne
    have : j ∈ members w := List.mem_filter.2 ⟨List.mem_range.2 hj, hb⟩
    rw [h] at this; cases this
  · intro h; rw [h]; exact members_zero

theorem filter_of_find {L : List Nat} (hnd : L.Nodup) {p : Nat → Bool} {i : Nat} (h : L.find? p = some i) :
    L.filter p = i :: L.filter (fun j => p j && !decide (i = j)) := by
  induction L with
  | nil => simp at h
  | cons a L ih =>
    have hnd' := (List.nodup_cons.1 hnd)
    by_cases hpa : p a = true
    · have : a = i := by simpa [List.find?, hpa] using h
      subst this
      have : L.filter (fun j => p j && !decide (a = j)) = L.filter p := by
        apply List.filter_congr
        intro j hj
        have : a ≠ j := fun e => hnd'.1 (e ▸ hj)
        simp [this]
      simp [hpa, this]
    · have hpa' : p a = false := by simpa using hpa
      have h' : L.find? p = some i := by simpa [List.find?, hpa'] using h
      rw [List.filter_cons, List.filter_cons]
      simp only [hpa', Bool.false_and, Bool.false_eq_true, if_false]
      exact ih hnd'.2 h'

theorem order_nodup (rev : Bool) : (order rev).Nodup := by
  unfold order
  split
  · exact List.pairwise_reverse.2 (List.nodup_range.imp Ne.symm)
  · exact List.nodup_range

theorem mem_order {rev : Bool} {j : Nat} : j ∈ order rev ↔ j < 64 := by
  cases rev <;> simp [order]

theorem order_lt {rev : Bool} : ∀ i ∈ order rev, i < 64 := fun _ h => mem_order.1 h

/-- index chosen by the sparse loop: lowest set bit going forward, highest going backward -/
def firstIdx (rev : Bool) (w : Bit64) : Nat := if rev then bitlen64 w - 1 else tz64 w

theorem firstIdx_spec (rev : Bool) {w : Bit64} (h : w ≠ 0#64) :
    (order rev).find? w.getLsbD = some (firstIdx rev w) := by
  obtain ⟨j, hj, hb⟩ := exists_bit_of_ne_zero h
  obtain ⟨i, hi⟩ := Option.isSome_iff_exists.1 (List.find?_isSome.2 ⟨j, mem_order.2 hj, hb⟩)
  rw [hi]
  cases rev
  · simp only [order, Bool.false_eq_true, if_false] at hi
    simp [firstIdx, tz64, hi]
  · simp only [order, if_true] at hi
    simp [firstIdx, bitlen64, hi]

theorem filter_order (rev : Bool) (w : Bit64) :
    (order rev).filter w.getLsbD = if rev then (members w).reverse else members w := by
  cases rev
  · simp [order, members]
  · simp [order, members, List.filter_reverse]

theorem filter_clear {L : List Nat} (w : Bit64) (i : Nat) :
    L.filter (w &&& ~~~(bit i)).getLsbD = L.filter (fun j => w.getLsbD j && !decide (i = j)) :=
  List.filter_congr fun j _ => getLsbD_clear w i j

theorem filter_clear_not_mem {L : List Nat} (w : Bit64) {i : Nat} (hi : i ∉ L) :
    L.filter (w &&& ~~~(bit i)).getLsbD = L.filter w.getLsbD := by
  apply List.filter_congr
  intro j hj
  rw [getLsbD_clear]
  have : i ≠ j := fun e => hi (e ▸ hj)
  simp [this]

theorem popcount_full : popcount (~~~(0#64)) = 64 := by
  unfold popcount members
  rw [List.filter_eq_self.2, List.length_range]
  intro i hi
  rw [BitVec.getLsbD_not, BitVec.getLsbD_zero, decide_eq_true (List.mem_range.1 hi)]
  rfl

theorem len64_eq (b : Bit64) : len64 b = (members b).length := by
  unfold len64 full
  split
  · rename_i h
    have : b = ~~~(0#64) := by simpa using h
    rw [this]; exact popcount_full.symm
  · rfl

end Nv.C08
