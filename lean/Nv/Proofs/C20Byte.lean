import Nv.Proofs.C20Json
/-! C20 — JsByte: slash lists, element range, round trip. -/
namespace Nv.C20

theorem splitSlash_ne_nil : ∀ s : Bytes, splitSlash s ≠ []
  | [] => by simp [splitSlash]
  | c :: cs => by
    simp only [splitSlash]
    split
    · simp
    · split <;> simp

theorem splitSlash_noslash : ∀ p : Bytes, (∀ c ∈ p, c ≠ 47) → splitSlash p = [p]
  | [], _ => rfl
  | c :: cs, h => by
    have hc : c ≠ 47 := h c (by simp)
    simp only [splitSlash, if_neg hc, splitSlash_noslash cs (fun x hx => h x (by simp [hx]))]

theorem splitSlash_append : ∀ (p rest : Bytes), (∀ c ∈ p, c ≠ 47) →
    splitSlash (p ++ 47 :: rest) = p :: splitSlash rest
  | [], rest, _ => by simp [splitSlash]
  | c :: cs, rest, h => by
    have hc : c ≠ 47 := h c (by simp)
    simp only [List.cons_append, splitSlash, if_neg hc,
      splitSlash_append cs rest (fun x hx => h x (by simp [hx]))]

theorem splitSlash_joinSlash : ∀ (ps : List Bytes), ps ≠ [] → (∀ p ∈ ps, ∀ c ∈ p, c ≠ 47) →
    splitSlash (joinSlash ps) = ps
  | [], h, _ => absurd rfl h
  | [p], _, h => by simp only [joinSlash]; exact splitSlash_noslash p (h p (by simp))
  | p :: q :: ps, _, h => by
    simp only [joinSlash]
    rw [splitSlash_append p _ (h p (by simp)),
      splitSlash_joinSlash (q :: ps) (by simp) (fun x hx => h x (by simp [hx]))]

theorem convByte_range_ok {t : Int} {x : Nat} (h : convByte .rangeChecked t = .ok x) : (x : Int) = t ∧ x ≤ 255 := by
  simp only [convByte] at h
  split at h
  · simp only [Res.ok.injEq] at h; omega
  · cases h

theorem convPieces_range_ok : ∀ (ps : List Bytes) (l : List Nat), convPieces .rangeChecked ps = .ok l →
    ListRel (fun (p : Bytes) (x : Nat) => denotesCore p (x : Int) ∧ x ≤ 255) ps l
  | [], l, h => by simp only [convPieces, Res.ok.injEq] at h; subst h; exact .nil
  | p :: ps, l, h => by
    simp only [convPieces] at h
    split at h
    · cases h
    · cases h
    · rename_i t ht
      split at h
      · cases h
      · cases h
      · rename_i x hx
        split at h
        · rename_i xs hxs
          simp only [Res.ok.injEq] at h
          subst h
          have hd := (denotesCore_of_parseInt (bits := 64) (by omega) ht).1
          have hc := convByte_range_ok hx
          exact .cons ⟨by rw [hc.1]; exact hd, hc.2⟩ (convPieces_range_ok ps xs hxs)
        · rename_i hr
          exact absurd h (hr l)

theorem fromString_range_ok {s : Bytes} {l : List Nat} (h : fromString .rangeChecked s = .ok l) : denotesList s l := by
  unfold fromString at h
  split at h
  · rename_i he
    simp only [Res.ok.injEq] at h
    left; exact ⟨List.isEmpty_iff.1 he, h.symm⟩
  · rename_i he
    right; exact ⟨fun hs => he (by simp [hs]), convPieces_range_ok _ _ h⟩

theorem decodeBytes_exact {w : Wrap} (hw : w.Checked) {b : Bytes} {l : List Nat}
    (h : decodeBytes w .rangeChecked b = .ok l) : denotesBytes b l := by
  unfold decodeBytes at h
  split at h
  · cases h
  · rcases strip_checked hw b with hs | hs | ⟨s, hb, hs⟩ | ⟨hs, _⟩ <;> rw [hs] at h
    · cases h
    · exact Or.inr (fromString_range_ok h)
    · exact Or.inl ⟨s, hb, fromString_range_ok h⟩
    · cases h

theorem listRel_le_255 {ps : List Bytes} {l : List Nat}
    (h : ListRel (fun (p : Bytes) (x : Nat) => denotesCore p (x : Int) ∧ x ≤ 255) ps l) : ∀ x ∈ l, x ≤ 255 := by
  induction h with
  | nil => intro x hx; cases hx
  | cons hab _ ih =>
    intro x hx
    rcases List.mem_cons.1 hx with rfl | hx
    · exact hab.2
    · exact ih x hx

/-- a quoted token denotes a byte list through its content only: read as a bare list, its first piece would start
    with the quote character, which is no decimal -/
theorem denotesList_of_denotesBytes_quoted {s : Bytes} {l : List Nat} (h : denotesBytes (34 :: (s ++ [34])) l) :
    denotesList s l := by
  rcases h with ⟨s', he, hd⟩ | ⟨he, _⟩ | ⟨_, hr⟩
  · have := congrArg inner he
    rw [inner_quoted, inner_quoted] at this
    exact this ▸ hd
  · cases he
  · exfalso
    obtain ⟨t, ps, hsp⟩ : ∃ t ps, splitSlash (34 :: (s ++ [34])) = (34 :: t) :: ps := by
      simp only [splitSlash, show (34 : Nat) ≠ 47 by decide, if_false]
      split
      · exact ⟨[], [], rfl⟩
      · exact ⟨_, _, rfl⟩
    rw [hsp] at hr
    cases hr with
    | cons h1 _ =>
      rcases h1.1 with ⟨hdg, _⟩ | ⟨u, hu, _⟩ | ⟨u, hu, _⟩
      · have := hdg.2 34 List.mem_cons_self; omega
      · simp at hu
      · simp at hu

theorem fmtNat10_noslash (n : Nat) : ∀ c ∈ fmtNat 10 n, c ≠ 47 := by
  intro c hc
  have := fmtNat10_dec n c hc
  omega

theorem atoi_fmtNat (n : Nat) (hn : n < 2 ^ 63) : atoi (fmtNat 10 n) = .ok (n : Int) := by
  have hd : denotesCore (fmtNat 10 n) (n : Int) := Or.inl ⟨decDigits_fmtNat n, by rw [decVal_fmtNat (by omega)]⟩
  rw [atoi, parseInt_denotesCore (by omega) hd, if_pos (by omega)]

theorem convByte_small (k : ByteConv) (hk : k = .wrap ∨ k = .rangeChecked) (x : Nat) (hx : x < 256) :
    convByte k (x : Int) = .ok x := by
  rcases hk with hk | hk <;> subst hk
  · simp only [convByte, Res.ok.injEq]; omega
  · simp only [convByte]; rw [if_pos (by omega)]; simp

theorem convPieces_map_fmt (k : ByteConv) (hk : k = .wrap ∨ k = .rangeChecked) : ∀ (l : List Nat), (∀ x ∈ l, x < 256) →
    convPieces k (l.map (fmtNat 10)) = .ok l
  | [], _ => rfl
  | x :: xs, h => by
    have hx : x < 256 := h x (by simp)
    simp only [List.map_cons, convPieces, atoi_fmtNat x (by omega), convByte_small k hk x hx,
      convPieces_map_fmt k hk xs (fun y hy => h y (by simp [hy]))]

theorem joinSlash_ne_nil : ∀ (ps : List Bytes), (∀ p ∈ ps, p ≠ []) → ps ≠ [] → joinSlash ps ≠ []
  | [], _, h => absurd rfl h
  | [p], h, _ => by simpa [joinSlash] using h p (by simp)
  | p :: q :: ps, h, _ => by
    have := h p (by simp)
    cases p with
    | nil => exact absurd rfl this
    | cons c cs => simp [joinSlash]

theorem fromString_toJS (k : ByteConv) (hk : k = .wrap ∨ k = .rangeChecked) (l : List Nat) (hl : ∀ x ∈ l, x < 256) :
    fromString k (toJS l) = .ok l := by
  cases l with
  | nil => rfl
  | cons x xs =>
    have hne : (x :: xs).map (fmtNat 10) ≠ [] := by simp
    have hpieces : ∀ p ∈ (x :: xs).map (fmtNat 10), p ≠ [] := by
      intro p hp
      obtain ⟨y, _, rfl⟩ := List.mem_map.1 hp
      exact fmtNat_ne_nil 10 y
    have hns : ∀ p ∈ (x :: xs).map (fmtNat 10), ∀ c ∈ p, c ≠ 47 := by
      intro p hp
      obtain ⟨y, _, rfl⟩ := List.mem_map.1 hp
      exact fmtNat10_noslash y
    have hj := joinSlash_ne_nil _ hpieces hne
    unfold fromString toJS
    rw [if_neg (by simpa [List.isEmpty_iff] using hj), splitSlash_joinSlash _ hne hns]
    exact convPieces_map_fmt k hk _ hl

theorem decodeBytes_encodeBytes (w : Wrap) (hkind : w.kind ≠ .unknown) (hlen : w.minLen ≤ 2) (hp : w.parser = .fromString)
    (k : ByteConv) (hk : k = .wrap ∨ k = .rangeChecked) (l : List Nat) (hl : ∀ x ∈ l, x < 256) :
    decodeBytes w k (encodeBytes l) = .ok l := by
  unfold decodeBytes encodeBytes
  simp only [quote, hp, ne_eq, not_true_eq_false, if_false]
  rw [strip_quoted w hkind _ (by omega)]
  exact fromString_toJS k hk l hl

end Nv.C20
