import Nv.Model.C02
/-!
C02 — what each operation of the keylock model does: state updates, the per-key object (`bump`, `unbump`,
`leave`, the outcomes of `tryLock`), one key of the registration and unlock loops, the key order of a call, and the
steps of the transition system as a relation with one constructor per branch of `step`.
-/
namespace Nv.C02

theorem upd_eq_self {α β} [DecidableEq α] {f : α → β} {a : α} {b : β} (h : f a = b) : upd f a b = f := by
  funext x; rw [upd_apply]; split
  · next e => rw [e, h]
  · rfl

theorem upd_upd {α β} [DecidableEq α] (f : α → β) (a : α) (b b' : β) : upd (upd f a b) a b' = upd f a b' := by
  funext x; simp only [upd_apply]; split <;> rfl

@[simp] theorem setTh_objs (s : State) (t : Tid) (x : Thread) : (setTh s t x).objs = s.objs := rfl
@[simp] theorem setTh_table (s : State) (t : Tid) (x : Thread) : (setTh s t x).table = s.table := rfl
@[simp] theorem setTh_next (s : State) (t : Tid) (x : Thread) : (setTh s t x).next = s.next := rfl
@[simp] theorem setTh_fault (s : State) (t : Tid) (x : Thread) : (setTh s t x).fault = s.fault := rfl
@[simp] theorem setTh_th_same (s : State) (t : Tid) (x : Thread) : (setTh s t x).th t = x := upd_same _ _ _
theorem setTh_th_other (s : State) (t u : Tid) (x : Thread) (h : u ≠ t) : (setTh s t x).th u = s.th u :=
  upd_other _ _ _ _ h

@[simp] theorem setObj_table (s : State) (o : ObjId) (w : Wrap) : (setObj s o w).table = s.table := rfl
@[simp] theorem setObj_next (s : State) (o : ObjId) (w : Wrap) : (setObj s o w).next = s.next := rfl
@[simp] theorem setObj_fault (s : State) (o : ObjId) (w : Wrap) : (setObj s o w).fault = s.fault := rfl
@[simp] theorem setObj_th (s : State) (o : ObjId) (w : Wrap) : (setObj s o w).th = s.th := rfl
theorem setObj_objs (s : State) (o o' : ObjId) (w : Wrap) :
    (setObj s o w).objs o' = if o' = o then w else s.objs o' := rfl

def regOf (m : Mode) (w : Wrap) : List Tid :=
  match m with
  | .r => w.regR
  | .w => w.regW

def cntOf (m : Mode) (w : Wrap) : Int :=
  match m with
  | .r => w.rc
  | .w => w.wc

theorem regOf_bump (m m' : Mode) (t : Tid) (w : Wrap) :
    regOf m' (bump m t w) = if m' = m then t :: regOf m' w else regOf m' w := by cases m <;> cases m' <;> rfl

theorem cntOf_bump (m m' : Mode) (t : Tid) (w : Wrap) :
    cntOf m' (bump m t w) = if m' = m then cntOf m' w + 1 else cntOf m' w := by cases m <;> cases m' <;> rfl

theorem regOf_unbump (m m' : Mode) (t : Tid) (w : Wrap) :
    regOf m' (unbump m t w) = if m' = m then (regOf m' w).erase t else regOf m' w := by cases m <;> cases m' <;> rfl

theorem cntOf_unbump (m m' : Mode) (t : Tid) (w : Wrap) :
    cntOf m' (unbump m t w) = if m' = m then cntOf m' w - 1 else cntOf m' w := by cases m <;> cases m' <;> rfl

theorem bump_rw (m : Mode) (t : Tid) (w : Wrap) :
    (bump m t w).wOwner = w.wOwner ∧ (bump m t w).writer = w.writer ∧ (bump m t w).readers = w.readers ∧
    (bump m t w).tokens = w.tokens ∧ (bump m t w).pendR = w.pendR := by cases m <;> exact ⟨rfl, rfl, rfl, rfl, rfl⟩

theorem unbump_rw (m : Mode) (t : Tid) (w : Wrap) :
    (unbump m t w).wOwner = w.wOwner ∧ (unbump m t w).writer = w.writer ∧ (unbump m t w).readers = w.readers ∧
    (unbump m t w).tokens = w.tokens ∧ (unbump m t w).pendR = w.pendR := by cases m <;> exact ⟨rfl, rfl, rfl, rfl, rfl⟩

theorem leave_regs (m : Mode) (t : Tid) (w : Wrap) :
    (leave m t w).regW = w.regW ∧ (leave m t w).regR = w.regR ∧ (leave m t w).rc = w.rc ∧ (leave m t w).wc = w.wc := by
  cases m <;> exact ⟨rfl, rfl, rfl, rfl⟩

theorem regOf_leave (m m' : Mode) (t : Tid) (w : Wrap) : regOf m' (leave m t w) = regOf m' w := by
  cases m <;> rfl

theorem tryW_enter {t : Tid} {w w1 : Wrap} (h : tryLock .w t w = .enter w1) :
    w.wOwner = some t ∧ w.readers = [] ∧ w.tokens = 0 ∧ w1 = { w with writer := some t } := by
  by_cases h1 : w.wOwner = some t
  · by_cases h2 : w.readers = [] ∧ w.tokens = 0
    · rw [tryLock, tryW, if_pos h1, if_pos h2] at h
      exact ⟨h1, h2.1, h2.2, (Try.enter.inj h).symm⟩
    · simp [tryLock, tryW, h1, h2] at h
  · by_cases h3 : w.wOwner = none
    · simp [tryLock, tryW, h3] at h
    · by_cases h4 : t ∈ w.pendW <;> simp [tryLock, tryW, h1, h3, h4] at h

theorem tryW_wait {t : Tid} {w w1 : Wrap} (h : tryLock .w t w = .wait w1) :
    (w.wOwner = none ∧ w1 = { w with wOwner := some t, pendW := w.pendW.erase t }) ∨
    (w.wOwner ≠ none ∧ w1 = { w with pendW := w.pendW ++ [t] }) := by
  by_cases h1 : w.wOwner = some t
  · by_cases h2 : w.readers = [] ∧ w.tokens = 0 <;> simp [tryLock, tryW, h1, h2] at h
  · by_cases h3 : w.wOwner = none
    · rw [tryLock, tryW, if_neg h1, if_pos h3] at h
      exact .inl ⟨h3, (Try.wait.inj h).symm⟩
    · by_cases h4 : t ∈ w.pendW
      · simp [tryLock, tryW, h1, h3, h4] at h
      · rw [tryLock, tryW, if_neg h1, if_neg h3, if_neg h4] at h
        exact .inr ⟨h3, (Try.wait.inj h).symm⟩

theorem tryW_blocked {t : Tid} {w : Wrap} (h : tryLock .w t w = .blocked) :
    (w.wOwner = some t ∧ (w.readers ≠ [] ∨ w.tokens ≠ 0)) ∨ (∃ u, w.wOwner = some u ∧ u ≠ t) := by
  by_cases h1 : w.wOwner = some t
  · by_cases h2 : w.readers = [] ∧ w.tokens = 0
    · simp [tryLock, tryW, h1, h2] at h
    · refine .inl ⟨h1, ?_⟩
      by_cases hr : w.readers = []
      · exact .inr fun ht => h2 ⟨hr, ht⟩
      · exact .inl hr
  · cases h3 : w.wOwner with
    | none => simp [tryLock, tryW, h3] at h
    | some u => exact .inr ⟨u, rfl, fun e => h1 (by rw [h3, e])⟩

theorem tryR_enter {t : Tid} {w w1 : Wrap} (h : tryLock .r t w = .enter w1) :
    (t ∈ w.pendR ∧ w.tokens > 0 ∧
      w1 = { w with tokens := w.tokens - 1, pendR := w.pendR.erase t, readers := t :: w.readers }) ∨
    (t ∉ w.pendR ∧ w.wOwner = none ∧ w1 = { w with readers := t :: w.readers }) ∨
    (t ∉ w.pendR ∧ w.wOwner ≠ none ∧ w.tokens > 0 ∧ w1 = { w with tokens := w.tokens - 1, readers := t :: w.readers }) := by
  by_cases h1 : t ∈ w.pendR
  · by_cases h2 : w.tokens > 0
    · rw [tryLock, tryR, if_pos h1, if_pos h2] at h
      exact .inl ⟨h1, h2, (Try.enter.inj h).symm⟩
    · simp [tryLock, tryR, h1, h2] at h
  · by_cases h3 : w.wOwner = none
    · rw [tryLock, tryR, if_neg h1, if_pos h3] at h
      exact .inr (.inl ⟨h1, h3, (Try.enter.inj h).symm⟩)
    · by_cases h2 : w.tokens > 0
      · rw [tryLock, tryR, if_neg h1, if_neg h3, if_pos h2] at h
        exact .inr (.inr ⟨h1, h3, h2, (Try.enter.inj h).symm⟩)
      · simp [tryLock, tryR, h1, h3, h2] at h

theorem tryR_wait {t : Tid} {w w1 : Wrap} (h : tryLock .r t w = .wait w1) :
    t ∉ w.pendR ∧ w.wOwner ≠ none ∧ w.tokens = 0 ∧ w1 = { w with pendR := w.pendR ++ [t] } := by
  by_cases h1 : t ∈ w.pendR
  · by_cases h2 : w.tokens > 0 <;> simp [tryLock, tryR, h1, h2] at h
  · by_cases h3 : w.wOwner = none
    · simp [tryLock, tryR, h1, h3] at h
    · by_cases h2 : w.tokens > 0
      · simp [tryLock, tryR, h1, h3, h2] at h
      · rw [tryLock, tryR, if_neg h1, if_neg h3, if_neg h2] at h
        exact ⟨h1, h3, Nat.eq_zero_of_not_pos h2, (Try.wait.inj h).symm⟩

theorem tryR_blocked {t : Tid} {w : Wrap} (h : tryLock .r t w = .blocked) : t ∈ w.pendR ∧ w.tokens = 0 := by
  by_cases h1 : t ∈ w.pendR
  · by_cases h2 : w.tokens > 0
    · simp [tryLock, tryR, h1, h2] at h
    · exact ⟨h1, Nat.eq_zero_of_not_pos h2⟩
  · by_cases h3 : w.wOwner = none
    · simp [tryLock, tryR, h1, h3] at h
    · by_cases h2 : w.tokens > 0 <;> simp [tryLock, tryR, h1, h3, h2] at h

/-- (key, object, mode) triples a thread is registered on but does not hold yet -/
def pend : Phase → List (Key × ObjId × Mode)
  | .reg m _ _ acc => acc.map (fun e => (e.1, e.2, m))
  | .acq m _ todo => todo.map (fun e => (e.1, e.2, m))
  | _ => []

/-- keys of the current call not yet registered -/
def future : Phase → List Key
  | .reg _ _ gs _ => gs.flatten
  | _ => []

/-- everything a thread is registered on: held or still to be locked -/
def refs (th : Thread) : List (Key × ObjId × Mode) := th.held ++ pend th.phase

def allKeys (th : Thread) : List Key := (refs th).map (·.1) ++ future th.phase

theorem mem_refs_of_held {th : Thread} {e : Key × ObjId × Mode} (h : e ∈ th.held) : e ∈ refs th :=
  List.mem_append_left _ h

theorem head_mem_refs {th : Thread} {m all k o rest} (h : th.phase = .acq m all ((k, o) :: rest)) :
    (k, o, m) ∈ refs th := by
  rw [refs, h]; exact List.mem_append_right _ List.mem_cons_self

theorem advance_acq {th : Thread} {m all k o rest} (h : th.phase = .acq m all ((k, o) :: rest)) :
    advance th = ⟨.acq m all rest, (k, o, m) :: th.held⟩ := by
  simp [advance, h]

theorem regKey_th (c : Cfg) (m : Mode) (t : Tid) (s : State) (k : Key) : (regKey c m t s k).1.th = s.th := by
  unfold regKey
  cases s.table k <;> simp only <;> split <;> rfl

theorem regKey_spec {c : Cfg} (hc : c.countAt ≠ .afterBlock) (m : Mode) (t : Tid) {s : State}
    (hfresh : s.objs s.next = Wrap.empty) (k : Key) :
    ((s.table k = some (regKey c m t s k).2 ∧ (regKey c m t s k).1.next = s.next) ∨
      (s.table k = none ∧ (regKey c m t s k).2 = s.next ∧ (regKey c m t s k).1.next = s.next + 1)) ∧
    (regKey c m t s k).1.table = upd s.table k (some (regKey c m t s k).2) ∧
    (regKey c m t s k).1.objs =
      upd s.objs (regKey c m t s k).2 (bump m t (s.objs (regKey c m t s k).2)) ∧
    (regKey c m t s k).1.fault = s.fault := by
  unfold regKey
  simp only [if_neg hc]
  cases htk : s.table k with
  | some o => exact ⟨.inl ⟨rfl, rfl⟩, (upd_eq_self htk).symm, rfl, rfl⟩
  | none => exact ⟨.inr ⟨rfl, rfl, rfl⟩, rfl, by simp only [setObj, upd_same, hfresh, upd_upd], rfl⟩

theorem relKey_spec (c : Cfg) {m : Mode} {t : Tid} {s : State} {k : Key} {o : ObjId} (htk : s.table k = some o)
    (hh : isHolder m t (s.objs o)) :
    relKey c m t s k =
      { objs := upd s.objs o (unbump m t (leave m t (s.objs o)))
        next := s.next
        table := if freeCond c (unbump m t (leave m t (s.objs o))) then upd s.table k none else s.table
        th := upd s.th t { s.th t with held := (s.th t).held.filter (fun e => e.1 ≠ k) }
        fault := s.fault } := by
  simp only [relKey, htk, hh, if_true]
  split <;> rfl

theorem relKey_th (c : Cfg) (m : Mode) (t : Tid) (s : State) (k : Key) :
    (relKey c m t s k).th = s.th ∨
    (relKey c m t s k).th = upd s.th t { s.th t with held := (s.th t).held.filter (fun e => e.1 ≠ k) } := by
  cases htk : s.table k with
  | none => exact .inl (by rw [relKey, htk])
  | some o =>
    by_cases hh : isHolder m t (s.objs o)
    · exact .inr (by rw [relKey_spec c htk hh])
    · exact .inl (by rw [relKey, htk]; simp only [hh, if_false])

theorem relKey_th_other (c : Cfg) (m : Mode) (t : Tid) (s : State) (k : Key) (u : Tid) (hu : u ≠ t) :
    (relKey c m t s k).th u = s.th u := by
  rcases relKey_th c m t s k with e | e <;> rw [e]
  exact upd_other _ _ _ _ hu

theorem relKey_phase (c : Cfg) (m : Mode) (t : Tid) (s : State) (k : Key) :
    ((relKey c m t s k).th t).phase = (s.th t).phase := by
  rcases relKey_th c m t s k with e | e
  · rw [e]
  · rw [e, upd_same]

theorem flatten_filterMap_groups (g : Nat → List Key) (is : List Nat) :
    (is.filterMap (fun i => if g i = [] then none else some (g i))).flatten = is.flatMap g := by
  induction is with
  | nil => rfl
  | cons i is ih => by_cases h : g i = [] <;> simp [h, ih]

/-- dropping the empty groups does not change the order in which keys are taken: shard by shard in comparator order,
list order inside a shard -/
theorem flatten_groups (c : Cfg) (n : Nat) (sh : Key → Nat) (keys : List Key) :
    (groups c n sh keys).flatten = (shardOrder c n).flatMap (fun i => keys.filter (fun k => sh k = i)) := by
  unfold groups shardOrder groupsAsc
  cases c.grpSort
  · exact flatten_filterMap_groups _ _
  · rw [← List.filterMap_reverse]; exact flatten_filterMap_groups _ _
  · exact flatten_filterMap_groups _ _

theorem mem_shardOrder (c : Cfg) (n i : Nat) : i ∈ shardOrder c n ↔ i < n := by
  unfold shardOrder; cases c.grpSort <;> simp

theorem pairwise_shardOrder (c : Cfg) (n : Nat) : (shardOrder c n).Pairwise (fun i j => srank c n i < srank c n j) := by
  unfold shardOrder srank
  cases c.grpSort <;> simp only
  · exact List.pairwise_lt_range
  · rw [List.pairwise_reverse]
    have h : (List.range n).Pairwise (fun a b => a < b ∧ b < n) :=
      List.pairwise_lt_range.imp_of_mem fun _ hb hlt => ⟨hlt, List.mem_range.1 hb⟩
    exact h.imp fun hh => by omega
  · exact List.pairwise_lt_range

theorem nodup_shardOrder (c : Cfg) (n : Nat) : (shardOrder c n).Nodup :=
  (pairwise_shardOrder c n).imp fun h e => by subst e; exact Nat.lt_irrefl _ h

theorem mem_groups_flatten (c : Cfg) (n : Nat) (sh : Key → Nat) (keys : List Key) (k : Key) :
    k ∈ (groups c n sh keys).flatten ↔ k ∈ keys ∧ sh k < n := by
  simp only [flatten_groups, List.mem_flatMap, mem_shardOrder, List.mem_filter, decide_eq_true_eq]
  exact ⟨fun ⟨_, hi, hk, e⟩ => ⟨hk, e ▸ hi⟩, fun ⟨hk, hi⟩ => ⟨_, hi, hk, rfl⟩⟩

theorem pairwise_acqOrder {R : Key → Key → Prop} (c : Cfg) (n : Nat) (sh : Key → Nat) (keys : List Key)
    (hin : ∀ i, (keys.filter (fun k => sh k = i)).Pairwise R)
    (hout : ∀ a ∈ keys, ∀ b ∈ keys, srank c n (sh a) < srank c n (sh b) → R a b) :
    (acqOrder c n sh keys).Pairwise R := by
  unfold acqOrder
  rw [flatten_groups]
  refine List.pairwise_flatMap.2 ⟨fun i _ => hin i, (pairwise_shardOrder c n).imp fun hij a ha b hb => ?_⟩
  simp only [List.mem_filter, decide_eq_true_eq] at ha hb
  exact hout a ha.1 b hb.1 (by rw [ha.2, hb.2]; exact hij)

theorem nodup_groups_flatten (c : Cfg) (n : Nat) (sh : Key → Nat) (keys : List Key) (h : keys.Nodup) :
    (groups c n sh keys).flatten.Nodup :=
  pairwise_acqOrder c n sh keys (fun _ => h.sublist List.filter_sublist)
    fun _ _ _ _ hlt e => Nat.lt_irrefl _ (e ▸ hlt)

def actor : Act → Tid
  | .call t _ _ => t
  | .reg t => t
  | .lock t => t
  | .uncall t _ _ => t
  | .rel t => t

inductive Step (c : Cfg) (n : Nat) (sh : Key → Nat) (s : State) : Act → State → Prop
  | call {t m keys} : callOk s t keys →
      Step c n sh s (.call t m keys) (setTh s t { s.th t with phase := .reg m keys (groups c n sh keys) [] })
  | regDone {t m all acc} : (s.th t).phase = .reg m all [] acc →
      Step c n sh s (.reg t) (setTh s t { s.th t with phase := .acq m all acc })
  | regSkip {t m all gs acc} : (s.th t).phase = .reg m all ([] :: gs) acc →
      Step c n sh s (.reg t) (setTh s t { s.th t with phase := .reg m all gs acc })
  | regKey {t m all k ks gs acc} : (s.th t).phase = .reg m all ((k :: ks) :: gs) acc →
      Step c n sh s (.reg t) (setTh (regKey c m t s k).1 t
        ⟨.reg m all (ks :: gs) (acc ++ [(k, (regKey c m t s k).2)]), (s.th t).held⟩)
  | lockDone {t m all} : (s.th t).phase = .acq m all [] →
      Step c n sh s (.lock t) (setTh s t { s.th t with phase := .idle })
  | lockWait {t m all k o rest w1} : (s.th t).phase = .acq m all ((k, o) :: rest) →
      tryLock m t (s.objs o) = .wait w1 → Step c n sh s (.lock t) (setObj s o w1)
  | lockEnter {t m all k o rest w1} : (s.th t).phase = .acq m all ((k, o) :: rest) →
      tryLock m t (s.objs o) = .enter w1 →
      Step c n sh s (.lock t)
        (setTh (setObj s o (if c.countAt = .afterBlock then bump m t w1 else w1)) t (advance (s.th t)))
  | uncall {t m keys} : uncallOk s t m keys →
      Step c n sh s (.uncall t m keys) (setTh s t { s.th t with phase := .rel m (groups c n sh keys) })
  | relDone {t m} : (s.th t).phase = .rel m [] →
      Step c n sh s (.rel t) (setTh s t { s.th t with phase := .idle })
  | relSkip {t m gs} : (s.th t).phase = .rel m ([] :: gs) →
      Step c n sh s (.rel t) (setTh s t { s.th t with phase := .rel m gs })
  | relKey {t m k ks gs} : (s.th t).phase = .rel m ((k :: ks) :: gs) →
      Step c n sh s (.rel t)
        (setTh (relKey c m t s k) t { (relKey c m t s k).th t with phase := .rel m (ks :: gs) })

namespace Step

theorem of_step {c : Cfg} {n : Nat} {sh : Key → Nat} {s s' : State} {a : Act}
    (h : step c n sh s a = some s') : s.fault = false ∧ Step c n sh s a s' := by
  unfold step at h
  by_cases hf : s.fault = true
  · rw [if_pos hf] at h; cases h
  refine ⟨Bool.eq_false_iff.2 hf, ?_⟩
  rw [if_neg hf] at h
  cases a with
  | call t m keys =>
    simp only at h
    by_cases hok : callOk s t keys
    · rw [if_pos hok] at h; cases h; exact .call hok
    · rw [if_neg hok] at h; cases h
  | uncall t m keys =>
    simp only at h
    by_cases hok : uncallOk s t m keys
    · rw [if_pos hok] at h; cases h; exact .uncall hok
    · rw [if_neg hok] at h; cases h
  | reg t =>
    simp only at h
    unfold stepReg at h
    split at h
    · next hph => cases h; exact .regDone hph
    · next hph => cases h; exact .regSkip hph
    · next hph => cases h; rw [regKey_th]; exact .regKey hph
    · cases h
  | lock t =>
    simp only at h
    unfold stepLock at h
    split at h
    · next hph => cases h; exact .lockDone hph
    · next hph =>
      split at h
      · cases h
      · next hres => cases h; exact .lockWait hph hres
      · next hres => cases h; exact .lockEnter hph hres
    · cases h
  | rel t =>
    simp only at h
    unfold stepRel at h
    split at h
    · next hph => cases h; exact .relDone hph
    · next hph => cases h; exact .relSkip hph
    · next hph => cases h; exact .relKey hph
    · cases h

theorem th_other {c : Cfg} {n : Nat} {sh : Key → Nat} {s s' : State} {a : Act}
    (h : Step c n sh s a s') (u : Tid) (hu : u ≠ actor a) : s'.th u = s.th u := by
  cases h with
  | lockWait => rfl
  | regKey => exact (setTh_th_other _ _ _ _ hu).trans (congrFun (regKey_th ..) u)
  | relKey => exact (setTh_th_other _ _ _ _ hu).trans (relKey_th_other _ _ _ _ _ _ hu)
  | _ => exact setTh_th_other _ _ _ _ hu

end Step

end Nv.C02
