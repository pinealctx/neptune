import Nv.Model.C19
/-!
C19 — the operational lemmas: the LRU cache seen from one key, what one send, one verify and one `step` do to the
state, injectivity of the length-prefixed key, and the basic facts about `genNonceStr` and the mock code.
-/
namespace Nv.C19

@[simp] theorem lookup_nil (k : Str) : lookup k [] = none := rfl

theorem lookup_cons (k k' : Str) (e : Entry) (c : Cache) :
    lookup k ((k', e) :: c) = if k = k' then some e else lookup k c := rfl

@[simp] theorem lookup_cons_self (k : Str) (e : Entry) (c : Cache) : lookup k ((k, e) :: c) = some e :=
  if_pos rfl

theorem lookup_cons_ne {k k' : Str} (h : k ≠ k') (e : Entry) (c : Cache) :
    lookup k ((k', e) :: c) = lookup k c :=
  if_neg h

theorem erase_cons (k k' : Str) (e : Entry) (c : Cache) :
    erase k ((k', e) :: c) = if k' = k then erase k c else (k', e) :: erase k c := by
  by_cases h : k' = k <;> simp [erase, h]

theorem lookup_erase_ne {k k' : Str} (h : k ≠ k') (c : Cache) : lookup k (erase k' c) = lookup k c := by
  induction c with
  | nil => rfl
  | cons b rest ih =>
    rw [erase_cons]
    split
    · rename_i h2
      rw [ih, lookup_cons_ne (h2 ▸ h)]
    · rw [lookup_cons, lookup_cons, ih]

@[simp] theorem lookup_touch_self (k : Str) (e : Entry) (c : Cache) : lookup k (touch k e c) = some e :=
  lookup_cons_self k e _

theorem lookup_touch_ne {k k' : Str} (h : k ≠ k') (e : Entry) (c : Cache) :
    lookup k (touch k' e c) = lookup k c := by
  rw [touch, lookup_cons_ne h, lookup_erase_ne h]

theorem lookup_take_some (k : Str) (e : Entry) (c : Cache) : ∀ n, lookup k (c.take n) = some e → lookup k c = some e := by
  induction c with
  | nil => exact fun n h => by rw [List.take_nil] at h; cases h
  | cons b rest ih =>
    intro n h
    cases n with
    | zero => cases h
    | succ n =>
      rw [List.take_succ_cons, lookup_cons] at h
      rw [lookup_cons]
      split
      · rename_i hk; rwa [if_pos hk] at h
      · rename_i hk; rw [if_neg hk] at h; exact ih n h

def pos (k : Str) : Cache → Nat
  | [] => 0
  | (k', _) :: rest => if k = k' then 0 else pos k rest + 1

theorem take_of_pos_lt (k : Str) (c : Cache) : ∀ n, pos k c < n →
    lookup k (c.take n) = lookup k c ∧ pos k (c.take n) = pos k c := by
  induction c with
  | nil => exact fun n _ => by rw [List.take_nil]; exact ⟨rfl, rfl⟩
  | cons b rest ih =>
    intro n h
    cases n with
    | zero => exact absurd h (Nat.not_lt_zero _)
    | succ n =>
      rw [List.take_succ_cons, lookup_cons, lookup_cons, pos, pos]
      rw [pos] at h
      split
      · exact ⟨rfl, rfl⟩
      · rename_i hk
        rw [if_neg hk] at h
        have := ih n (Nat.lt_of_succ_lt_succ h)
        rw [this.1, this.2]
        exact ⟨rfl, rfl⟩

theorem pos_erase_le {k k' : Str} (h : k ≠ k') (c : Cache) : pos k (erase k' c) ≤ pos k c := by
  induction c with
  | nil => exact Nat.le_refl _
  | cons b rest ih =>
    rw [erase_cons]
    by_cases hk : k = b.1
    · rw [if_neg (hk ▸ h), pos, if_pos hk]
      exact Nat.zero_le _
    · rw [pos, if_neg hk]
      split
      · exact Nat.le_succ_of_le ih
      · rw [pos, if_neg hk]
        exact Nat.succ_le_succ ih

def posOr0 (k : Str) (c : Cache) : Nat := if (lookup k c).isSome then pos k c else 0

theorem posOr0_le_pos (k : Str) (c : Cache) : posOr0 k c ≤ pos k c := by
  unfold posOr0
  split
  · exact Nat.le_refl _
  · exact Nat.zero_le _

theorem rank_touch (k k' : Str) (e : Entry) (c : Cache) :
    ((lookup k c).isSome = true → (lookup k (touch k' e c)).isSome = true) ∧
      posOr0 k (touch k' e c) ≤ posOr0 k c + (if k' = k then 0 else 1) := by
  by_cases hk : k' = k
  · subst hk
    refine ⟨fun _ => by rw [lookup_touch_self]; rfl, Nat.le_trans (posOr0_le_pos _ _) ?_⟩
    rw [touch, pos, if_pos rfl]
    exact Nat.zero_le _
  · have hne : k ≠ k' := fun h => hk h.symm
    rw [if_neg hk]
    unfold posOr0
    rw [lookup_touch_ne hne]
    refine ⟨id, ?_⟩
    split
    · rw [touch, pos, if_neg hne]
      exact Nat.succ_le_succ (pos_erase_le hne c)
    · exact Nat.zero_le _

theorem rank_take (k : Str) (c : Cache) (n : Nat) (h : posOr0 k c < n) :
    lookup k (c.take n) = lookup k c ∧ posOr0 k (c.take n) = posOr0 k c := by
  unfold posOr0 at h ⊢
  cases hl : lookup k c with
  | none =>
    have : lookup k (c.take n) = none := by
      cases hl' : lookup k (c.take n) with
      | none => rfl
      | some e => rw [lookup_take_some k e c n hl'] at hl; cases hl
    rw [this]
    exact ⟨rfl, rfl⟩
  | some e =>
    rw [hl] at h
    have := take_of_pos_lt k c n h
    rw [this.1, this.2, hl]
    exact ⟨rfl, rfl⟩

theorem rank_setLRU (k k' : Str) (e : Entry) (c : Cache) (cap : Nat)
    (h : posOr0 k c + (if k' = k then 0 else 1) < cap) :
    ((lookup k c).isSome = true → (lookup k (setLRU cap k' e c)).isSome = true) ∧
      posOr0 k (setLRU cap k' e c) ≤ posOr0 k c + (if k' = k then 0 else 1) := by
  have ht := rank_touch k k' e c
  have hk := rank_take k (touch k' e c) cap (Nat.lt_of_le_of_lt ht.2 h)
  rw [setLRU, hk.1, hk.2]
  exact ht

theorem lookup_setLRU_self {k : Str} {cap : Nat} (hcap : 0 < cap) {e : Entry} {c : Cache} :
    lookup k (setLRU cap k e c) = some e := by
  obtain ⟨n, rfl⟩ := Nat.exists_eq_succ_of_ne_zero (Nat.ne_of_gt hcap)
  exact lookup_cons_self k e _

theorem posOr0_setLRU_self (k : Str) (cap : Nat) (hcap : 0 < cap) (e : Entry) (c : Cache) :
    posOr0 k (setLRU cap k e c) = 0 := by
  obtain ⟨n, rfl⟩ := Nat.exists_eq_succ_of_ne_zero (Nat.ne_of_gt hcap)
  exact Nat.le_zero.1 (Nat.le_trans (posOr0_le_pos _ _) (Nat.le_of_eq (if_pos rfl)))

theorem lookup_touch_cases {k k' : Str} {e e' : Entry} {c : Cache} (h : lookup k' (touch k e c) = some e') :
    (k' = k ∧ e' = e) ∨ (k' ≠ k ∧ lookup k' c = some e') := by
  by_cases hk : k' = k
  · subst hk
    rw [lookup_touch_self] at h
    exact Or.inl ⟨rfl, (Option.some.inj h).symm⟩
  · rw [lookup_touch_ne hk] at h
    exact Or.inr ⟨hk, h⟩

theorem lookup_setLRU_cases {k k' : Str} {cap : Nat} {e e' : Entry} {c : Cache}
    (h : lookup k' (setLRU cap k e c) = some e') :
    (k' = k ∧ e' = e) ∨ (k' ≠ k ∧ lookup k' c = some e') :=
  lookup_touch_cases (lookup_take_some k' e' _ cap h)

theorem lookup_setLRU_ne {k k' : Str} (h : k' ≠ k) (cap : Nat) (e : Entry) (c : Cache) :
    lookup k' (setLRU cap k e c) = none ∨ lookup k' (setLRU cap k e c) = lookup k' c := by
  cases hl : lookup k' (setLRU cap k e c) with
  | none => exact Or.inl rfl
  | some e' =>
    rcases lookup_setLRU_cases hl with ⟨hk, _⟩ | ⟨_, h'⟩
    · exact absurd hk h
    · exact Or.inr h'.symm

def keysOf (c : Cache) : List Str := c.map (·.1)

theorem lookup_eq_none_iff (k : Str) (c : Cache) : lookup k c = none ↔ k ∉ keysOf c := by
  induction c with
  | nil => exact ⟨fun _ => nofun, fun _ => rfl⟩
  | cons b rest ih =>
    rw [keysOf, List.map_cons, List.mem_cons, not_or, lookup_cons]
    split
    · rename_i hk; exact ⟨nofun, fun h => absurd hk h.1⟩
    · rename_i hk; exact ⟨fun h => ⟨hk, ih.1 h⟩, fun h => ih.2 h.2⟩

theorem erase_of_not_mem (k : Str) (c : Cache) (h : k ∉ keysOf c) : erase k c = c := by
  induction c with
  | nil => rfl
  | cons b rest ih =>
    rw [keysOf, List.map_cons, List.mem_cons, not_or] at h
    rw [erase_cons, if_neg (fun e => h.1 e.symm), ih h.2]

theorem keysOf_setLRU_fresh (cap : Nat) (k : Str) (e : Entry) (c : Cache) (h : k ∉ keysOf c) :
    keysOf (setLRU cap k e c) = (k :: keysOf c).take cap := by
  rw [setLRU, touch, erase_of_not_mem k c h, keysOf, List.map_take]
  rfl

theorem take_cons_take {α} (x : α) (l : List α) : ∀ n, (x :: l.take n).take n = (x :: l).take n
  | 0 => rfl
  | n + 1 => by rw [List.take_succ_cons, List.take_succ_cons, List.take_take, Nat.min_eq_left (Nat.le_succ n)]

@[simp] theorem advance_cache (t : Nat) (s : State) : (advance t s).cache = s.cache := rfl
@[simp] theorem advance_nsent (t : Nat) (s : State) : (advance t s).nsent = s.nsent := rfl
@[simp] theorem advance_now (t : Nat) (s : State) : (advance t s).now = max s.now t := rfl
theorem advance_now_ge (t : Nat) (s : State) : s.now ≤ (advance t s).now := Nat.le_max_left _ _

theorem advance_of_le (t : Nat) (s : State) (h : t ≤ s.now) : advance t s = s := by
  rw [advance, Nat.max_eq_left h]

/-- `checkSend`'s view of the fetched entry; a new entry has a zero `setTime` (never too frequent), no sends counted, and
    starts its window now -/
def tooSoon (c : Cfg) (pr : Params) (now : Nat) : Option Entry → Bool
  | some e => c.minIntervalCmp.holds ((now : Int) - e.setTime) pr.minInterval
  | none => false
def winElapsed (now : Nat) : Option Entry → Int
  | some e => (now : Int) - e.counterTime
  | none => 0
def scOpt : Option Entry → Int
  | some e => e.sendCount
  | none => 0
def ctOpt (now : Nat) : Option Entry → Nat
  | some e => e.counterTime
  | none => now

theorem checkSend_eq (c : Cfg) (pr : Params) (now : Nat) (b : Option Entry) : checkSend c pr now b =
    if tooSoon c pr now b then .error .tooFreq
    else if c.windowCmp.holds (winElapsed now b) pr.window then .ok (0, now)
    else if scOpt b > pr.maxCount then .error .countLimit else .ok (scOpt b, ctOpt now b) := by
  cases b <;> rfl

theorem checkSend_tooSoon (c : Cfg) (pr : Params) (now : Nat) (b : Option Entry) (h1 : tooSoon c pr now b = true) :
    checkSend c pr now b = .error .tooFreq := by
  rw [checkSend_eq, h1]
  rfl

theorem checkSend_refresh (c : Cfg) (pr : Params) (now : Nat) (b : Option Entry) (h1 : tooSoon c pr now b = false)
    (h2 : c.windowCmp.holds (winElapsed now b) pr.window = true) : checkSend c pr now b = .ok (0, now) := by
  rw [checkSend_eq, h1, h2]
  rfl

theorem checkSend_limit (c : Cfg) (pr : Params) (now : Nat) (b : Option Entry) (h1 : tooSoon c pr now b = false)
    (h2 : c.windowCmp.holds (winElapsed now b) pr.window = false) (h3 : scOpt b > pr.maxCount) :
    checkSend c pr now b = .error .countLimit := by
  rw [checkSend_eq, h1, h2, if_pos h3]
  rfl

theorem checkSend_pass (c : Cfg) (pr : Params) (now : Nat) (b : Option Entry) (h1 : tooSoon c pr now b = false)
    (h2 : c.windowCmp.holds (winElapsed now b) pr.window = false) (h3 : scOpt b ≤ pr.maxCount) :
    checkSend c pr now b = .ok (scOpt b, ctOpt now b) := by
  rw [checkSend_eq, h1, h2, if_neg (Int.not_lt.2 h3)]
  rfl

theorem checkSend_cases (c : Cfg) (pr : Params) (now : Nat) (b : Option Entry) :
    (tooSoon c pr now b = true ∧ checkSend c pr now b = .error .tooFreq) ∨
    (tooSoon c pr now b = false ∧ c.windowCmp.holds (winElapsed now b) pr.window = true ∧
      checkSend c pr now b = .ok (0, now)) ∨
    (tooSoon c pr now b = false ∧ c.windowCmp.holds (winElapsed now b) pr.window = false ∧ scOpt b > pr.maxCount ∧
      checkSend c pr now b = .error .countLimit) ∨
    (tooSoon c pr now b = false ∧ c.windowCmp.holds (winElapsed now b) pr.window = false ∧ scOpt b ≤ pr.maxCount ∧
      checkSend c pr now b = .ok (scOpt b, ctOpt now b)) := by
  cases h1 : tooSoon c pr now b with
  | true => exact Or.inl ⟨rfl, checkSend_tooSoon c pr now b h1⟩
  | false =>
    cases h2 : c.windowCmp.holds (winElapsed now b) pr.window with
    | true => exact Or.inr (Or.inl ⟨rfl, rfl, checkSend_refresh c pr now b h1 h2⟩)
    | false =>
      by_cases h3 : scOpt b > pr.maxCount
      · exact Or.inr (Or.inr (Or.inl ⟨rfl, rfl, h3, checkSend_limit c pr now b h1 h2 h3⟩))
      · exact Or.inr (Or.inr (Or.inr ⟨rfl, rfl, Int.not_lt.1 h3, checkSend_pass c pr now b h1 h2 (Int.not_lt.1 h3)⟩))

theorem checkSend_tooFreq_iff (c : Cfg) (pr : Params) (now : Nat) (b : Option Entry) :
    checkSend c pr now b = .error .tooFreq ↔ tooSoon c pr now b = true := by
  rcases checkSend_cases c pr now b with ⟨h1, h⟩ | ⟨h1, _, h⟩ | ⟨h1, _, _, h⟩ | ⟨h1, _, _, h⟩ <;> rw [h, h1]
  · exact ⟨fun _ => rfl, fun _ => rfl⟩
  all_goals exact ⟨nofun, nofun⟩

theorem checkSend_ok {c : Cfg} {pr : Params} {now : Nat} {b : Option Entry} {cnt : Int} {ct : Nat}
    (h : checkSend c pr now b = .ok (cnt, ct)) :
    tooSoon c pr now b = false ∧
    ((c.windowCmp.holds (winElapsed now b) pr.window = true ∧ cnt = 0 ∧ ct = now) ∨
     (c.windowCmp.holds (winElapsed now b) pr.window = false ∧ cnt ≤ pr.maxCount ∧ cnt = scOpt b ∧ ct = ctOpt now b)) := by
  rcases checkSend_cases c pr now b with ⟨_, h'⟩ | ⟨h1, h2, h'⟩ | ⟨_, _, _, h'⟩ | ⟨h1, h2, h3, h'⟩ <;> rw [h'] at h <;> cases h
  · exact ⟨h1, Or.inl ⟨h2, rfl, rfl⟩⟩
  · exact ⟨h1, Or.inr ⟨h2, h3, rfl, rfl⟩⟩

theorem checkSend_error {c : Cfg} {pr : Params} {now : Nat} {b : Option Entry} {r : SendResult}
    (h : checkSend c pr now b = .error r) : r.accepted = none := by
  rcases checkSend_cases c pr now b with ⟨_, h'⟩ | ⟨_, _, h'⟩ | ⟨_, _, _, h'⟩ | ⟨_, _, _, h'⟩ <;> rw [h'] at h <;> cases h <;> rfl

theorem sendK_error {c : Cfg} {pr : Params} {s : State} {key : Str} (ph : Str) {r : SendResult}
    (h : checkSend c pr s.now (lookup key s.cache) = .error r) : sendK c pr s key ph = (s, r) := by
  rw [sendK, h]

theorem sendK_ok {c : Cfg} {pr : Params} {s : State} {key : Str} (ph : Str) {cnt : Int} {ct : Nat}
    (h : checkSend c pr s.now (lookup key s.cache) = .ok (cnt, ct)) :
    sendK c pr s key ph =
      if pr.mock && decide (pr.codeLen < 0) then (s, .panic)
      else (⟨setLRU pr.cap key ⟨cnt + 1, 0, genCode pr ph (s.nsent + 1), s.nsent + 1, s.now, ct⟩ s.cache, s.nsent + 1, s.now⟩,
        if !pr.mock && pr.smsFails then .smsFail (s.nsent + 1) else .ok (s.nsent + 1)) := by
  rw [sendK, h]

theorem sendK_cases (c : Cfg) (pr : Params) (s : State) (key ph : Str) :
    ((sendK c pr s key ph).2.accepted = none ∧ (sendK c pr s key ph).1 = s) ∨
    (∃ (cnt : Int) (ct : Nat), (sendK c pr s key ph).2.accepted = some (s.nsent + 1) ∧
      (sendK c pr s key ph).1 =
        ⟨setLRU pr.cap key ⟨cnt + 1, 0, genCode pr ph (s.nsent + 1), s.nsent + 1, s.now, ct⟩ s.cache, s.nsent + 1, s.now⟩ ∧
      checkSend c pr s.now (lookup key s.cache) = .ok (cnt, ct)) := by
  cases h : checkSend c pr s.now (lookup key s.cache) with
  | error r =>
    rw [sendK_error ph h]
    exact Or.inl ⟨checkSend_error h, rfl⟩
  | ok v =>
    obtain ⟨cnt, ct⟩ := v
    rw [sendK_ok ph h]
    by_cases hp : (pr.mock && decide (pr.codeLen < 0)) = true
    · rw [if_pos hp]
      exact Or.inl ⟨rfl, rfl⟩
    · rw [if_neg hp]
      refine Or.inr ⟨cnt, ct, ?_, rfl, rfl⟩
      cases (!pr.mock && pr.smsFails) <;> rfl

theorem sendK_ok_result {c : Cfg} {pr : Params} {s : State} {key : Str} (ph : Str) {cnt : Int} {ct : Nat}
    (h : checkSend c pr s.now (lookup key s.cache) = .ok (cnt, ct)) :
    (sendK c pr s key ph).2 = .panic ∨ (sendK c pr s key ph).2.accepted = some (s.nsent + 1) := by
  rw [sendK_ok ph h]
  by_cases hp : (pr.mock && decide (pr.codeLen < 0)) = true
  · rw [if_pos hp]
    exact Or.inl rfl
  · rw [if_neg hp]
    exact Or.inr (by cases (!pr.mock && pr.smsFails) <;> rfl)

theorem sendK_tooFreq_iff (c : Cfg) (pr : Params) (s : State) (key ph : Str) :
    (sendK c pr s key ph).2 = .tooFreq ↔ tooSoon c pr s.now (lookup key s.cache) = true := by
  rw [← checkSend_tooFreq_iff]
  cases h : checkSend c pr s.now (lookup key s.cache) with
  | error r =>
    rw [sendK_error ph h]
    exact ⟨fun h' => congrArg _ h', fun h' => Except.error.inj h'⟩
  | ok v =>
    refine ⟨fun h' => ?_, nofun⟩
    rcases sendK_ok_result ph h with h1 | h1 <;> rw [h'] at h1 <;> cases h1

theorem send_accepted {c : Cfg} {pr : Params} {s : State} {a p : Str} {h : Nat}
    (hacc : (send c pr s a p).2.accepted = some h) :
    h = s.nsent + 1 ∧ ∃ (cnt : Int) (ct : Nat), (send c pr s a p).1 =
      ⟨setLRU pr.cap (mkKey c.sendKeyFmt a p) ⟨cnt + 1, 0, genCode pr p h, h, s.now, ct⟩ s.cache, h, s.now⟩ := by
  unfold send at hacc ⊢
  rcases sendK_cases c pr s (mkKey c.sendKeyFmt a p) p with ⟨h1, _⟩ | ⟨cnt, ct, h1, h2, _⟩ <;> rw [h1] at hacc <;> cases hacc
  exact ⟨rfl, cnt, ct, h2⟩

theorem send_now (c : Cfg) (pr : Params) (s : State) (a p : Str) : (send c pr s a p).1.now = s.now := by
  unfold send
  rcases sendK_cases c pr s (mkKey c.sendKeyFmt a p) p with ⟨_, h2⟩ | ⟨_, _, _, h2, _⟩ <;> rw [h2]

theorem verifyK_none {c : Cfg} {pr : Params} {s : State} {key : Str} {code : Code} {hash : Nat}
    (h : lookup key s.cache = none) : verifyK c pr s key code hash = (s, .notExist) := by
  rw [verifyK, h]

theorem verifyK_some {c : Cfg} {pr : Params} {s : State} {key : Str} {code : Code} {hash : Nat} {e : Entry}
    (h : lookup key s.cache = some e) :
    verifyK c pr s key code hash =
      (⟨touch key { e with verifyCount := e.verifyCount + 1 } s.cache, s.nsent, s.now⟩,
        checkVerify c pr s.now { e with verifyCount := e.verifyCount + 1 } code hash) := by
  rw [verifyK, h]

theorem checkVerify_right (c : Cfg) (pr : Params) (now : Nat) (e : Entry) (h : e.verifyCount ≤ pr.maxVerify) :
    checkVerify c pr now e e.code e.hash =
      if c.ttlCmp.holds ((now : Int) - e.setTime) pr.ttl then .timeout else .ok := by
  rw [checkVerify, if_neg (Int.not_lt.2 h), if_neg (fun h => h rfl), if_neg (fun h => h rfl)]

theorem checkVerify_ok_iff {c : Cfg} {pr : Params} {now : Nat} {e : Entry} {code : Code} {hash : Nat} :
    checkVerify c pr now e code hash = .ok ↔
      (e.verifyCount ≤ pr.maxVerify ∧ e.code = code ∧ e.hash = hash ∧
        c.ttlCmp.holds ((now : Int) - e.setTime) pr.ttl = false) := by
  constructor
  · intro h
    unfold checkVerify at h
    by_cases h1 : e.verifyCount > pr.maxVerify
    · rw [if_pos h1] at h; cases h
    by_cases h2 : e.code ≠ code
    · rw [if_neg h1, if_pos h2] at h; cases h
    by_cases h3 : e.hash ≠ hash
    · rw [if_neg h1, if_neg h2, if_pos h3] at h; cases h
    by_cases h4 : c.ttlCmp.holds ((now : Int) - e.setTime) pr.ttl = true
    · rw [if_neg h1, if_neg h2, if_neg h3, if_pos h4] at h; cases h
    exact ⟨Int.not_lt.1 h1, Decidable.not_not.1 h2, Decidable.not_not.1 h3, Bool.eq_false_iff.2 h4⟩
  · rintro ⟨h1, rfl, rfl, h4⟩
    rw [checkVerify_right c pr now e h1, h4]
    rfl

def Op.key (c : Cfg) : Op → Str
  | .send _ a p => mkKey c.sendKeyFmt a p
  | .verify _ a p _ _ => mkKey c.verifyKeyFmt a p

def Op.isSend : Op → Bool
  | .send _ _ _ => true
  | .verify _ _ _ _ _ => false

def Op.area : Op → Str
  | .send _ a _ => a
  | .verify _ a _ _ _ => a

def Op.pair : Op → Str × Str
  | .send _ a p => (a, p)
  | .verify _ a p _ _ => (a, p)

def Op.time : Op → Nat
  | .send t _ _ => t
  | .verify t _ _ _ _ => t

def Out.accepted : Out → Bool
  | .send r => r.accepted.isSome
  | .verify _ => false

def Out.isOk : Out → Bool
  | .verify .ok => true
  | _ => false

def scOf (s : State) (k : Str) : Int := scOpt (lookup k s.cache)

theorem step_send (c : Cfg) (pr : Params) (s : State) (t : Nat) (a p : Str) :
    step c pr s (.send t a p) = ((send c pr (advance t s) a p).1, .send (send c pr (advance t s) a p).2) :=
  rfl

theorem step_verify (c : Cfg) (pr : Params) (s : State) (t : Nat) (a p : Str) (code : Code) (hash : Nat) :
    step c pr s (.verify t a p code hash) =
      ((verify c pr (advance t s) a p code hash).1, .verify (verify c pr (advance t s) a p code hash).2) :=
  rfl

theorem isOk_verify (r : VerifyResult) (h : (Out.verify r).isOk = true) : r = .ok := by
  cases r <;> first | rfl | cases h

/-- what one operation does, the clock being read at `max s.now o.time`: nothing more (a refused send, a verify of an absent
    key); or an accepted send `Set`s a fresh entry; or a verify of a bound key counts the attempt and promotes the entry -/
theorem step_cases (c : Cfg) (pr : Params) (s : State) (o : Op) :
    ((step c pr s o).1 = advance o.time s ∧ (step c pr s o).2.accepted = false ∧ (step c pr s o).2.isOk = false ∧
      (o.isSend = true ∨ lookup (o.key c) s.cache = none)) ∨
    (∃ cnt ct code, o.isSend = true ∧ (step c pr s o).2.accepted = true ∧
      checkSend c pr (max s.now o.time) (lookup (o.key c) s.cache) = .ok (cnt, ct) ∧
      (step c pr s o).1 = ⟨setLRU pr.cap (o.key c) ⟨cnt + 1, 0, code, s.nsent + 1, max s.now o.time, ct⟩ s.cache,
        s.nsent + 1, max s.now o.time⟩) ∨
    (∃ e, o.isSend = false ∧ (step c pr s o).2.accepted = false ∧ lookup (o.key c) s.cache = some e ∧
      ((step c pr s o).2.isOk = true → e.verifyCount < pr.maxVerify) ∧
      (step c pr s o).1 = ⟨touch (o.key c) { e with verifyCount := e.verifyCount + 1 } s.cache, s.nsent, max s.now o.time⟩) := by
  cases o with
  | send t a p =>
    rw [step_send, send]
    rcases sendK_cases c pr (advance t s) (mkKey c.sendKeyFmt a p) p with ⟨h1, h2⟩ | ⟨cnt, ct, h1, h2, h3⟩
    · exact Or.inl ⟨h2, by rw [Out.accepted, h1]; rfl, rfl, Or.inl rfl⟩
    · exact Or.inr (Or.inl ⟨cnt, ct, _, rfl, by rw [Out.accepted, h1]; rfl, h3, h2⟩)
  | verify t a p code hash =>
    rw [step_verify, verify]
    cases hl : lookup (mkKey c.verifyKeyFmt a p) s.cache with
    | none =>
      rw [verifyK_none (s := advance t s) hl]
      exact Or.inl ⟨rfl, rfl, rfl, Or.inr hl⟩
    | some e =>
      rw [verifyK_some (s := advance t s) hl]
      refine Or.inr (Or.inr ⟨e, rfl, rfl, hl, fun hok => ?_, rfl⟩)
      exact Int.lt_of_add_one_le (checkVerify_ok_iff.1 (isOk_verify _ hok)).1

theorem step_now (c : Cfg) (pr : Params) (s : State) (o : Op) : (step c pr s o).1.now = max s.now o.time := by
  rcases step_cases c pr s o with ⟨h, _⟩ | ⟨_, _, _, _, _, _, h⟩ | ⟨_, _, _, _, _, h⟩ <;> rw [h] <;> rfl

theorem step_nsent_mono (c : Cfg) (pr : Params) (s : State) (o : Op) : s.nsent ≤ (step c pr s o).1.nsent := by
  rcases step_cases c pr s o with ⟨h, _⟩ | ⟨_, _, _, _, _, _, h⟩ | ⟨_, _, _, _, _, h⟩ <;> rw [h]
  · exact Nat.le_refl _
  · exact Nat.le_succ _
  · exact Nat.le_refl _

theorem step_lookup_other (c : Cfg) (pr : Params) (s : State) (o : Op) (k : Str) (h : o.key c ≠ k) :
    lookup k (step c pr s o).1.cache = none ∨ lookup k (step c pr s o).1.cache = lookup k s.cache := by
  have h' : k ≠ o.key c := fun e => h e.symm
  rcases step_cases c pr s o with ⟨hs, _⟩ | ⟨_, _, _, _, _, _, hs⟩ | ⟨_, _, _, _, _, hs⟩ <;> rw [hs]
  · exact Or.inr rfl
  · exact lookup_setLRU_ne h' _ _ _
  · exact Or.inr (lookup_touch_ne h' _ _)

theorem step_lookup_other_none (c : Cfg) (pr : Params) (s : State) (o : Op) (k : Str) (h : o.key c ≠ k)
    (hn : lookup k s.cache = none) : lookup k (step c pr s o).1.cache = none := by
  rcases step_lookup_other c pr s o k h with h1 | h1
  · exact h1
  · rw [h1, hn]

theorem step_rank (c : Cfg) (pr : Params) (s : State) (o : Op) (k : Str)
    (h : posOr0 k s.cache + (if o.key c = k then 0 else 1) < pr.cap) :
    ((lookup k s.cache).isSome = true → (lookup k (step c pr s o).1.cache).isSome = true) ∧
      posOr0 k (step c pr s o).1.cache ≤ posOr0 k s.cache + (if o.key c = k then 0 else 1) := by
  rcases step_cases c pr s o with ⟨hs, _⟩ | ⟨_, _, _, _, _, _, hs⟩ | ⟨_, _, _, _, _, hs⟩ <;> rw [hs]
  · exact ⟨id, Nat.le_add_right _ _⟩
  · exact rank_setLRU k _ _ _ _ h
  · exact rank_touch k _ _ _

theorem step_hash (c : Cfg) (pr : Params) (s : State) (o : Op) (k : Str) (e : Entry)
    (h : lookup k (step c pr s o).1.cache = some e) :
    (∃ e0, lookup k s.cache = some e0 ∧ e0.hash = e.hash) ∨
      (k = o.key c ∧ e.hash = s.nsent + 1 ∧ (step c pr s o).1.nsent = s.nsent + 1) := by
  rcases step_cases c pr s o with ⟨hs, _⟩ | ⟨_, _, _, _, _, _, hs⟩ | ⟨e0, _, _, hl, _, hs⟩ <;> rw [hs] at h ⊢
  · exact Or.inl ⟨e, h, rfl⟩
  · rcases lookup_setLRU_cases h with ⟨hk, he⟩ | ⟨_, h'⟩
    · exact Or.inr ⟨hk, by rw [he], rfl⟩
    · exact Or.inl ⟨e, h', rfl⟩
  · rcases lookup_touch_cases h with ⟨hk, he⟩ | ⟨_, h'⟩
    · exact Or.inl ⟨e0, by rw [hk]; exact hl, by rw [he]⟩
    · exact Or.inl ⟨e, h', rfl⟩

theorem split_sep (sep : Char) (x : Str) : ∀ (y r r' : Str), sep ∉ x → sep ∉ y → x ++ sep :: r = y ++ sep :: r' → x = y ∧ r = r' := by
  induction x with
  | nil =>
    intro y r r' _ h2 h
    cases y with
    | nil => exact ⟨rfl, (List.cons.inj h).2⟩
    | cons b y => exact absurd (List.mem_cons.2 (Or.inl (List.cons.inj h).1)) h2
  | cons a x ih =>
    intro y r r' h1 h2 h
    cases y with
    | nil => exact absurd (List.mem_cons.2 (Or.inl (List.cons.inj h).1.symm)) h1
    | cons b y =>
      have h' := List.cons.inj h
      have := ih y r r' (fun m => h1 (List.mem_cons_of_mem _ m)) (fun m => h2 (List.mem_cons_of_mem _ m)) h'.2
      rw [h'.1, this.1]
      exact ⟨rfl, this.2⟩

/-- the format `"%s-%s"` is injective on dash-free area codes; with a dash in the area code: `witness_dashJoin_collision` -/
theorem mkKey_dashJoin_inj_dashfree : ∀ (a a' p p' : Str), '-' ∉ a → '-' ∉ a' →
    mkKey .dashJoin a p = mkKey .dashJoin a' p' → a = a' ∧ p = p' :=
  split_sep '-'

def decVal (l : Str) : Nat := l.foldl (fun acc ch => acc * 10 + (ch.toNat - 48)) 0

theorem decVal_append_single (l : Str) (ch : Char) : decVal (l ++ [ch]) = decVal l * 10 + (ch.toNat - 48) := by
  simp [decVal, List.foldl_append]

theorem digitChar_val : ∀ d, d < 10 → (Nat.digitChar d).toNat - 48 = d := by decide
theorem digitChar_ne_colon : ∀ d, d < 10 → Nat.digitChar d ≠ ':' := by decide

theorem decF_val (f : Nat) : ∀ n, n ≤ f → decVal (decF f n) = n := by
  induction f with
  | zero =>
    intro n h
    obtain rfl := Nat.le_zero.1 h
    rfl
  | succ f ih =>
    intro n h
    rw [decF]
    split
    · rename_i hlt
      exact (Nat.zero_add _).trans (digitChar_val n hlt)
    · rw [decVal_append_single, ih (n / 10) (by omega), digitChar_val _ (Nat.mod_lt _ (by decide))]
      exact Nat.div_add_mod' n 10

theorem decF_no_colon (f : Nat) : ∀ n, ':' ∉ decF f n := by
  induction f with
  | zero => exact fun n h => digitChar_ne_colon _ (Nat.mod_lt _ (by decide)) (List.mem_singleton.1 h).symm
  | succ f ih =>
    intro n
    rw [decF]
    split
    · rename_i hlt
      exact fun h => digitChar_ne_colon _ hlt (List.mem_singleton.1 h).symm
    · intro h
      rcases List.mem_append.1 h with h | h
      · exact ih _ h
      · exact digitChar_ne_colon _ (Nat.mod_lt _ (by decide)) (List.mem_singleton.1 h).symm

theorem dec_inj (n m : Nat) (h : dec n = dec m) : n = m := by
  rw [← decF_val n n (Nat.le_refl _), ← decF_val m m (Nat.le_refl _)]
  exact congrArg decVal h

theorem mkKey_lenPrefix_inj (a a' p p' : Str) (h : mkKey .lenPrefix a p = mkKey .lenPrefix a' p') :
    a = a' ∧ p = p' := by
  have := split_sep ':' _ _ _ _ (decF_no_colon _ _) (decF_no_colon _ _) h
  exact List.append_inj this.2 (dec_inj _ _ this.1)

theorem key_eq_iff_pair (c : Cfg) (hc : Proved c) (o : Op) (a p : Str) :
    o.key c = mkKey .lenPrefix a p ↔ o.pair = (a, p) := by
  have : o.key c = mkKey .lenPrefix o.pair.1 o.pair.2 := by
    cases o
    · exact congrArg (mkKey · _ _) hc.1
    · exact congrArg (mkKey · _ _) hc.2.1
  rw [this]
  exact ⟨fun h => Prod.ext (mkKey_lenPrefix_inj _ _ _ _ h).1 (mkKey_lenPrefix_inj _ _ _ _ h).2, fun h => by rw [h]⟩

theorem decide_key_eq_pair (c : Cfg) (hc : Proved c) (a p : Str) (o : Op) :
    decide (o.key c = mkKey .lenPrefix a p) = decide (o.pair = (a, p)) :=
  decide_eq_decide.2 (key_eq_iff_pair c hc o a p)

theorem no_send_to_key (c : Cfg) (hc : Proved c) (a p : Str) (ops : List Op)
    (hns : ∀ o ∈ ops, o.isSend = true → o.pair ≠ (a, p)) :
    ∀ o ∈ ops, o.isSend = true → o.key c ≠ mkKey .lenPrefix a p :=
  fun o ho hsend hk => hns o ho hsend ((key_eq_iff_pair c hc o a p).1 hk)

theorem nonceLoop_length (base : Str) (m : Nat) (n : Nat) : ∀ (vals : List Nat), (nonceLoop base m n vals).length = n := by
  induction n with
  | zero => exact fun _ => rfl
  | succ n ih => exact fun vals => congrArg Nat.succ (ih vals.tail)

theorem getD_of_lt (base : Str) (i : Nat) (h : i < base.length) : base.getD i ' ' = base[i] := by
  simp [List.getD_eq_getElem?_getD, List.getElem?_eq_getElem h]

theorem getD_mem_of_lt (base : Str) (i : Nat) (h : i < base.length) : base.getD i ' ' ∈ base := by
  rw [getD_of_lt base i h]
  exact List.getElem_mem h

theorem nonceLoop_mem (base : Str) (m : Nat) (hm : 0 < m) (hle : m ≤ base.length) (x : Char) (n : Nat) :
    ∀ (vals : List Nat), x ∈ nonceLoop base m n vals → x ∈ base.take m := by
  induction n with
  | zero => exact fun _ h => nomatch h
  | succ n ih =>
    intro vals h
    rcases List.mem_cons.1 h with h | h
    · have hlt : vals.headD 0 % m < m := Nat.mod_lt _ hm
      rw [h, getD_of_lt base _ (Nat.lt_of_lt_of_le hlt hle), List.mem_take_iff_getElem]
      exact ⟨vals.headD 0 % m, by rw [Nat.min_eq_left hle]; exact hlt, rfl⟩
    · exact ih vals.tail h

theorem boundOf_le (b : NonceBound) (n : Nat) : boundOf b n ≤ n := by
  cases b
  · exact Int.sub_le_self _ (by decide)
  · exact Int.le_refl _
  · exact Int.le_refl _

theorem genNonce_pos (b : NonceBound) (base : Str) (len : Nat) (vals : List Nat) (hlen : len ≠ 0) :
    genNonce b base len vals =
      if boundOf b base.length ≤ 0 then none else some (nonceLoop base (boundOf b base.length).toNat len vals) := by
  rw [genNonce, if_neg hlen]

theorem genNonce_one (b : NonceBound) (base : Str) (v : Nat) (hpos : 0 < boundOf b base.length) :
    genNonce b base 1 [v] = some [base.getD (v % (boundOf b base.length).toNat) ' '] := by
  rw [genNonce_pos b base 1 [v] (by decide), if_neg (Int.not_le.2 hpos)]
  rfl

theorem mockCode_length (phone : Str) (n : Nat) : (mockCode phone n).length = n := by
  unfold mockCode
  split
  · rename_i h
    rw [List.length_drop, Nat.sub_sub_self h]
  · rename_i h
    rw [List.length_append, List.length_replicate, Nat.sub_add_cancel (Nat.le_of_lt (Nat.lt_of_not_ge h))]

end Nv.C19
