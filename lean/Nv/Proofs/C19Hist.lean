import Nv.Proofs.C19
/-!
C19 — histories: the observers the property theorems are stated with (`noEvict`, `verifiesOf`, `okSince`, `sendOutsTo`,
`winGhost`, `WF`, the generated keys of the bulk run, …) and the inductions over operation lists behind them, each a
`step_cases` analysis of one operation.
-/
namespace Nv.C19

/-! ### eviction, and the binding of one key through a history -/

def verifiesOf (c : Cfg) (k : Str) (ops : List Op) : Nat :=
  (ops.filter (fun o => !o.isSend && decide (o.key c = k))).length

def othersOf (c : Cfg) (k : Str) (ops : List Op) : Nat :=
  (ops.filter (fun o => decide (o.key c ≠ k))).length

def present (k : Str) (s : State) : Bool := (lookup k s.cache).isSome

/-- the binding of `k` is never evicted during the history (it may be absent, created, overwritten — not lost) -/
def noEvict (c : Cfg) (pr : Params) (k : Str) : State → List Op → Bool
  | _, [] => true
  | s, o :: os => (!present k s || present k (step c pr s o).1) && noEvict c pr k (step c pr s o).1 os

theorem noEvict_cons (c : Cfg) (pr : Params) (k : Str) (s : State) (o : Op) (os : List Op) :
    noEvict c pr k s (o :: os) = true ↔
      (present k s = true → present k (step c pr s o).1 = true) ∧ noEvict c pr k (step c pr s o).1 os = true := by
  rw [noEvict]
  cases present k s <;> simp

theorem step_lookup_kept (c : Cfg) (pr : Params) (s : State) (o : Op) (k : Str) (hk : o.key c ≠ k)
    (hp : present k s = true → present k (step c pr s o).1 = true) :
    lookup k (step c pr s o).1.cache = lookup k s.cache := by
  rcases step_lookup_other c pr s o k hk with h1 | h1
  · cases hl : lookup k s.cache with
    | none => exact h1
    | some e =>
      have := hp (by rw [present, hl]; rfl)
      rw [present, h1] at this
      cases this
  · exact h1

theorem othersOf_cons (c : Cfg) (k : Str) (o : Op) (os : List Op) :
    othersOf c k (o :: os) = (if o.key c = k then 0 else 1) + othersOf c k os := by
  unfold othersOf
  by_cases h : o.key c = k <;> simp [h, Nat.add_comm]

theorem verifiesOf_cons (c : Cfg) (k : Str) (o : Op) (os : List Op) :
    verifiesOf c k (o :: os) = (if o.isSend = false ∧ o.key c = k then 1 else 0) + verifiesOf c k os := by
  unfold verifiesOf
  rw [List.filter_cons]
  cases o.isSend <;> by_cases hk : o.key c = k <;> simp [hk, Nat.add_comm]

/-- **no eviction** whenever the position of the key plus the number of operations on other keys stays below the
    capacity — in particular for every history with fewer than `CacheSize` operations on other keys after a send -/
theorem noEvict_of_few_others (c : Cfg) (pr : Params) (k : Str) (ops : List Op) : ∀ (s : State),
    posOr0 k s.cache + othersOf c k ops < pr.cap → noEvict c pr k s ops = true := by
  induction ops with
  | nil => exact fun _ _ => rfl
  | cons o os ih =>
    intro s h
    rw [othersOf_cons, ← Nat.add_assoc] at h
    have hr := step_rank c pr s o k (Nat.lt_of_le_of_lt (Nat.le_add_right _ _) h)
    exact (noEvict_cons c pr k s o os).2 ⟨hr.1, ih _ (Nat.lt_of_le_of_lt (Nat.add_le_add_right hr.2 _) h)⟩

theorem noEvict_after_send {c : Cfg} {pr : Params} {s : State} {a p : Str} {h : Nat}
    (hacc : (send c pr s a p).2.accepted = some h) (ops : List Op)
    (hfew : othersOf c (mkKey c.sendKeyFmt a p) ops < pr.cap) :
    noEvict c pr (mkKey c.sendKeyFmt a p) (send c pr s a p).1 ops = true := by
  apply noEvict_of_few_others
  obtain ⟨_, cnt, ct, hs⟩ := send_accepted hacc
  rw [hs, posOr0_setLRU_self _ _ (Nat.zero_lt_of_lt hfew), Nat.zero_add]
  exact hfew

theorem track (c : Cfg) (pr : Params) (k : Str) (ops : List Op) : ∀ (s : State) (e : Entry),
    lookup k s.cache = some e → (∀ o ∈ ops, o.isSend = true → o.key c ≠ k) → noEvict c pr k s ops = true →
    lookup k (final (step c pr) s ops).cache =
      some { e with verifyCount := e.verifyCount + (verifiesOf c k ops : Nat) } := by
  induction ops with
  | nil =>
    intro s e hl _ _
    rw [final_nil, hl]
    exact congrArg some (by rw [verifiesOf, List.filter_nil, List.length_nil, Int.natCast_zero, Int.add_zero])
  | cons o os ih =>
    intro s e hl hns hev
    obtain ⟨hp, hev'⟩ := (noEvict_cons c pr k s o os).1 hev
    have hl' : lookup k (step c pr s o).1.cache =
        some { e with verifyCount := e.verifyCount + ((if o.isSend = false ∧ o.key c = k then 1 else 0 : Nat) : Int) } := by
      by_cases hk : o.key c = k
      · subst hk
        rcases step_cases c pr s o with ⟨_, _, _, hsend | hn⟩ | ⟨_, _, _, hsend, _⟩ | ⟨e0, hsend, _, hl0, _, hs⟩
        · exact absurd rfl (hns o List.mem_cons_self hsend)
        · rw [hn] at hl; cases hl
        · exact absurd rfl (hns o List.mem_cons_self hsend)
        · rw [hl] at hl0
          cases hl0
          rw [hs, lookup_touch_self, if_pos ⟨hsend, rfl⟩]
          rfl
      · rw [step_lookup_kept c pr s o k hk hp, hl, if_neg (fun h => hk h.2), Int.natCast_zero, Int.add_zero]
    rw [final_cons, ih _ _ hl' (fun o' h => hns o' (List.mem_cons_of_mem _ h)) hev', verifiesOf_cons,
      Int.natCast_add, Int.add_assoc]

theorem entry_after_send {c : Cfg} {pr : Params} (hcap : 0 < pr.cap) {s : State} {a p : Str} {h : Nat}
    (hacc : (send c pr s a p).2.accepted = some h) {ops : List Op}
    (hns : ∀ o ∈ ops, o.isSend = true → o.key c ≠ mkKey c.sendKeyFmt a p)
    (hev : noEvict c pr (mkKey c.sendKeyFmt a p) (send c pr s a p).1 ops = true) :
    ∃ cnt ct, lookup (mkKey c.sendKeyFmt a p) (final (step c pr) (send c pr s a p).1 ops).cache =
      some ⟨cnt, (verifiesOf c (mkKey c.sendKeyFmt a p) ops : Nat), genCode pr p h, h, s.now, ct⟩ := by
  obtain ⟨_, cnt, ct, hs⟩ := send_accepted hacc
  refine ⟨cnt + 1, ct, ?_⟩
  rw [track c pr _ ops _ _ (by rw [hs]; exact lookup_setLRU_self hcap) hns hev, Int.zero_add]

/-! ### keys and pairs -/

def verifiesOfPair (a p : Str) (ops : List Op) : Nat :=
  (ops.filter (fun o => !o.isSend && decide (o.pair = (a, p)))).length

def othersOfPair (a p : Str) (ops : List Op) : Nat :=
  (ops.filter (fun o => decide (o.pair ≠ (a, p)))).length

theorem verifiesOf_eq_pair (c : Cfg) (hc : Proved c) (a p : Str) (ops : List Op) :
    verifiesOf c (mkKey .lenPrefix a p) ops = verifiesOfPair a p ops := by
  simp only [verifiesOf, verifiesOfPair, decide_key_eq_pair c hc]

theorem othersOf_eq_pair (c : Cfg) (hc : Proved c) (a p : Str) (ops : List Op) :
    othersOf c (mkKey .lenPrefix a p) ops = othersOfPair a p ops := by
  simp only [othersOf, othersOfPair, ne_eq, decide_not, decide_key_eq_pair c hc]

/-! ### issued hashes -/

/-- every stored hash was issued: it is at most the number of accepted sends -/
def WF (s : State) : Prop := ∀ k e, lookup k s.cache = some e → e.hash ≤ s.nsent

def OnlyAt (h : Nat) (k : Str) (s : State) : Prop :=
  h ≤ s.nsent ∧ ∀ k' e, k' ≠ k → lookup k' s.cache = some e → e.hash ≠ h

theorem wf_init : WF State.init := fun _ _ h => nomatch h

theorem wf_step (c : Cfg) (pr : Params) (s : State) (o : Op) (hs : WF s) : WF (step c pr s o).1 := by
  intro k e hl
  rcases step_hash c pr s o k e hl with ⟨e0, h0, he⟩ | ⟨_, he, hn⟩
  · rw [← he]
    exact Nat.le_trans (hs k e0 h0) (step_nsent_mono c pr s o)
  · rw [he, hn]
    exact Nat.le_refl _

/-- an issued hash that only `k` may carry stays so: later hashes are larger, and bindings keep their hashes -/
theorem onlyAt_step (c : Cfg) (pr : Params) (h : Nat) (k : Str) (s : State) (o : Op)
    (hs : WF s ∧ OnlyAt h k s) : WF (step c pr s o).1 ∧ OnlyAt h k (step c pr s o).1 := by
  obtain ⟨hwf, hle, hon⟩ := hs
  refine ⟨wf_step c pr s o hwf, Nat.le_trans hle (step_nsent_mono c pr s o), fun k' e hne hl => ?_⟩
  rcases step_hash c pr s o k' e hl with ⟨e0, h0, he⟩ | ⟨_, he, _⟩
  · rw [← he]
    exact hon k' e0 hne h0
  · rw [he]
    exact Nat.ne_of_gt (Nat.lt_succ_of_le hle)

/-! ### attempts -/

/-- successful verifies against key `k` since the last accepted send to `k` (`acc` = count so far) -/
def okSince (c : Cfg) (pr : Params) (k : Str) : State → List Op → Nat → Nat
  | _, [], acc => acc
  | s, o :: os, acc =>
    let r := step c pr s o
    okSince c pr k r.1 os
      (if o.key c = k then
        (if o.isSend then (if r.2.accepted then 0 else acc) else (if r.2.isOk then acc + 1 else acc))
      else acc)

/-- the count of successes never exceeds the attempt counter of the entry, which a send resets together with the count; a
    success needs a counter below the limit; and eviction ends all successes until the next send -/
theorem okSince_le (c : Cfg) (pr : Params) (k : Str) (ops : List Op) : ∀ (s : State) (acc : Nat),
    (∀ e, lookup k s.cache = some e → (acc : Int) ≤ e.verifyCount) → acc ≤ pr.maxVerify.toNat →
    okSince c pr k s ops acc ≤ pr.maxVerify.toNat := by
  induction ops with
  | nil => exact fun _ _ _ h2 => h2
  | cons o os ih =>
    intro s acc h1 h2
    rw [okSince]
    by_cases hk : o.key c = k
    · subst hk
      rw [if_pos rfl]
      rcases step_cases c pr s o with ⟨hs, hacc, hok, _⟩ | ⟨cnt, ct, code, hsend, hacc, _, hs⟩ | ⟨e, hsend, _, hl, hok, hs⟩
      · have : (if o.isSend = true then if false = true then 0 else acc else if false = true then acc + 1 else acc) = acc := by
          cases o.isSend <;> rfl
        rw [hacc, hok, hs, this]
        exact ih _ acc h1 h2
      · rw [hsend, hacc, hs]
        refine ih _ 0 (fun e' hl => ?_) (Nat.zero_le _)
        rcases lookup_setLRU_cases hl with ⟨_, he⟩ | ⟨hne, _⟩
        · rw [he]; exact Int.le_refl _
        · exact absurd rfl hne
      · have hv : (acc : Int) ≤ e.verifyCount := h1 e hl
        rw [hsend, hs]
        have hv' : ∀ acc' : Nat, acc' ≤ acc + 1 → ∀ e', lookup (o.key c) (touch (o.key c)
            { e with verifyCount := e.verifyCount + 1 } s.cache) = some e' → (acc' : Int) ≤ e'.verifyCount := by
          intro acc' h e' hl'
          rw [lookup_touch_self] at hl'
          cases hl'
          exact Int.le_trans (Int.ofNat_le.2 h) (Int.add_le_add_right hv 1)
        cases hok' : (step c pr s o).2.isOk with
        | true => exact ih _ (acc + 1) (hv' _ (Nat.le_refl _)) (by have := hok hok'; omega)
        | false => exact ih _ acc (hv' _ (Nat.le_succ _)) h2
    · rw [if_neg hk]
      refine ih _ acc (fun e hl => h1 e ?_) h2
      rcases step_lookup_other c pr s o k hk with h3 | h3
      · rw [h3] at hl; cases hl
      · rw [← h3]; exact hl

/-! ### re-sends and interleavings -/

def sendOutsTo (c : Cfg) (pr : Params) (k : Str) : State → List Op → List SendResult
  | _, [] => []
  | s, o :: os =>
    (match o.isSend && decide (o.key c = k), (step c pr s o).2 with
      | true, .send x => [x]
      | _, _ => []) ++ sendOutsTo c pr k (step c pr s o).1 os

theorem mem_sendOut (c : Cfg) (pr : Params) (k : Str) (s : State) (o : Op) (x : SendResult)
    (hx : x ∈ (match o.isSend && decide (o.key c = k), (step c pr s o).2 with
      | true, .send x => [x]
      | _, _ => [])) : o.key c = k ∧ (step c pr s o).2 = .send x := by
  split at hx
  · rename_i y hb hout
    cases List.mem_singleton.1 hx
    exact ⟨of_decide_eq_true (Bool.and_eq_true_iff.1 hb).2, hout⟩
  · cases hx

theorem step_tooFreq (c : Cfg) (pr : Params) (s : State) (o : Op) (e : Entry) (x : SendResult)
    (hl : lookup (o.key c) s.cache = some e)
    (hnow : c.minIntervalCmp.holds (((max s.now o.time : Nat) : Int) - e.setTime) pr.minInterval = true)
    (hx : (step c pr s o).2 = .send x) : x = .tooFreq := by
  cases o with
  | send t a p =>
    cases hx
    have hl' : lookup (mkKey c.sendKeyFmt a p) (advance t s).cache = some e := hl
    exact (sendK_tooFreq_iff c pr (advance t s) _ p).2 ((congrArg (tooSoon c pr (advance t s).now) hl').trans hnow)
  | verify t a p code hash => cases hx

/-- `cs` is a merge of `as` and `bs` that keeps the order inside each of them: one sequential interleaving of two callers -/
inductive Interleave {α : Type} : List α → List α → List α → Prop
  | nil : Interleave [] [] []
  | left {a : α} {as bs cs : List α} : Interleave as bs cs → Interleave (a :: as) bs (a :: cs)
  | right {b : α} {as bs cs : List α} : Interleave as bs cs → Interleave as (b :: bs) (b :: cs)

theorem othersOf_interleave (c : Cfg) (k : Str) {as bs cs : List Op} (h : Interleave as bs cs)
    (has : ∀ o ∈ as, o.key c = k) : othersOf c k cs ≤ bs.length := by
  induction h with
  | nil => exact Nat.le_refl 0
  | @left a as bs cs _ ih =>
    rw [othersOf_cons, if_pos (has a List.mem_cons_self), Nat.zero_add]
    exact ih (fun o ho => has o (List.mem_cons_of_mem _ ho))
  | @right b as bs cs _ ih =>
    have := ih has
    rw [othersOf_cons, List.length_cons]
    split <;> omega

/-! ### the send window -/

/-- ghost window of key `k`, computed from the outputs and the clock alone: (window start, accepted sends in that window); an accepted
    send starts a new window when there is none or when (its time − window start) compares `>` CounterDuration as the source compares -/
def winGhost (c : Cfg) (pr : Params) (k : Str) : State → List Op → Option (Nat × Nat) → Option (Nat × Nat)
  | _, [], g => g
  | s, o :: os, g =>
    let r := step c pr s o
    winGhost c pr k r.1 os
      (if o.isSend && decide (o.key c = k) && r.2.accepted then
        (match g with
          | none => some (r.1.now, 1)
          | some (st, n) =>
            if c.windowCmp.holds ((r.1.now : Int) - st) pr.window then some (r.1.now, 1) else some (st, n + 1))
      else g)

def GhostInv (pr : Params) (b : Option Entry) : Option (Nat × Nat) → Prop
  | none => b = none
  | some (st, n) => ∃ e, b = some e ∧ e.counterTime = st ∧ e.sendCount = (n : Int) ∧
      (n : Int) ≤ max (pr.maxCount + 1) 1

def ghostBound (pr : Params) : Option (Nat × Nat) → Prop
  | none => True
  | some (_, n) => (n : Int) ≤ max (pr.maxCount + 1) 1

theorem ghostInv_bound (pr : Params) (b : Option Entry) (g : Option (Nat × Nat)) (h : GhostInv pr b g) :
    ghostBound pr g := by
  cases g with
  | none => trivial
  | some v =>
    obtain ⟨_, _, _, _, hb⟩ := h
    exact hb

/-- an accepted send keeps entry and ghost window in step: `checkSend` refreshes the stored window exactly when the ghost
    window is over, and otherwise lets the send pass only while the stored count is within `MaxCount` -/
theorem ghostInv_send (c : Cfg) (pr : Params) (now : Nat) (e0 : Entry) (n : Nat) (hi : GhostInv pr (some e0) (some (e0.counterTime, n)))
    (cnt : Int) (ct : Nat) (hchk : checkSend c pr now (some e0) = .ok (cnt, ct)) (code : Code) (h : Nat) :
    GhostInv pr (some ⟨cnt + 1, 0, code, h, now, ct⟩)
      (if c.windowCmp.holds (winElapsed now (some e0)) pr.window then some (now, 1) else some (e0.counterTime, n + 1)) := by
  obtain ⟨_, he, _, h2, _⟩ := hi
  cases he
  rcases (checkSend_ok hchk).2 with ⟨hw, rfl, rfl⟩ | ⟨hw, hle, rfl, rfl⟩
  · rw [if_pos hw]
    exact ⟨_, rfl, rfl, rfl, Int.le_max_right _ _⟩
  · rw [if_neg (Bool.eq_false_iff.1 hw)]
    have : (n : Int) ≤ pr.maxCount := h2 ▸ hle
    exact ⟨_, rfl, rfl, by rw [scOpt, h2]; rfl, Int.le_trans (Int.add_le_add_right this 1) (Int.le_max_left _ _)⟩

theorem ghostInv_send_none (c : Cfg) (pr : Params) (now : Nat) (cnt : Int) (ct : Nat)
    (hchk : checkSend c pr now none = .ok (cnt, ct)) (code : Code) (h : Nat) :
    GhostInv pr (some ⟨cnt + 1, 0, code, h, now, ct⟩) (some (now, 1)) := by
  rcases (checkSend_ok hchk).2 with ⟨_, rfl, rfl⟩ | ⟨_, _, rfl, rfl⟩ <;>
    exact ⟨_, rfl, rfl, rfl, Int.le_max_right _ _⟩

theorem winGhost_inv (c : Cfg) (pr : Params) (hcap : 0 < pr.cap) (k : Str) (ops : List Op) : ∀ (s : State) (g : Option (Nat × Nat)),
    GhostInv pr (lookup k s.cache) g → noEvict c pr k s ops = true → ghostBound pr (winGhost c pr k s ops g) := by
  induction ops with
  | nil => exact fun s g hi _ => ghostInv_bound pr _ g hi
  | cons o os ih =>
    intro s g hi hev
    obtain ⟨hp, hev'⟩ := (noEvict_cons c pr k s o os).1 hev
    refine ih (step c pr s o).1 _ ?_ hev'
    by_cases hk : o.key c = k
    · subst hk
      rcases step_cases c pr s o with ⟨hs, hacc, _⟩ | ⟨cnt, ct, code, hsend, hacc, hchk, hs⟩ | ⟨e, _, hacc, hl, _, hs⟩
      · rw [hacc, Bool.and_false, hs]
        exact hi
      · rw [hsend, hacc, decide_eq_true rfl, hs, lookup_setLRU_self hcap]
        cases g with
        | none =>
          rw [show lookup (o.key c) s.cache = none from hi] at hchk
          exact ghostInv_send_none c pr _ cnt ct hchk code _
        | some v =>
          obtain ⟨st, n⟩ := v
          obtain ⟨e0, he, rfl, hr⟩ := hi
          rw [he] at hchk
          exact ghostInv_send c pr _ e0 n ⟨e0, rfl, rfl, hr⟩ cnt ct hchk code _
      · rw [hacc, Bool.and_false, hs, lookup_touch_self]
        cases g with
        | none => rw [hl] at hi; cases hi
        | some v =>
          obtain ⟨e0, he, hr⟩ := hi
          rw [hl] at he
          cases he
          exact ⟨_, rfl, hr⟩
    · rw [decide_eq_false hk, Bool.and_false, Bool.false_and, step_lookup_kept c pr s o k hk hp]
      exact hi

/-! ### bulk -/

def bulkKey (c : Cfg) (i : Nat) : Str := mkKey c.sendKeyFmt bulkArea (bulkPhone i)

theorem bulkKey_inj (c : Cfg) (hc : Proved c) (i j : Nat) (h : bulkKey c i = bulkKey c j) : i = j := by
  rw [bulkKey, bulkKey, hc.1] at h
  exact Nat.add_left_cancel (dec_inj _ _ (mkKey_lenPrefix_inj _ _ _ _ h).2)

/-- keys of the pairs m−1, …, 1, 0: the recency order after m sends -/
def keysDesc (c : Cfg) : Nat → List Str
  | 0 => []
  | m + 1 => bulkKey c m :: keysDesc c m

theorem mem_keysDesc (c : Cfg) (x : Str) (m : Nat) (h : x ∈ keysDesc c m) : ∃ j, j < m ∧ x = bulkKey c j := by
  induction m with
  | zero => cases h
  | succ m ih =>
    rcases List.mem_cons.1 h with h | h
    · exact ⟨m, Nat.lt_succ_self m, h⟩
    · obtain ⟨j, hj, hx⟩ := ih h
      exact ⟨j, Nat.lt_succ_of_lt hj, hx⟩

theorem bulkKey_not_mem (c : Cfg) (hc : Proved c) (m cap : Nat) : bulkKey c m ∉ (keysDesc c m).take cap := by
  intro hm
  obtain ⟨j, hj, hx⟩ := mem_keysDesc c _ m (List.mem_of_mem_take hm)
  exact Nat.lt_irrefl _ (bulkKey_inj c hc _ _ hx ▸ hj)

theorem mem_take_keysDesc (c : Cfg) (hc : Proved c) (k : Nat) (n : Nat) : ∀ cap : Nat,
    bulkKey c k ∈ (keysDesc c n).take cap ↔ (k < n ∧ n ≤ k + cap) := by
  induction n with
  | zero => exact fun cap => by simp [keysDesc]
  | succ n ih =>
    intro cap
    cases cap with
    | zero => simp
    | succ cap =>
      rw [keysDesc, List.take_succ_cons, List.mem_cons, ih cap]
      constructor
      · rintro (h | h)
        · rw [bulkKey_inj c hc _ _ h]
          exact ⟨Nat.lt_succ_self n, Nat.succ_le_succ (Nat.le_add_right n cap)⟩
        · exact ⟨Nat.lt_succ_of_lt h.1, Nat.succ_le_succ h.2⟩
      · intro h
        by_cases hk : k = n
        · exact Or.inl (by rw [hk])
        · exact Or.inr ⟨Nat.lt_of_le_of_ne (Nat.le_of_lt_succ h.1) hk, Nat.le_of_succ_le_succ h.2⟩

theorem bulk_send_fresh (c : Cfg) (cap : Nat) (s : State) (i : Nat) (hl : lookup (bulkKey c i) s.cache = none) :
    (send c (bulkParams cap) s bulkArea (bulkPhone i)).2 = .ok (s.nsent + 1) ∧
    (send c (bulkParams cap) s bulkArea (bulkPhone i)).1 =
      ⟨setLRU cap (bulkKey c i) ⟨1, 0, genCode (bulkParams cap) (bulkPhone i) (s.nsent + 1), s.nsent + 1, s.now, s.now⟩ s.cache,
        s.nsent + 1, s.now⟩ := by
  have hcs : checkSend c (bulkParams cap) s.now (lookup (mkKey c.sendKeyFmt bulkArea (bulkPhone i)) s.cache) = .ok (0, s.now) := by
    rw [show lookup (mkKey c.sendKeyFmt bulkArea (bulkPhone i)) s.cache = none from hl]
    exact checkSend_pass c (bulkParams cap) s.now none rfl (by cases c.windowCmp <;> rfl) (show (0 : Int) ≤ 3 by decide)
  rw [send, sendK_ok _ hcs]
  exact ⟨rfl, rfl⟩

/-- the sends m, m+1, … to distinct generated pairs, from a cache holding the `cap` most recent of the pairs below m: the cache
    then holds the `cap` most recent of all pairs, most recent first; the clock still reads `s.now`; and the entry of a generated
    pair is the one its send stored (first send of a window, no attempts) unless it was there before -/
theorem bulk_state (c : Cfg) (hc : Proved c) (cap cnt : Nat) : ∀ (m : Nat) (s : State),
    keysOf s.cache = (keysDesc c m).take cap → s.nsent = m →
    keysOf (final (step c (bulkParams cap)) s (bulkSends m cnt)).cache = (keysDesc c (m + cnt)).take cap ∧
      (final (step c (bulkParams cap)) s (bulkSends m cnt)).nsent = m + cnt ∧
      (final (step c (bulkParams cap)) s (bulkSends m cnt)).now = s.now ∧
      ∀ j e, lookup (bulkKey c j) (final (step c (bulkParams cap)) s (bulkSends m cnt)).cache = some e →
        e = ⟨1, 0, genCode (bulkParams cap) (bulkPhone j) (j + 1), j + 1, s.now, s.now⟩ ∨
          lookup (bulkKey c j) s.cache = some e := by
  induction cnt with
  | zero => exact fun m s hk hn => ⟨hk, hn, rfl, fun _ _ h => Or.inr h⟩
  | succ cnt ih =>
    intro m s hk hn
    have hnm : bulkKey c m ∉ keysOf s.cache := hk ▸ bulkKey_not_mem c hc m cap
    have hf := (bulk_send_fresh c cap s m ((lookup_eq_none_iff _ _).2 hnm)).2
    rw [bulkSends, final_cons, step_send, advance_of_le 0 s (Nat.zero_le _), show m + (cnt + 1) = m + 1 + cnt from Nat.add_right_comm m cnt 1]
    obtain ⟨h1, h2, h3, h4⟩ := ih (m + 1) (send c (bulkParams cap) s bulkArea (bulkPhone m)).1
      (by rw [hf]; exact (keysOf_setLRU_fresh cap _ _ _ hnm).trans (by rw [hk, take_cons_take]; rfl)) (by rw [hf, hn])
    rw [hf] at h1 h2 h3 h4 ⊢
    refine ⟨h1, h2, h3, fun j e hl => ?_⟩
    rcases h4 j e hl with h | h
    · exact Or.inl h
    · rcases lookup_setLRU_cases h with ⟨hj, he⟩ | ⟨_, h'⟩
      · rw [bulkKey_inj c hc j m hj, he, hn]
        exact Or.inl rfl
      · exact Or.inr h'

end Nv.C19
