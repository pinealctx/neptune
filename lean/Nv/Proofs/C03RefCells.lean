import Nv.Proofs.C03Get
import Nv.Proofs.C03Cow8
/-!
C03 — refinement of the store model (layer B) by the value model (layer A): the cells of a subtree of the store, and why
a well-formed tree in the store cannot alias. In a node whose in-order list is strictly sorted an item occurs in
exactly one place; hence a store cell with at least one item cannot sit under two different children of a node, nor
under itself. Cells without items (fresh cells, parked cells) cannot sit inside a subtree whose nodes all hold
≥ minItems ≥ 1 items. So the cells an operation rewrites are apart from those it only reads, and `Frame` (cells that
held something and lie outside the operation's subtree are unchanged) is all that has to be threaded through.
-/
namespace Nv.C03

theorem mem_interleave_of_child : ∀ (is : List Item) (cs : List Node) (c : Node) (y : Item),
    cs.length = is.length + 1 → c ∈ cs → y ∈ c.inorder → y ∈ interleave is cs
  | _, [], _, _, h, _, _ => by simp at h
  | [], [d], c, y, _, hc, hy => by simp at hc; subst hc; simpa using hy
  | [], _ :: _ :: _, _, _, h, _, _ => by simp at h
  | i :: is, d :: ds, c, y, h, hc, hy => by
    simp only [interleave_cons_cons, List.mem_append, List.mem_cons]
    rcases List.mem_cons.1 hc with rfl | hc
    · exact Or.inl hy
    · exact Or.inr (Or.inr (mem_interleave_of_child is ds c y (by simpa using h) hc hy))

theorem item_not_in_child : ∀ (is : List Item) (cs : List Node), cs.length = is.length + 1 → Sorted (interleave is cs) →
    ∀ it ∈ is, ∀ c ∈ cs, ∀ y ∈ c.inorder, y.key ≠ it.key
  | [], _, _, _, it, hit, _, _, _, _ => by simp at hit
  | _ :: _, [], h, _, _, _, _, _, _, _ => by simp at h
  | i :: is, d :: ds, h, hs, it, hit, c, hc, y, hy => by
    have hl : ds.length = is.length + 1 := by simpa using h
    simp only [interleave_cons_cons] at hs
    have hs2 := hs.append_right
    rcases List.mem_cons.1 hit with rfl | hit
    · rcases List.mem_cons.1 hc with rfl | hc
      · have := hs.lt_of_append hy List.mem_cons_self; omega
      · have := hs2.head_lt (mem_interleave_of_child is ds c y hl hc hy); omega
    · rcases List.mem_cons.1 hc with rfl | hc
      · have := hs.lt_of_append hy (List.mem_cons_of_mem _ ((items_sublist_inorder is ds).subset hit)); omega
      · exact item_not_in_child is ds hl hs2.tail it hit c hc y hy

theorem children_disjoint : ∀ (is : List Item) (cs : List Node), cs.length = is.length + 1 → Sorted (interleave is cs) →
    ∀ (i j : Nat) (a b : Node), i < j → cs[i]? = some a → cs[j]? = some b → ∀ x ∈ a.inorder, ∀ y ∈ b.inorder, x.key < y.key
  | _, [], h, _, _, _, _, _, _, _, _, _, _, _, _ => by simp at h
  | [], [d], _, _, i, j, a, b, hij, ha, hb, _, _, _, _ => by
    cases j with
    | zero => omega
    | succ j => simp at hb
  | [], _ :: _ :: _, h, _, _, _, _, _, _, _, _, _, _, _, _ => by simp at h
  | it :: is, d :: ds, h, hs, i, j, a, b, hij, ha, hb, x, hx, y, hy => by
    have hl : ds.length = is.length + 1 := by simpa using h
    simp only [interleave_cons_cons] at hs
    cases j with
    | zero => omega
    | succ j =>
      simp only [List.getElem?_cons_succ] at hb
      have hyr : y ∈ interleave is ds := mem_interleave_of_child is ds b y hl (List.mem_of_getElem? hb) hy
      cases i with
      | zero =>
        simp only [List.getElem?_cons_zero, Option.some.injEq] at ha; subst ha
        have h1 := hs.lt_of_append hx List.mem_cons_self
        have h2 := hs.append_right.head_lt hyr
        omega
      | succ i =>
        simp only [List.getElem?_cons_succ] at ha
        exact children_disjoint is ds hl hs.append_right.tail i j a b (by omega) ha hb x hx y hy

end Nv.C03

namespace Nv.C03.Cow

def InSub (H : Heap) : Nat → Nat → Nat → Prop
  | 0, id, x => x = id
  | fuel + 1, id, x => x = id ∨ ∃ c ∈ (H.get id).children, InSub H fuel c x

namespace InSub

theorem self (H : Heap) (fuel id : Nat) : InSub H fuel id id := by
  cases fuel
  · rfl
  · exact Or.inl rfl

theorem child {H : Heap} {fuel id c x : Nat} (hc : c ∈ (H.get id).children) (hx : InSub H fuel c x) :
    InSub H (fuel + 1) id x := Or.inr ⟨c, hc, hx⟩

end InSub

theorem sub_agree (H H' : Heap) : ∀ (fuel id : Nat), (∀ x, InSub H fuel id x → H'.get x = H.get x) →
    absNode H' fuel id = absNode H fuel id ∧ ∀ y, InSub H' fuel id y → InSub H fuel id y := by
  intro fuel
  induction fuel with
  | zero => intro id h; exact ⟨by simp [absNode, h id (InSub.self H 0 id)], fun _ hy => hy⟩
  | succ fuel ih =>
    intro id h
    have hid := h id (InSub.self H _ id)
    have hc := fun c hc => ih c (fun x hx => h x (InSub.child hc hx))
    constructor
    · simp only [absNode, hid]
      congr 1
      exact List.map_congr_left (fun c hcm => (hc c hcm).1)
    · rintro y (rfl | ⟨c, hcm, hy⟩)
      · exact Or.inl rfl
      · rw [hid] at hcm
        exact InSub.child hcm ((hc c hcm).2 y hy)

theorem abs_items (H : Heap) (fuel id : Nat) : (absNode H fuel id).items = (H.get id).items := by
  cases fuel <;> simp [absNode]

theorem abs_children_length (H : Heap) (fuel id : Nat) :
    (absNode H fuel id).children.length = (H.get id).children.length := by
  cases fuel <;> simp [absNode]

theorem abs_succ (H : Heap) (fuel id : Nat) :
    absNode H (fuel + 1) id = .mk (H.get id).items ((H.get id).children.map (absNode H fuel)) := rfl

theorem kids_succ {mn mx : Nat} {H : Heap} {fuel id : Nat} (hk : KidsOk mn mx (fuel + 1) (absNode H (fuel + 1) id)) :
    (H.get id).children.length = (H.get id).items.length + 1 ∧
    ∀ c ∈ (H.get id).children, nodeOk mn mx fuel (absNode H fuel c) = true := by
  rw [abs_succ] at hk
  simp only [KidsOk, children_mk, items_mk, List.length_map] at hk
  exact ⟨hk.1, fun c hc => hk.2 _ (List.mem_map.2 ⟨c, hc, rfl⟩)⟩

theorem sub_items (mn mx : Nat) (H : Heap) : ∀ (fuel c x : Nat), nodeOk mn mx fuel (absNode H fuel c) = true →
    InSub H fuel c x →
    mn ≤ (H.get x).items.length ∧ ∀ it ∈ (H.get x).items, it ∈ (absNode H fuel c).inorder := by
  have root : ∀ (fuel c : Nat), nodeOk mn mx fuel (absNode H fuel c) = true →
      mn ≤ (H.get c).items.length ∧ ∀ it ∈ (H.get c).items, it ∈ (absNode H fuel c).inorder := by
    intro fuel c hok
    have hcok := (nodeOk_iff _ _ _ _).1 hok
    exact ⟨by rw [← abs_items H fuel c]; exact hcok.1,
      fun it hit => mem_items_inorder' _ _ (kids_shape_or _ _ _ _ hcok.2.2) (by rw [abs_items]; exact hit)⟩
  intro fuel
  induction fuel with
  | zero => intro c x hok hx; rw [show x = c from hx]; exact root 0 c hok
  | succ fuel ih =>
    rintro c x hok (rfl | ⟨g, hg, hx⟩)
    · exact root _ _ hok
    · obtain ⟨hl, hkids⟩ := kids_succ ((nodeOk_iff _ _ _ _).1 hok).2.2
      obtain ⟨h1, h2⟩ := ih g x (hkids g hg) hx
      refine ⟨h1, fun it hit => ?_⟩
      rw [abs_succ, inorder_mk]
      exact mem_interleave_of_child _ _ _ it (by simpa using hl) (List.mem_map.2 ⟨g, hg, rfl⟩) (h2 it hit)

theorem ne_empty {H : Heap} {x : Nat} (h : (H.get x).items ≠ []) : H.get x ≠ HNode.empty := fun e => h (by rw [e]; rfl)

theorem sub_nonempty {mn mx : Nat} (hmn : 1 ≤ mn) {H : Heap} {fuel c x : Nat}
    (hok : nodeOk mn mx fuel (absNode H fuel c) = true) (hx : InSub H fuel c x) : (H.get x).items ≠ [] := by
  intro e
  have := (sub_items mn mx H fuel c x hok hx).1
  rw [e] at this; simp at this; omega

theorem empty_not_inside (mn mx : Nat) (hmn : 1 ≤ mn) (H : Heap) (fuel id x : Nat)
    (hk : KidsOk mn mx fuel (absNode H fuel id)) (hx : InSub H fuel id x) (he : (H.get x).items = []) : x = id := by
  cases fuel with
  | zero => exact hx
  | succ fuel =>
    rcases hx with rfl | ⟨c, hc, hx⟩
    · rfl
    · exact absurd he (sub_nonempty hmn ((kids_succ hk).2 c hc) hx)

theorem siblings_disjoint (mn mx : Nat) (hmn : 1 ≤ mn) (H : Heap) (fuel id : Nat)
    (hk : KidsOk mn mx (fuel + 1) (absNode H (fuel + 1) id)) (hs : Sorted (absNode H (fuel + 1) id).inorder)
    (i j : Nat) (ci cj x : Nat) (hij : i ≠ j) (hi : (H.get id).children[i]? = some ci) (hj : (H.get id).children[j]? = some cj)
    (hxi : InSub H fuel ci x) (hxj : InSub H fuel cj x) : False := by
  obtain ⟨hl, hkids⟩ := kids_succ hk
  -- the cell has an item, and that item lies in both children's in-order lists
  have hoki := hkids ci (List.mem_of_getElem? hi)
  obtain ⟨it, hit⟩ := List.exists_mem_of_ne_nil _ (sub_nonempty hmn hoki hxi)
  have h1 := (sub_items mn mx H fuel ci x hoki hxi).2 it hit
  have h2 := (sub_items mn mx H fuel cj x (hkids cj (List.mem_of_getElem? hj)) hxj).2 it hit
  rw [abs_succ, inorder_mk] at hs
  have hl' : ((H.get id).children.map (absNode H fuel)).length = (H.get id).items.length + 1 := by simpa using hl
  have gi : ((H.get id).children.map (absNode H fuel))[i]? = some (absNode H fuel ci) := by simp [hi]
  have gj : ((H.get id).children.map (absNode H fuel))[j]? = some (absNode H fuel cj) := by simp [hj]
  rcases Nat.lt_or_gt_of_ne hij with hlt | hgt
  · have := children_disjoint _ _ hl' hs i j _ _ hlt gi gj it h1 it h2; omega
  · have := children_disjoint _ _ hl' hs j i _ _ hgt gj gi it h2 it h1; omega

theorem no_cycle (mn mx : Nat) (H : Heap) (fuel id c : Nat)
    (hk : KidsOk mn mx (fuel + 1) (absNode H (fuel + 1) id)) (hs : Sorted (absNode H (fuel + 1) id).inorder)
    (hne : (H.get id).items ≠ []) (hc : c ∈ (H.get id).children) (hin : InSub H fuel c id) : False := by
  obtain ⟨hl, hkids⟩ := kids_succ hk
  obtain ⟨it, hit⟩ := List.exists_mem_of_ne_nil _ hne
  rw [abs_succ, inorder_mk] at hs
  exact item_not_in_child _ _ (by simpa using hl) hs it hit _ (List.mem_map.2 ⟨c, hc, rfl⟩) it
    ((sub_items mn mx H fuel c id (hkids c hc) hin).2 it hit) rfl

def Frame (H H' : Heap) (W : Nat → Prop) : Prop := ∀ x, ¬ W x → H.get x ≠ HNode.empty → H'.get x = H.get x

theorem Frame.refl (H : Heap) (W : Nat → Prop) : Frame H H W := fun _ _ _ => rfl

theorem Frame.mono {H H' : Heap} {W W' : Nat → Prop} (h : Frame H H' W) (hw : ∀ x, W x → W' x) : Frame H H' W' :=
  fun x hx hne => h x (fun hwx => hx (hw x hwx)) hne

theorem frame_empty {H H' : Heap} {W : Nat → Prop} (hf : Frame H H' W) (y : Nat) (he : H'.get y = HNode.empty) :
    W y ∨ H.get y = HNode.empty := by
  by_cases hw : W y
  · exact Or.inl hw
  · by_cases hne : H.get y = HNode.empty
    · exact Or.inr hne
    · have := hf y hw hne; rw [this] at he; exact absurd he hne

theorem Frame.trans {H H1 H2 : Heap} {W W1 : Nat → Prop} (h1 : Frame H H1 W) (h2 : Frame H1 H2 W1)
    (hw : ∀ x, W1 x → W x ∨ H.get x = HNode.empty) : Frame H H2 W := by
  intro x hx hne
  have e1 := h1 x hx hne
  have : ¬ W1 x := fun hw1 => (hw x hw1).elim hx hne
  rw [h2 x this (by rw [e1]; exact hne), e1]

theorem abs_frame (mn mx : Nat) (hmn : 1 ≤ mn) {H H' : Heap} {W : Nat → Prop} (hf : Frame H H' W) (fuel c : Nat)
    (hok : nodeOk mn mx fuel (absNode H fuel c) = true) (hw : ∀ x, InSub H fuel c x → ¬ W x) :
    absNode H' fuel c = absNode H fuel c ∧ ∀ y, InSub H' fuel c y → InSub H fuel c y :=
  sub_agree H H' fuel c (fun x hx => hf x (hw x hx) (ne_empty (sub_nonempty hmn hok hx)))

def WFree (H : Heap) : Prop := H.free.Nodup ∧ ∀ id ∈ H.free, id < H.size ∧ H.get id = HNode.empty

theorem tag_ne_empty {H : Heap} {x c : Nat} (ht : H.tag x = some c) : H.get x ≠ HNode.empty := by
  intro e; simp [Heap.tag, e, HNode.empty] at ht

theorem not_free_of_tag {H : Heap} {x c : Nat} (hw : WFree H) (ht : H.tag x = some c) : x ∉ H.free :=
  fun hm => tag_ne_empty ht (hw.2 x hm).2

structure Inner (mn cow : Nat) (H : Heap) (fuel n : Nat) : Prop where
  kids : KidsOk mn (2 * mn + 1) (fuel + 1) (absNode H (fuel + 1) n)
  sorted : Sorted (absNode H (fuel + 1) n).inorder
  own : H.tag n = some cow
  wf : WFree H

namespace Inner
variable {mn cow : Nat} {H : Heap} {fuel n : Nat}

theorem len (h : Inner mn cow H fuel n) : (H.get n).children.length = (H.get n).items.length + 1 := (kids_succ h.kids).1

theorem childOk (h : Inner mn cow H fuel n) {c : Nat} (hc : c ∈ (H.get n).children) :
    nodeOk mn (2 * mn + 1) fuel (absNode H fuel c) = true := (kids_succ h.kids).2 c hc

theorem childSorted (h : Inner mn cow H fuel n) {c : Nat} (hc : c ∈ (H.get n).children) :
    Sorted (absNode H fuel c).inorder := by
  have hs := h.sorted; rw [abs_succ, inorder_mk] at hs
  exact sorted_child _ _ hs _ (List.mem_map.2 ⟨c, hc, rfl⟩) (by simpa using h.len)

theorem ne_empty' (h : Inner mn cow H fuel n) : H.get n ≠ HNode.empty := tag_ne_empty h.own

theorem notInChild (hmn : 1 ≤ mn) (h : Inner mn cow H fuel n) {c : Nat} (hc : c ∈ (H.get n).children) : ¬ InSub H fuel c n :=
  fun hin => no_cycle mn _ H fuel n c h.kids h.sorted (sub_nonempty hmn (h.childOk hc) hin) hc hin

theorem child_frame (hmn : 1 ≤ mn) (h : Inner mn cow H fuel n) {H' : Heap} (hf : Frame H H' (fun x => x = n))
    {c : Nat} (hc : c ∈ (H.get n).children) :
    absNode H' fuel c = absNode H fuel c ∧ ∀ y, InSub H' fuel c y → InSub H fuel c y :=
  abs_frame mn _ hmn hf fuel c (h.childOk hc) (fun _ hx e => h.notInChild hmn hc (e ▸ hx))

end Inner

structure Sub (mn cow : Nat) (H : Heap) (fuel n : Nat) : Prop where
  kids : KidsOk mn (2 * mn + 1) fuel (absNode H fuel n)
  sorted : Sorted (absNode H fuel n).inorder
  own : H.tag n = some cow
  wf : WFree H
  nonempty : (H.get n).items ≠ [] ∨ fuel = 0

namespace Sub
variable {mn cow : Nat} {H : Heap} {fuel n : Nat}

theorem inner (h : Sub mn cow H (fuel + 1) n) : Inner mn cow H fuel n := ⟨h.kids, h.sorted, h.own, h.wf⟩

theorem lt (h : Sub mn cow H fuel n) : n < H.size := tag_some_lt H n cow h.own

theorem leaf (h : Sub mn cow H 0 n) : (H.get n).children = [] := by
  have := h.kids
  simp only [absNode, KidsOk, children_mk] at this
  simpa using this

end Sub

namespace Inner

theorem childSub {mn cow : Nat} (hmn : 1 ≤ mn) {H H1 : Heap} {fuel n c ch : Nat} (h : Inner mn cow H fuel n)
    (hc : c ∈ (H.get n).children) (habs : absNode H1 fuel ch = absNode H fuel c) (hown : H1.tag ch = some cow)
    (hwf : WFree H1) : Sub mn cow H1 fuel ch := by
  refine ⟨by rw [habs]; exact ((nodeOk_iff _ _ _ _).1 (h.childOk hc)).2.2, by rw [habs]; exact h.childSorted hc, hown,
    hwf, Or.inl ?_⟩
  rw [← abs_items H1 fuel ch, habs, abs_items]
  exact sub_nonempty hmn (h.childOk hc) (InSub.self H fuel c)

end Inner

theorem nodup_bound : ∀ (N : Nat) (l : List Nat), l.Nodup → (∀ a ∈ l, a < N) → l.length ≤ N := by
  intro N
  induction N with
  | zero =>
    intro l _ h
    cases l with
    | nil => simp
    | cons a _ => exact absurd (h a (by simp)) (Nat.not_lt_zero _)
  | succ N ih =>
    intro l hn h
    have h1 := ih (l.erase N) (hn.erase N) (by
      intro a ha
      have hne : a ≠ N := fun e => by rw [e] at ha; exact (hn.mem_erase_iff.1 ha).1 rfl
      have := h a (List.mem_of_mem_erase ha); omega)
    by_cases hm : N ∈ l
    · rw [List.length_erase_of_mem hm] at h1; omega
    · rw [List.erase_of_not_mem hm] at h1; omega

def spine (H : Heap) : Nat → Nat → List Nat
  | 0, n => [n]
  | f + 1, n => n :: spine H f ((H.get n).children.headD n)

theorem spine_length (H : Heap) : ∀ (f n : Nat), (spine H f n).length = f + 1 := by
  intro f
  induction f with
  | zero => intro n; rfl
  | succ f ih => intro n; simp [spine, ih]

theorem spine_facts (mn mx : Nat) (hmn : 1 ≤ mn) (H : Heap) : ∀ (f n : Nat), KidsOk mn mx f (absNode H f n) →
    Sorted (absNode H f n).inorder → ((H.get n).items ≠ [] ∨ f = 0) →
    (∀ F, f ≤ F → heightB H F n = f) ∧ (spine H f n).Nodup ∧ (∀ y ∈ spine H f n, InSub H f n y) := by
  intro f
  induction f with
  | zero =>
    intro n hk _ _
    refine ⟨?_, by simp [spine], by intro y hy; simpa [spine, InSub] using hy⟩
    intro F _
    have hleaf : (H.get n).children = [] := by simpa [KidsOk, absNode] using hk
    cases F with
    | zero => rfl
    | succ F => simp [heightB, hleaf]
  | succ f ih =>
    intro n hk hs hne
    have hne : (H.get n).items ≠ [] := by rcases hne with e | e; exact e; omega
    obtain ⟨hl, hkids⟩ := kids_succ hk
    cases hcs : (H.get n).children with
    | nil => rw [hcs] at hl; simp at hl
    | cons c rest =>
      have hcm : c ∈ (H.get n).children := by rw [hcs]; simp
      have hcok := (nodeOk_iff _ _ _ _).1 (hkids c hcm)
      have hsc : Sorted (absNode H f c).inorder := by
        have hs' := hs; rw [abs_succ, inorder_mk] at hs'
        exact sorted_child _ _ hs' _ (List.mem_map.2 ⟨c, hcm, rfl⟩) (by simpa using hl)
      obtain ⟨i1, i2, i3⟩ := ih c hcok.2.2 hsc (Or.inl (sub_nonempty hmn (hkids c hcm) (InSub.self H f c)))
      refine ⟨?_, ?_, ?_⟩
      · intro F hF
        cases F with
        | zero => omega
        | succ F => simp only [heightB, hcs]; rw [i1 F (by omega)]
      · simp only [spine, hcs, List.headD_cons]
        exact List.nodup_cons.2 ⟨fun hm => no_cycle mn mx H f n c hk hs hne hcm (i3 n hm), i2⟩
      · intro y hy
        simp only [spine, hcs, List.headD_cons, List.mem_cons] at hy
        rcases hy with e | hy
        · exact e ▸ InSub.self H (f + 1) n
        · exact InSub.child hcm (i3 y hy)

/-- the store holds at least `height + 1` cells, so `heightB` with the store size as fuel is the height -/
theorem heightB_ge (mn mx : Nat) (hmn : 1 ≤ mn) (H : Heap) (f n : Nat) (hk : KidsOk mn mx f (absNode H f n))
    (hs : Sorted (absNode H f n).inorder) (hne : (H.get n).items ≠ [] ∨ f = 0) (hlt : n < H.size)
    (F : Nat) (hF : H.size ≤ F) : heightB H F n = f := by
  obtain ⟨i1, i2, i3⟩ := spine_facts mn mx hmn H f n hk hs hne
  apply i1
  have := nodup_bound H.size (spine H f n) i2 (by
    intro y hy
    by_cases e : y = n
    · exact e ▸ hlt
    · by_cases hl : y < H.size
      · exact hl
      · have hg : (H.get y).items = [] := by rw [show H.get y = HNode.empty from get_ge _ _ (by simpa [Heap.size] using hl)]; rfl
        exact absurd (empty_not_inside mn mx hmn H f n y hk (i3 y hy) hg) e)
  rw [spine_length] at this
  omega

theorem heightB_eq (mn mx : Nat) (hmn : 1 ≤ mn) (H : Heap) (f n : Nat) (hk : KidsOk mn mx f (absNode H f n))
    (hs : Sorted (absNode H f n).inorder) (hne : (H.get n).items ≠ [] ∨ f = 0) (hlt : n < H.size) :
    heightB H H.size n = f := heightB_ge mn mx hmn H f n hk hs hne hlt H.size (Nat.le_refl _)

theorem inSub_reach (H : Heap) : ∀ (f n y : Nat), InSub H f n y → Reach H n y := by
  intro f
  induction f with
  | zero => intro n y h; rw [show y = n from h]; exact Reach.refl n
  | succ f ih =>
    rintro n y (e | ⟨c, hc, h⟩)
    · rw [e]; exact Reach.refl n
    · exact Reach.head hc (ih c y h)

theorem reach_inSub (mn mx : Nat) (H : Heap) : ∀ (f n y : Nat), KidsOk mn mx f (absNode H f n) → Reach H n y →
    InSub H f n y := by
  intro f
  induction f with
  | zero =>
    intro n y hk h
    have hleaf : (H.get n).children = [] := by simpa [KidsOk, absNode] using hk
    rcases h.cases_head with e | ⟨c, hc, _⟩
    · exact e
    · rw [hleaf] at hc; simp at hc
  | succ f ih =>
    intro n y hk h
    rcases h.cases_head with e | ⟨c, hc, h'⟩
    · exact Or.inl e
    · exact InSub.child hc (ih c y ((nodeOk_iff _ _ _ _).1 ((kids_succ hk).2 c hc)).2.2 h')

end Nv.C03.Cow
