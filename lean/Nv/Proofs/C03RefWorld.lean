import Nv.Proofs.C03RefRemove
/-!
C03 — refinement B → A for every write, and programs of clones and writes over any number of handles sharing one store
and one free list of ANY capacity. The invariant `World.WR`: every handle denotes a well-formed tree; the cells it
reaches exist, are not parked, and carry no OTHER handle's tag; parked cells hold nothing. Every write keeps it, makes
the writer's handle denote the layer-A result, and leaves every other handle's tree as it was.
-/
namespace Nv.C03.Cow

def PW {α : Type} (m : M α) : Prop := ∀ H, WFree H → WFree (m H).2

namespace PW

theorem pure {α : Type} (a : α) : PW (Pure.pure a : M α) := fun _ h => h
theorem bind {α β : Type} {m : M α} {f : α → M β} (hm : PW m) (hf : ∀ a, PW (f a)) : PW (m >>= f) :=
  fun H h => hf _ _ (hm H h)
theorem ite {α : Type} {c : Prop} [Decidable c] {m1 m2 : M α} (h1 : PW m1) (h2 : PW m2) :
    PW (if c then m1 else m2) := by
  split
  · exact h1
  · exact h2
theorem read {α : Type} (f : Heap → α) : PW (fun H => (f H, H) : M α) := fun _ h => h
theorem rd (id : Nat) : PW (Cow.rd id) := fun _ h => h

end PW

theorem PW.freeNode (cow id : Nat) : PW (Cow.freeNode cow id) := fun H hw => by
  obtain ⟨_, e, _, _, h⟩ := freeNode_spec cow id H hw
  exact e ▸ h

theorem PW.freeNodeT (cow id : Nat) : PW (Cow.freeNodeT cow id) := by
  intro H hw
  have e : ((Cow.freeNodeT cow id) H).2 = ((Cow.freeNode cow id) H).2 := by
    unfold Cow.freeNodeT Cow.freeNode
    split
    · split <;> rfl
    · rfl
  rw [e]; exact PW.freeNode cow id H hw

theorem pw_foldlM_reset (cow fuel : Nat) (ih : ∀ id, PW (resetB cow fuel id)) :
    ∀ (l : List Nat) (acc : Bool),
      PW (l.foldlM (fun (acc : Bool) c => if acc then resetB cow fuel c else (Pure.pure false : M Bool)) acc)
  | [], acc => by simp only [List.foldlM_nil]; exact PW.pure _
  | c :: l, acc => by
    simp only [List.foldlM_cons]
    exact PW.bind (PW.ite (ih c) (PW.pure _)) (fun acc' => pw_foldlM_reset cow fuel ih l acc')

theorem PW.resetB (cow : Nat) : ∀ (fuel id : Nat), PW (resetB cow fuel id) := by
  intro fuel
  induction fuel with
  | zero =>
    intro id
    unfold Cow.resetB
    exact PW.bind (PW.freeNodeT _ _) (fun _ => PW.pure _)
  | succ fuel ih =>
    intro id
    unfold Cow.resetB
    apply PW.bind (PW.rd _); intro nd
    apply PW.bind (pw_foldlM_reset cow fuel ih _ _); intro go
    exact PW.ite (PW.bind (PW.freeNodeT _ _) (fun _ => PW.pure _)) (PW.pure _)

theorem PW.clearB (t : HTree) (add : Bool) : PW (clearB t add) := by
  unfold Cow.clearB
  cases t.root with
  | none => simp only []; exact PW.pure _
  | some r =>
    simp only []
    apply PW.bind (PW.read _); intro h
    exact PW.bind (PW.ite (PW.resetB _ _ _) (PW.pure _)) (fun _ => PW.pure _)

theorem clearB_result (t : HTree) (add : Bool) (H : Heap) :
    ((clearB t add) H).1 = ({ t with root := none, length := 0 }, none) := by
  unfold Cow.clearB
  cases t.root <;> rfl

/-- **store → value refinement** of one write through one handle: the handle afterwards denotes what the layer-A
    operation makes of the tree it denoted before; the operation returns the same item; the handle stays well-formed -/
theorem write_refines (t : HTree) (H : Heap) (h : Nat) (w : TreeWF t H h) (op : WOp) :
    ∃ h', WriteOut t H h ((applyW t op) H) (applyA (t.absAt H h) op) h' := by
  cases op with
  | insert x => exact replaceOrInsertB_refines t H x h w
  | remove typ => exact deleteItemB_refines t H typ h w
  | clear add =>
    have hres : ((applyW t (.clear add)) H).1 = ({ t with root := none, length := 0 }, none) := clearB_result t add H
    refine ⟨0, by rw [hres]; rfl, by rw [hres]; rfl, ⟨?_, ?_, PW.clearB t add H w.wf⟩, ?_⟩
    · rw [hres]
      have := w.degree
      simp [HTree.absAt, Tree.ok, this]
    · intro r hr; rw [hres] at hr; cases hr
    · intro r hr; rw [hres] at hr; cases hr

structure World.WR (w : World) : Prop where
  good : w.Good
  wf : WFree w.H
  distinct : ∀ (i j : Nat) (a b : HTree), w.hs[i]? = some a → w.hs[j]? = some b → i ≠ j → a.cow ≠ b.cow
  trees : ∀ (j : Nat) (u : HTree), w.hs[j]? = some u → ∃ h, TreeWF u w.H h
  own : ∀ (j : Nat) (u : HTree), w.hs[j]? = some u → ∀ r, u.root = some r → ∀ id, Reach w.H r id →
    id < w.H.size ∧ id ∉ w.H.free ∧ ∀ cc, w.H.tag id = some cc → IsCur w cc → cc = u.cow

/-- insert and clear: the writes `World.WR.run_refined` is restricted to (`World.WR.run` has no such restriction) -/
def WOp.refined : WOp → Prop
  | .insert _ => True
  | .clear _ => True
  | .remove _ => False

def POp.refined : POp → Prop
  | .write _ op => op.refined
  | .clone _ => True

namespace World.WR

theorem sep {w : World} (h : w.WR) {i j : Nat} {t u : HTree} (hi : w.hs[i]? = some t) (hj : w.hs[j]? = some u)
    (hij : j ≠ i) {r : Nat} (hr : u.root = some r) : Sep w.H t.cow r := by
  intro id hid
  obtain ⟨h1, h2, h3⟩ := h.own j u hj r hr id hid
  exact ⟨h1, fun htag => h.distinct i j t u hi hj (fun e => hij e.symm) (h3 t.cow htag ⟨i, t, hi, rfl⟩), h2⟩

theorem write {w : World} (h : w.WR) (i : Nat) (op : WOp) (t : HTree) (hi : w.hs[i]? = some t) :
    (w.step (.write i op)).WR ∧
    (∃ hh h', TreeWF t w.H hh ∧
      (w.step (.write i op)).hs[i]? = some ((applyW t op) w.H).1.1 ∧
      ((applyW t op) w.H).1.1.absAt (w.step (.write i op)).H h' = (applyA (t.absAt w.H hh) op).1 ∧
      ((applyW t op) w.H).1.2 = (applyA (t.absAt w.H hh) op).2) ∧
    ∀ (j : Nat) (u : HTree), j ≠ i → w.hs[j]? = some u →
      (w.step (.write i op)).hs[j]? = some u ∧
      ∀ r, u.root = some r → ∀ fuel,
        absNode (w.step (.write i op)).H fuel r = absNode w.H fuel r ∧
        heightB (w.step (.write i op)).H fuel r = heightB w.H fuel r := by
  have hH : (w.step (.write i op)).H = ((applyW t op) w.H).2 := by rw [World.step_write op hi]
  have hhs : (w.step (.write i op)).hs = w.hs.set i ((applyW t op) w.H).1.1 := by rw [World.step_write op hi]
  obtain ⟨hh, wt⟩ := h.trees i t hi
  obtain ⟨h', o⟩ := write_refines t w.H hh wt op
  have hT := o.wf
  have hcur : ∀ cc, IsCur (w.step (.write i op)) cc → IsCur w cc := by
    rintro cc ⟨j, u, hj, hu⟩
    obtain ⟨v, hv, e⟩ := World.write_cow op hi hj
    exact ⟨j, v, hv, e.trans hu⟩
  -- what another handle reads is untouched
  have hiso := fun j u r (hji : j ≠ i) (hj : w.hs[j]? = some u) (hr : u.root = some r) =>
    write_isolated t op w.H r (h.sep hi hj hji hr)
  rw [hH]
  refine ⟨⟨World.good_step w _ h.good, by rw [hH]; exact hT.wf, fun a b x y ha hb hab => ?_, fun j u hj => ?_,
    fun j u hj r hr id hid => ?_⟩,
    ⟨hh, h', wt, by rw [hhs, List.getElem?_set_self (List.getElem?_eq_some_iff.1 hi).1], o.abs, o.ret⟩,
    fun j u hji hj => ⟨by rw [hhs, List.getElem?_set_ne (fun e => hji e.symm)]; exact hj,
      fun r hr => (hiso j u r hji hj hr).1⟩⟩
  · obtain ⟨x', hx', ex⟩ := World.write_cow op hi ha
    obtain ⟨y', hy', ey⟩ := World.write_cow op hi hb
    rw [← ex, ← ey]
    exact h.distinct a b x' y' hx' hy' hab
  · rw [hH]
    rcases World.write_src op hi hj with ⟨hji, hj'⟩ | ⟨rfl, rfl⟩
    · obtain ⟨hu, wu⟩ := h.trees j u hj'
      refine ⟨hu, ⟨?_, fun r hr => ?_, hT.wf⟩⟩
      · have : u.absAt ((applyW t op) w.H).2 hu = u.absAt w.H hu := by
          unfold HTree.absAt
          cases hr : u.root with
          | none => rfl
          | some r => simp only [Option.map]; rw [((hiso j u r hji hj' hr).1 hu).1]
        rw [this]; exact wu.ok
      · rw [((hiso j u r hji hj' hr).1 hu).1]
        exact ⟨(wu.height r hr).1, Nat.lt_of_lt_of_le (wu.height r hr).2.1 (applyW_inv t op w.H).size,
          ((hiso j u r hji hj' hr).2 r (Reach.refl r)).2.2⟩
    · exact ⟨h', hT⟩
  · rw [hH] at hid ⊢
    rcases World.write_src op hi hj with ⟨hji, hj'⟩ | ⟨rfl, rfl⟩
    · -- another handle: nothing it reaches was touched
      have hsep := h.sep hi hj' hji hr
      have hag : ∀ id, Reach w.H r id → ((applyW t op) w.H).2.get id = w.H.get id :=
        fun id hid => frame_write t op w.H id (hsep id hid).1 (hsep id hid).2.1 (hsep id hid).2.2
      have hold := reach_agree w.H _ r hag id hid
      have hsep' := (hiso j u r hji hj' hr).2 id hid
      refine ⟨hsep'.1, hsep'.2.2, fun cc htag hc => ?_⟩
      rw [Heap.tag, hag id hold] at htag
      exact (h.own j u hj' r hr id hold).2.2 cc htag (hcur cc hc)
    · -- the writer: a cell of its new tree other than the root holds an item; it was in its old tree or held nothing
      have hrw := hT.rootWF hr
      have hin := reach_inSub _ _ _ h' r id hrw.kids hid
      have hidne : id ≠ r → ((applyW t op) w.H).2.get id ≠ HNode.empty := fun e e2 =>
        e (empty_not_inside _ _ (HTree.bounds _ hT.degree).1 _ h' r id hrw.kids hin (by rw [e2]; rfl))
      refine ⟨?_, ?_, fun cc htag hc => ?_⟩
      · by_cases e : id = r
        · rw [e]; exact (hT.height r hr).2.1
        · exact Nat.lt_of_not_le (fun hl => hidne e (get_ge _ _ hl))
      · by_cases e : id = r
        · rw [e]; exact (hT.height r hr).2.2
        · exact fun hm => hidne e (hT.wf.2 id hm).2
      · rw [applyW_cow]
        rcases (applyW_inv t op w.H).tagF id cc htag with h0 | h0
        · rcases o.subs r hr id hin with ⟨r0, hr0, hin0⟩ | e
          · exact (h.own j t hi r0 hr0 id (inSub_reach _ _ _ _ hin0)).2.2 cc h0 (hcur cc hc)
          · exact absurd e (tag_ne_empty h0)
        · exact h0

theorem clone_fields {w : World} {i : Nat} {t : HTree} (hi : w.hs[i]? = some t) {j : Nat} {u : HTree}
    (hj : (w.step (.clone i)).hs[j]? = some u) :
    (j ≠ i ∧ w.hs[j]? = some u) ∨ (u.root = t.root ∧ u.degree = t.degree ∧ u.length = t.length) := by
  rw [World.step_clone hi] at hj
  rcases get_snoc_cases hj with ⟨_, hj'⟩ | ⟨_, rfl⟩
  · rcases get_set_cases hj' with ⟨_, rfl, _⟩ | h
    · exact Or.inr ⟨rfl, rfl, rfl⟩
    · exact Or.inl h
  · exact Or.inr ⟨rfl, rfl, rfl⟩

theorem clone {w : World} (h : w.WR) (i : Nat) : (w.step (.clone i)).WR := by
  cases hi : w.hs[i]? with
  | none => rw [World.step_clone_none hi]; exact h
  | some t =>
    have hlt : ∀ (j : Nat) (u : HTree), w.hs[j]? = some u → u.cow < w.next :=
      fun j u hj => h.good.2 u (List.mem_of_getElem? hj)
    refine ⟨World.good_step w _ h.good, by rw [World.clone_H]; exact h.wf, fun a b x y ha hb hab => ?_,
      fun j u hj => ?_, fun j u hj r hr id hid => ?_⟩
    · -- old tags are below the counter, and the places of the two copies tell their tags
      rcases World.clone_src hi ha with ⟨_, ha'⟩ | ⟨_, hx, hxp⟩
      · rcases World.clone_src hi hb with ⟨_, hb'⟩ | ⟨_, hy, _⟩
        · exact h.distinct a b x y ha' hb' hab
        · exact Nat.ne_of_lt (Nat.lt_of_lt_of_le (hlt a x ha') hy)
      · rcases World.clone_src hi hb with ⟨_, hb'⟩ | ⟨_, _, hyp⟩
        · exact Nat.ne_of_gt (Nat.lt_of_lt_of_le (hlt b y hb') hx)
        · omega
    · -- a copy denotes what its source denotes (the tag plays no role)
      rw [World.clone_H]
      rcases clone_fields hi hj with ⟨_, hj'⟩ | ⟨hur, hud, hul⟩
      · exact h.trees j u hj'
      · obtain ⟨ht, wt⟩ := h.trees i t hi
        refine ⟨ht, ⟨?_, fun r hr => wt.height r (hur ▸ hr), wt.wf⟩⟩
        have : u.absAt w.H ht = t.absAt w.H ht := by unfold HTree.absAt; rw [hur, hud, hul]
        rw [this]; exact wt.ok
    · rw [World.clone_H] at hid ⊢
      -- a tag found in the store is below the counter: if it is current now, it was so in a handle other than `i`
      have hcur : ∀ cc, w.H.tag id = some cc → IsCur (w.step (.clone i)) cc →
          ∃ (k : Nat) (v : HTree), k ≠ i ∧ w.hs[k]? = some v ∧ v.cow = cc := by
        rintro cc htag ⟨k, v, hk, hv⟩
        rcases World.clone_src hi hk with ⟨hki, hk'⟩ | ⟨_, hvc, _⟩
        · exact ⟨k, v, hki, hk', hv⟩
        · exact absurd (h.good.1 id cc htag) (Nat.not_lt.2 (hv ▸ hvc))
      rcases World.clone_src hi hj with ⟨_, hj'⟩ | ⟨hur, _⟩
      · obtain ⟨h1, h2, h3⟩ := h.own j u hj' r hr id hid
        refine ⟨h1, h2, fun cc htag hc => ?_⟩
        obtain ⟨k, v, _, hk, hv⟩ := hcur cc htag hc
        exact h3 cc htag ⟨k, v, hk, hv⟩
      · -- a copy of handle `i`, whose old tag is no longer current
        obtain ⟨h1, h2, h3⟩ := h.own i t hi r (hur ▸ hr) id hid
        refine ⟨h1, h2, fun cc htag hc => ?_⟩
        obtain ⟨k, v, hki, hk, hv⟩ := hcur cc htag hc
        exact absurd (hv.trans (h3 cc htag ⟨k, v, hk, hv⟩)) (h.distinct k i v t hk hi hki)

theorem init (degree cap : Nat) (hd : 2 ≤ degree) : (World.init degree cap).WR := by
  refine ⟨World.good_run degree cap [], ⟨List.nodup_nil, fun id hid => absurd hid List.not_mem_nil⟩,
    fun i j a b ha hb hab => ?_, fun j u hj => ?_, fun j u hj r hr => ?_⟩
  · exact absurd ((World.init_handle ha).1.trans (World.init_handle hb).1.symm) hab
  · obtain rfl := (World.init_handle hj).1
    cases hj
    exact ⟨0, ⟨by simp [HTree.absAt, Tree.ok, hd], (fun r hr => by cases hr),
      ⟨List.nodup_nil, fun id hid => absurd hid List.not_mem_nil⟩⟩⟩
  · rw [(World.init_handle hj).2] at hr
    cases hr

theorem step {w : World} (h : w.WR) (op : POp) : (w.step op).WR := by
  cases op with
  | write i wop =>
    cases hi : w.hs[i]? with
    | none => rw [World.step_write_none wop hi]; exact h
    | some t => exact (h.write i wop t hi).1
  | clone i => exact h.clone i

theorem run (degree cap : Nat) (hd : 2 ≤ degree) (ops : List POp) :
    (ops.foldl World.step (World.init degree cap)).WR :=
  World.run_induct (fun _ op h => h.step op) ops _ (init degree cap hd)

end World.WR

theorem World.WR.run_refined (degree cap : Nat) (hd : 2 ≤ degree) (ops : List POp) (hops : ∀ op ∈ ops, op.refined) :
    (ops.foldl World.step (World.init degree cap)).WR := World.WR.run degree cap hd ops

end Nv.C03.Cow
