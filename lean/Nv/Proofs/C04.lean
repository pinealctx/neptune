import Nv.Spec.C04
/-!
C04 — list arithmetic (`total`, `find?`, `removeKey`), the ideal trim and its hot-first reading `takeFit`,
the eviction loop against the ideal trim, the invariant, and what the capacity check does to a state
between an update and the check.
-/
namespace Nv.C04

/-! ### `int64` arithmetic: amounts in `[0, 2^62)` are added and subtracted without wrap-around -/

theorem wrap64_id (x : Int) (h1 : -(2 ^ 63) ≤ x) (h2 : x < 2 ^ 63) : wrap64 x = x :=
  Int.bmod_eq_of_le h1 h2

theorem wrap64_add {a b : Int} (ha : 0 ≤ a ∧ a < 2 ^ 62) (hb : 0 ≤ b ∧ b < 2 ^ 62) : wrap64 (a + b) = a + b :=
  wrap64_id _ (Int.le_trans (by decide) (Int.add_nonneg ha.1 hb.1))
    (Int.lt_of_lt_of_le (Int.add_lt_add ha.2 hb.2) (by decide))

theorem wrap64_sub {a b : Int} (ha : 0 ≤ a ∧ a < 2 ^ 62) (hb : 0 ≤ b ∧ b < 2 ^ 62) : wrap64 (a - b) = a - b :=
  wrap64_id _ (Int.le_trans (by decide) (Int.sub_le_sub ha.1 (Int.le_of_lt hb.2)))
    (Int.lt_trans (Int.lt_of_le_of_lt (Int.sub_le_self a hb.1) ha.2) (by decide))

theorem szOf_range (kd : Kind) {sz : Int} (h : 0 ≤ sz ∧ sz < 2 ^ 62) : 0 ≤ szOf kd sz ∧ szOf kd sz < 2 ^ 62 := by
  cases kd
  · exact h
  · exact ⟨show (0 : Int) ≤ 1 by decide, show (1 : Int) < 2 ^ 62 by decide⟩

@[simp] theorem total_nil : total [] = 0 := rfl
@[simp] theorem total_cons (e : Entry) (l : List Entry) : total (e :: l) = e.size + total l := rfl

theorem total_append (a b : List Entry) : total (a ++ b) = total a + total b := by
  simp [total]

theorem total_reverse (l : List Entry) : total l.reverse = total l := by
  simp [total, List.sum_reverse]

theorem total_sublist_le {l' l : List Entry} (hs : l'.Sublist l) (h : ∀ e ∈ l, 0 ≤ e.size) :
    total l' ≤ total l := by
  induction hs with
  | slnil => exact Int.le_refl _
  | cons a _ ih =>
    exact Int.le_trans (ih (fun x hx => h x (List.mem_cons_of_mem _ hx)))
      (Int.le_add_of_nonneg_left (h a List.mem_cons_self))
  | cons_cons a _ ih => exact Int.add_le_add_left (ih (fun x hx => h x (List.mem_cons_of_mem _ hx))) _

theorem total_nonneg (l : List Entry) (h : ∀ e ∈ l, 0 ≤ e.size) : 0 ≤ total l := by
  have := total_sublist_le (List.nil_sublist l) h
  exact this

theorem total_unit (l : List Entry) (h : ∀ e ∈ l, e.size = 1) : total l = l.length := by
  induction l with
  | nil => rfl
  | cons e l ih =>
    rw [total_cons, h e List.mem_cons_self, ih (fun x hx => h x (List.mem_cons_of_mem _ hx)), List.length_cons,
      Int.natCast_succ, Int.add_comm]

theorem find_split {k : Nat} {l : List Entry} {e : Entry} (h : find? k l = some e) :
    ∃ a b, l = a ++ e :: b ∧ e.key = k ∧ removeKey k l = a ++ b := by
  induction l with
  | nil => cases h
  | cons x l ih =>
    by_cases hx : x.key = k
    · rw [find?, if_pos hx] at h
      cases h
      exact ⟨[], l, rfl, hx, by rw [removeKey, if_pos hx]; rfl⟩
    · rw [find?, if_neg hx] at h
      obtain ⟨a, b, rfl, hk, hr⟩ := ih h
      exact ⟨x :: a, b, rfl, hk, by rw [removeKey, if_neg hx, hr]; rfl⟩

theorem find_some {k : Nat} {l : List Entry} {e : Entry} (h : find? k l = some e) : e ∈ l ∧ e.key = k := by
  obtain ⟨a, b, rfl, hk, -⟩ := find_split h
  exact ⟨List.mem_append_right a List.mem_cons_self, hk⟩

theorem total_removeKey {k : Nat} {l : List Entry} {e : Entry} (h : find? k l = some e) :
    total (removeKey k l) = total l - e.size := by
  obtain ⟨a, b, rfl, -, hr⟩ := find_split h
  rw [hr, total_append, total_append, total_cons]
  omega

theorem length_removeKey {k : Nat} {l : List Entry} {e : Entry} (h : find? k l = some e) :
    (removeKey k l).length + 1 = l.length := by
  obtain ⟨a, b, rfl, -, hr⟩ := find_split h
  rw [hr, List.length_append, List.length_append]
  rfl

theorem find_none {k : Nat} {l : List Entry} (h : find? k l = none) : k ∉ l.map (·.key) ∧ removeKey k l = l := by
  induction l with
  | nil => exact ⟨List.not_mem_nil, rfl⟩
  | cons x l ih =>
    by_cases hx : x.key = k
    · rw [find?, if_pos hx] at h
      cases h
    · rw [find?, if_neg hx] at h
      rw [removeKey, if_neg hx, (ih h).2, List.map_cons, List.mem_cons, not_or]
      exact ⟨⟨fun hk => hx hk.symm, (ih h).1⟩, rfl⟩

theorem removeKey_sublist (k : Nat) (l : List Entry) : (removeKey k l).Sublist l := by
  induction l with
  | nil => exact List.Sublist.slnil
  | cons x l ih =>
    rw [removeKey]
    split
    · exact List.sublist_cons_self x l
    · exact ih.cons_cons x

theorem key_not_mem_removeKey (k : Nat) (l : List Entry) (hnd : (l.map (·.key)).Nodup) :
    k ∉ (removeKey k l).map (·.key) := by
  induction l with
  | nil => simp [removeKey]
  | cons x l ih =>
    simp only [List.map_cons, List.nodup_cons] at hnd
    simp only [removeKey]
    split
    · rename_i hx; rw [← hx]; exact hnd.1
    · rename_i hx
      simp only [List.map_cons, List.mem_cons, not_or]
      exact ⟨fun hk => hx hk.symm, ih hnd.2⟩

theorem trimCold_over {cap : Int} {e : Entry} {l : List Entry} (h : total (e :: l) > cap) :
    trimCold cap (e :: l) = ((trimCold cap l).1, e :: (trimCold cap l).2) := by
  rw [trimCold, if_pos h]

theorem trimCold_id (cap : Int) (l : List Entry) (h : total l ≤ cap) : trimCold cap l = (l, []) := by
  cases l with
  | nil => rfl
  | cons e l => rw [trimCold, if_neg (Int.not_lt.2 h)]

theorem trimCold_split (cap : Int) (l : List Entry) : (trimCold cap l).2 ++ (trimCold cap l).1 = l := by
  induction l with
  | nil => rfl
  | cons e l ih =>
    by_cases h : total (e :: l) > cap
    · rw [trimCold_over h, List.cons_append, ih]
    · rw [trimCold_id cap _ (Int.not_lt.1 h)]; rfl

theorem trimCold_fits (cap : Int) (hcap : 0 ≤ cap) (l : List Entry) : total (trimCold cap l).1 ≤ cap := by
  induction l with
  | nil => exact hcap
  | cons e l ih =>
    by_cases h : total (e :: l) > cap
    · rw [trimCold_over h]; exact ih
    · rw [trimCold_id cap _ (Int.not_lt.1 h)]; exact Int.not_lt.1 h

/-- maximality: the last entry evicted does not fit on top of what is kept -/
theorem trimCold_maximal (cap : Int) (l : List Entry) (hnn : ∀ e ∈ l, 0 ≤ e.size) :
    ∀ pre e, (trimCold cap l).2 = pre ++ [e] → total (e :: (trimCold cap l).1) > cap := by
  clear hnn
  induction l with
  | nil => intro pre e h; simp [trimCold] at h
  | cons x l ih =>
    intro pre e h
    by_cases hgt : total (x :: l) > cap
    · rw [trimCold_over hgt] at h ⊢
      cases pre with
      | nil =>
        -- `x` is the only entry evicted: all of `l` is kept
        obtain ⟨rfl, h2⟩ := List.cons.inj h
        have hk := trimCold_split cap l
        rw [h2] at hk
        rw [show (trimCold cap l).1 = l from hk]
        exact hgt
      | cons p ps => exact ih ps e (List.cons.inj h).2
    · rw [trimCold_id cap _ (Int.not_lt.1 hgt)] at h
      simp at h

/-! ### the hot-first reading: keep entries from the most recent end while they cumulatively fit

For sizes ≥ 0 the kept entries of the trim are the longest prefix of the recency order whose total is within the
capacity. -/

theorem takeFit_all (cap : Int) (l : List Entry) (hnn : ∀ e ∈ l, 0 ≤ e.size) (h : total l ≤ cap) :
    takeFit cap l = l := by
  induction l generalizing cap with
  | nil => rfl
  | cons x l ih =>
    have hl := total_nonneg l (fun e he => hnn e (List.mem_cons_of_mem _ he))
    rw [takeFit, if_pos (Int.le_trans (Int.le_add_of_nonneg_right hl) h),
      ih (cap - x.size) (fun e he => hnn e (List.mem_cons_of_mem _ he)) (Int.le_sub_left_of_add_le h)]

theorem takeFit_append_over (cap : Int) (a : List Entry) (e : Entry) (h : total (a ++ [e]) > cap) :
    takeFit cap (a ++ [e]) = takeFit cap a := by
  induction a generalizing cap with
  | nil =>
    have : ¬ e.size ≤ cap := Int.not_le.2 (by rwa [List.nil_append, total_cons, total_nil, Int.add_zero] at h)
    exact if_neg this
  | cons x a ih =>
    rw [List.cons_append, takeFit, takeFit]
    split
    · rw [ih (cap - x.size) (Int.sub_left_lt_of_lt_add h)]
    · rfl

theorem trim_eq_takeFit (cap : Int) (r : List Entry) (hnn : ∀ e ∈ r, 0 ≤ e.size) :
    (trimCold cap r).1.reverse = takeFit cap r.reverse := by
  induction r with
  | nil => rfl
  | cons e r ih =>
    by_cases h : total (e :: r) > cap
    · rw [trimCold_over h, List.reverse_cons, takeFit_append_over cap r.reverse e
        (by rw [total_append, total_reverse, total_cons, total_nil, Int.add_zero, Int.add_comm]; exact h)]
      exact ih (fun x hx => hnn x (by simp [hx]))
    · rw [trimCold_id cap _ (Int.not_lt.1 h), takeFit_all cap (e :: r).reverse (fun x hx => hnn x (List.mem_reverse.1 hx))
        (by rw [total_reverse]; exact Int.not_lt.1 h)]

theorem takeFit_prefix (cap : Int) (l : List Entry) : ∃ t, takeFit cap l ++ t = l := by
  induction l generalizing cap with
  | nil => exact ⟨[], rfl⟩
  | cons x l ih =>
    simp only [takeFit]
    split
    · obtain ⟨t, ht⟩ := ih (cap - x.size); exact ⟨t, by rw [List.cons_append, ht]⟩
    · exact ⟨x :: l, rfl⟩

theorem takeFit_fits (cap : Int) (hcap : 0 ≤ cap) (l : List Entry) : total (takeFit cap l) ≤ cap := by
  induction l generalizing cap with
  | nil => exact hcap
  | cons x l ih =>
    rw [takeFit]
    split
    · rename_i hx
      exact Int.add_le_of_le_sub_left (ih (cap - x.size) (Int.sub_nonneg_of_le hx))
    · exact hcap

theorem takeFit_maximal (cap : Int) (l : List Entry) (x : Entry) (t : List Entry)
    (h : takeFit cap l ++ x :: t = l) : total (takeFit cap l) + x.size > cap := by
  induction l generalizing cap with
  | nil => simp [takeFit] at h
  | cons y l ih =>
    rw [takeFit] at h ⊢
    split at h
    · rename_i hy
      rw [if_pos hy, total_cons, Int.add_assoc]
      exact Int.lt_add_of_sub_left_lt (ih (cap - y.size) (List.cons.inj h).2)
    · rename_i hy
      rw [if_neg hy, (List.cons.inj h).1, total_nil, Int.zero_add]
      exact Int.not_le.1 hy

/-! ### the eviction loop equals the ideal trim once `size` is the true total -/

theorem over_gt (s c : Int) : over .gt s c = decide (s > c) := rfl

theorem evictLoop_eq_trim (cap : Int) (hcap : 0 ≤ cap) (dec : Entry → Int) (l : List Entry)
    (hdec : ∀ e ∈ l, dec e = e.size) (hnn : ∀ e ∈ l, 0 ≤ e.size) (hb : total l < 2 ^ 63) :
    evictLoop .gt cap dec l (total l) =
      ⟨(trimCold cap l).1, total (trimCold cap l).1, (trimCold cap l).2, false⟩ := by
  induction l with
  | nil => simp [evictLoop, trimCold, over, Int.not_lt.2 hcap]
  | cons e l ih =>
    have hl := total_nonneg l (fun x hx => hnn x (by simp [hx]))
    have hbl : total l < 2 ^ 63 := Int.lt_of_le_of_lt (Int.le_add_of_nonneg_left (hnn e (by simp))) hb
    by_cases h : total (e :: l) > cap
    · -- the counter after evicting `e` is the total of the rest: nothing wraps
      have hw : wrap64 (total (e :: l) - dec e) = total l := by
        rw [hdec e (by simp), total_cons, Int.add_comm, Int.add_sub_cancel, wrap64_id _ (Int.le_trans (by decide) hl) hbl]
      rw [trimCold_over h, evictLoop, over_gt, decide_eq_true h, if_pos rfl, hw,
        ih (fun x hx => hdec x (by simp [hx])) (fun x hx => hnn x (by simp [hx])) hbl]
    · rw [trimCold_id cap _ (Int.not_lt.1 h), evictLoop, over_gt, decide_eq_false h, if_neg Bool.false_ne_true]

structure Inv (kd : Kind) (s : Lru) : Prop where
  size_eq : s.size = total s.list
  nonneg : ∀ e ∈ s.list, 0 ≤ e.size
  fits : total s.list ≤ s.capacity
  cap_nonneg : 0 ≤ s.capacity
  unit : kd = .tiny → ∀ e ∈ s.list, e.size = 1
  nodup : (s.list.map (·.key)).Nodup
  cap_lt : s.capacity < 2 ^ 62

/-- what holds between an update of list/size and the capacity check -/
structure Pre (kd : Kind) (s : Lru) : Prop where
  size_eq : s.size = total s.list
  nonneg : ∀ e ∈ s.list, 0 ≤ e.size
  cap_nonneg : 0 ≤ s.capacity
  unit : kd = .tiny → ∀ e ∈ s.list, e.size = 1
  nodup : (s.list.map (·.key)).Nodup
  cap_lt : s.capacity < 2 ^ 62
  bound : total s.list < 2 ^ 63

def abs (s : Lru) : Ideal := ⟨s.list, s.capacity, s.evictions⟩

theorem abs_entries (s : Lru) : (abs s).entries = s.list := rfl

namespace Pre
variable {kd : Kind} {s s' : Lru}

theorem toInv (h : Pre kd s) (hfit : total s.list ≤ s.capacity) : Inv kd s :=
  ⟨h.size_eq, h.nonneg, hfit, h.cap_nonneg, h.unit, h.nodup, h.cap_lt⟩

theorem of_sublist (h : Pre kd s) (hl : s'.list.Sublist s.list) (hsz : s'.size = total s'.list)
    (h0 : 0 ≤ s'.capacity) (h62 : s'.capacity < 2 ^ 62) : Pre kd s' :=
  ⟨hsz, fun e he => h.nonneg e (hl.subset he), h0, fun hk e he => h.unit hk e (hl.subset he),
    (hl.map (·.key)).nodup h.nodup, h62, Int.lt_of_le_of_lt (total_sublist_le hl h.nonneg) h.bound⟩

end Pre

namespace Inv
variable {kd : Kind} {s : Lru}

theorem total_range (hi : Inv kd s) : 0 ≤ total s.list ∧ total s.list < 2 ^ 62 :=
  ⟨total_nonneg s.list hi.nonneg, Int.lt_of_le_of_lt hi.fits hi.cap_lt⟩

theorem toPre (hi : Inv kd s) : Pre kd s :=
  ⟨hi.size_eq, hi.nonneg, hi.cap_nonneg, hi.unit, hi.nodup, hi.cap_lt, Int.lt_trans hi.total_range.2 (by decide)⟩

theorem entry_le (hi : Inv kd s) {e : Entry} (hm : e ∈ s.list) : e.size ≤ total s.list := by
  have := total_sublist_le (List.singleton_sublist.2 hm) hi.nonneg
  rwa [total_cons, total_nil, Int.add_zero] at this

theorem entry_range (hi : Inv kd s) {e : Entry} (hm : e ∈ s.list) : 0 ≤ e.size ∧ e.size < 2 ^ 62 :=
  ⟨hi.nonneg e hm, Int.lt_of_le_of_lt (hi.entry_le hm) hi.total_range.2⟩

/-! The three ways the code moves the `int64` counter cannot wrap under the invariant — `addNew`: `+= size`;
`updateInPlace`: `+= new − old`; `Delete` and the eviction body: `-= size`. -/

theorem size_add (hi : Inv kd s) {a : Int} (ha : 0 ≤ a ∧ a < 2 ^ 62) : wrap64 (s.size + a) = total s.list + a := by
  rw [hi.size_eq, wrap64_add hi.total_range ha]

theorem size_sub (hi : Inv kd s) {e : Entry} (hm : e ∈ s.list) : wrap64 (s.size - e.size) = total s.list - e.size := by
  rw [hi.size_eq, wrap64_sub hi.total_range (hi.entry_range hm)]

theorem size_update (hi : Inv kd s) {e : Entry} (hm : e ∈ s.list) {a : Int} (ha : 0 ≤ a ∧ a < 2 ^ 62) :
    wrap64 (s.size + wrap64 (a - e.size)) = total s.list - e.size + a := by
  have hr : 0 ≤ total s.list - e.size ∧ total s.list - e.size < 2 ^ 62 :=
    ⟨Int.sub_nonneg.2 (hi.entry_le hm), Int.lt_of_le_of_lt (Int.sub_le_self _ (hi.nonneg e hm)) hi.total_range.2⟩
  rw [hi.size_eq, wrap64_sub ha (hi.entry_range hm), ← wrap64_add hr ha]
  congr 1
  omega

end Inv

theorem pre_push {kd : Kind} {s : Lru} (hi : Inv kd s) (k v : Nat) (sz : Int) (hsz : 0 ≤ sz ∧ sz < 2 ^ 62)
    (hunit : kd = .tiny → sz = 1) (rest : List Entry) (hrest : rest.Sublist s.list)
    (hk : k ∉ rest.map (·.key)) (size' : Int) (hsize : size' = sz + total rest) :
    Pre kd { s with list := ⟨k, v, sz⟩ :: rest, size := size' } := by
  refine ⟨hsize, ?_, hi.cap_nonneg, ?_, List.nodup_cons.2 ⟨hk, (hrest.map (·.key)).nodup hi.nodup⟩, hi.cap_lt, ?_⟩
  · intro e he
    rcases List.mem_cons.1 he with rfl | he
    · exact hsz.1
    · exact hi.nonneg e (hrest.subset he)
  · intro ht e he
    rcases List.mem_cons.1 he with rfl | he
    · exact hunit ht
    · exact hi.unit ht e (hrest.subset he)
  · exact Int.lt_of_lt_of_le (Int.add_lt_add_of_lt_of_le hsz.2
      (Int.le_trans (total_sublist_le hrest hi.nonneg) (Int.le_of_lt hi.total_range.2))) (by decide)

theorem dec_eq {kd : Kind} {l : List Entry} (hu : kd = .tiny → ∀ e ∈ l, e.size = 1) :
    ∀ e ∈ l, decOf kd e = e.size := by
  intro e he
  cases kd with
  | sized => rfl
  | tiny => exact (hu rfl e he).symm

theorem checkCapacity_spec {c : Cfg} {kd : Kind} {s : Lru} (hc : c.evictWhile = .gt) (hp : Pre kd s) :
    let t := trimCold s.capacity s.list.reverse
    checkCapacity c kd s =
      (⟨t.1.reverse, total t.1, s.capacity, s.evictions + t.2.length⟩, t.2.map (·.val), false) := by
  have hd : ∀ e ∈ s.list.reverse, decOf kd e = e.size := fun e he => dec_eq hp.unit e (List.mem_reverse.1 he)
  simp only [checkCapacity, hc, hp.size_eq]
  rw [← total_reverse s.list, evictLoop_eq_trim s.capacity hp.cap_nonneg (decOf kd) s.list.reverse hd
    (fun e he => hp.nonneg e (List.mem_reverse.1 he)) (by rw [total_reverse]; exact hp.bound)]

/-- a result of the capacity check (new state, removed values, panicked?) agrees with the ideal cache's `fit` -/
structure Agrees (kd : Kind) (r : Lru × List Nat × Bool) (i : Ideal × List Entry) : Prop where
  inv : Inv kd r.1
  state : abs r.1 = i.1
  removed : r.2.1 = i.2.map (·.val)
  no_panic : r.2.2 = false

theorem checkCapacity_agrees {c : Cfg} {kd : Kind} {s : Lru} (hc : c.evictWhile = .gt) (hp : Pre kd s) :
    Agrees kd (checkCapacity c kd s) (Ideal.fit (abs s)) := by
  have hsplit := trimCold_split s.capacity s.list.reverse
  have hfit := trimCold_fits s.capacity hp.cap_nonneg s.list.reverse
  rw [checkCapacity_spec hc hp]
  refine ⟨?_, rfl, rfl, rfl⟩
  generalize trimCold s.capacity s.list.reverse = t at hsplit hfit ⊢
  -- the kept entries are a suffix of the list seen from the back
  have hsub : t.1.reverse.Sublist s.list := by
    have := (List.sublist_append_right t.2 t.1).reverse
    rwa [hsplit, List.reverse_reverse] at this
  have hp' : Pre kd ⟨t.1.reverse, total t.1, s.capacity, s.evictions + t.2.length⟩ :=
    hp.of_sublist hsub (total_reverse _).symm hp.cap_nonneg hp.cap_lt
  exact hp'.toInv (by rw [← total_reverse] at hfit; exact hfit)

theorem checkCapacity_noop {c : Cfg} {kd : Kind} {s : Lru} (hc : c.evictWhile = .gt) (hi : Inv kd s) :
    checkCapacity c kd s = (s, [], false) := by
  rw [checkCapacity_spec hc hi.toPre, trimCold_id s.capacity s.list.reverse (by rw [total_reverse]; exact hi.fits),
    total_reverse, ← hi.size_eq]
  simp

theorem fit_noop {s : Ideal} (h : total s.entries ≤ s.capacity) : Ideal.fit s = (s, []) := by
  simp [Ideal.fit, trimCold_id s.capacity s.entries.reverse (by rw [total_reverse]; exact h)]

theorem agrees_of_inv {kd : Kind} {s : Lru} (hi : Inv kd s) : Agrees kd (s, [], false) (Ideal.fit (abs s)) := by
  rw [fit_noop (show total (abs s).entries ≤ (abs s).capacity from hi.fits)]
  exact ⟨hi, rfl, rfl, rfl⟩

theorem Agrees.out {kd : Kind} {r : Lru × List Nat × Bool} {i : Ideal × List Entry} (h : Agrees kd r i) (o : Out) :
    outOr r.2.2 o = o := by
  rw [h.no_panic]; rfl

end Nv.C04
