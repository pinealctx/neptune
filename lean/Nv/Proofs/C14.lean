import Nv.Model.C14
/-! C14 — one lane.  `Step` restates `Lane.step` as a relation (`step_sound`) and everything else goes by cases on it:
what no transition undoes, the invariant `LInv` of the queue and run discipline of a lane with one consumer, the
invariant `RInv` of where the answers to callers come from, and both for every reachable state (`inv_reach`). -/
namespace Nv.C14

/-- The transitions of a lane: one constructor for each leaf of `Lane.step` that yields a state, with what is known
of the guards on the way to it.  `run2`, `finish2`, `exit2` and `take2` are those that make or move a second consumer. -/
inductive Step (cfg : Cfg) (l : Lane) : LAct → Lane → Prop
  | accept (id : Nat) (enq : Bool) : l.next ≤ id →
      (l.stopped = false ∨ (l.kind = .pchan ∧ cfg.pchanAccept ≠ .stopFirst)) → Step cfg l (.submit id enq) (l.accept id)
  | reject (id : Nat) (enq : Bool) (r : Res) : l.next ≤ id →
      ((r = .full ∧ l.stopped = false ∧ (l.kind = .pchan ∨ (0 < l.cap ∧ l.cap ≤ l.queue.length))) ∨
       (r = .closed ∧ l.stopped = true)) → Step cfg l (.submit id enq) (l.reject id r)
  | exit (tk : Bool) : l.cons = .idle → l.stopped = true → (l.queue = [] ∨ l.kind = .pchan) → Step cfg l (.pop tk) l.doExit
  | skip (tk : Bool) (c : Nat) (rest : List Nat) : l.cons = .idle → l.queue = c :: rest → l.skips c = true →
      Step cfg l (.pop tk) { l with queue := rest, popped := l.popped ++ [c],
                                    calls := updCall l.calls c (fun r => { r with cell := some .ctx }) }
  | start (tk : Bool) (c : Nat) (rest : List Nat) : l.cons = .idle → l.queue = c :: rest → l.skips c = false →
      Step cfg l (.pop tk) { l with queue := rest, popped := l.popped ++ [c], cons := .running c,
                                    log := l.log ++ [.start c l.idx] }
  | finish (id : Nat) (r : Res) : l.cons = .running id → isCalleeRes r = true →
      Step cfg l (.finish id r) { l with cons := .idle, log := l.log ++ [.fin id r],
                                         calls := updCall l.calls id (fun c => { c with cell := some r }) }
  | recv (id pick : Nat) (c : CallRec) (r : Res) : getCall l id = some c →
      (c.cell = some r ∨ (c.ctxDone = true ∧ r = .ctx) ∨ (l.kind = .pchan ∧ l.stopped = true ∧ r = .closed)) →
      Step cfg l (.recv id pick) { l with log := l.log ++ [.ret id r],
                                          calls := updCall l.calls id (fun c => { c with waiting := false }) }
  | cancel (id : Nat) : Step cfg l (.cancel id) { l with calls := updCall l.calls id (fun c => { c with ctxDone := true }) }
  | stop : Step cfg l .stop { l with stopped := true }
  | run : Step cfg l .run { l with started := true }
  | rerun : Step cfg l .run l
  | run2 : l.kind = .mline → cfg.mlineRun ≠ .once → Step cfg l .run { l with cons2 := some .idle }
  | finish2 (id : Nat) (r : Res) : l.cons2 = some (.running id) → isCalleeRes r = true →
      Step cfg l (.finish id r) { l with cons2 := some .idle, log := l.log ++ [.fin id r],
                                         calls := updCall l.calls id (fun c => { c with cell := some r }) }
  | exit2 : l.cons2 = some .idle → Step cfg l .pop2 { l with cons2 := some .exited, log := l.log ++ [.exit l.idx] }
  | take2 (c : Nat) (rest : List Nat) : l.cons2 = some .idle → l.queue = c :: rest →
      Step cfg l .pop2 { l with queue := rest, popped := l.popped ++ [c], cons2 := some (.running c),
                                log := l.log ++ [.start c l.idx] }

section
variable {α : Type} {p : α → Prop}

theorem forall_mem_none : ∀ x ∈ (none : Option α), p x := by
  intro x hx; cases hx

theorem forall_mem_some {y : α} (h : p y) : ∀ x ∈ some y, p x := by
  intro x hx; cases hx; exact h

theorem forall_mem_ite {c : Prop} [Decidable c] {a b : Option α} (ha : c → ∀ x ∈ a, p x) (hb : ¬c → ∀ x ∈ b, p x) :
    ∀ x ∈ (if c then a else b), p x := by
  by_cases hc : c
  · rw [if_pos hc]; exact ha hc
  · rw [if_neg hc]; exact hb hc

end

/-- The proof walks down the decision tree of `Lane.step`, one `forall_mem_ite` per `if`, and names the transition at
each leaf. -/
theorem step_sound {cfg : Cfg} {l : Lane} {a : LAct} : ∀ l' ∈ l.step cfg a, Step cfg l a l' := by
  cases a with
  | submit id enq =>
    rw [Lane.step]
    refine forall_mem_ite (fun _ => forall_mem_none) fun hid => ?_
    have hid : l.next ≤ id := Nat.not_lt.1 hid
    refine forall_mem_ite (fun hk => ?_) fun _ => ?_
    · have hk : l.kind = .pchan := beq_iff_eq.1 hk
      refine forall_mem_ite (fun hs => ?_) fun hs => ?_
      · have hs : l.stopped = false := by simpa using hs
        exact forall_mem_ite (fun _ => forall_mem_some (.accept id enq hid (.inl hs)))
          fun _ => forall_mem_some (.reject id enq .full hid (.inl ⟨rfl, hs, .inl hk⟩))
      · have hs : l.stopped = true := by simpa using hs
        have closed := forall_mem_some (p := Step cfg l (.submit id enq)) (.reject id enq .closed hid (.inr ⟨rfl, hs⟩))
        cases hp : cfg.pchanAccept
        case stopFirst => exact closed
        all_goals exact
          forall_mem_ite (fun _ => forall_mem_some (.accept id enq hid (.inr ⟨hk, by simp [hp]⟩))) fun _ => closed
    · refine forall_mem_ite (fun hs => forall_mem_some (.reject id enq .closed hid (.inr ⟨rfl, hs⟩))) fun hs => ?_
      have hs : l.stopped = false := by simpa using hs
      exact forall_mem_ite (fun hc => forall_mem_some (.reject id enq .full hid (.inl ⟨rfl, hs, .inr (by simpa using hc)⟩)))
        fun _ => forall_mem_some (.accept id enq hid (.inl hs))
  | pop tk =>
    rw [Lane.step]
    refine forall_mem_ite (fun _ => forall_mem_none) fun _ => ?_
    cases hc : l.cons
    case running | exited => exact forall_mem_none
    cases hq : l.queue with
    | nil => exact forall_mem_ite (fun hs => forall_mem_some (.exit tk hc hs (.inl hq))) fun _ => forall_mem_none
    | cons c rest =>
      refine forall_mem_ite (fun hx => forall_mem_some (.exit tk hc ?_ (.inr ?_))) fun _ => forall_mem_some ?_
      · simp only [Bool.and_eq_true] at hx; exact hx.1.2
      · simp only [Bool.and_eq_true, beq_iff_eq] at hx; exact hx.1.1
      · rw [Lane.take]
        cases hsk : l.skips c
        · exact .start tk c rest hc hq hsk
        · exact .skip tk c rest hc hq hsk
  | finish id r =>
    rw [Lane.step]
    refine forall_mem_ite (fun h => forall_mem_some (.finish id r ?_ ?_)) fun _ =>
      forall_mem_ite (fun h => forall_mem_some (.finish2 id r ?_ ?_)) fun _ => forall_mem_none
    all_goals simp only [Bool.and_eq_true, beq_iff_eq] at h
    · exact h.1
    · exact h.2
    · exact h.1
    · exact h.2
  | recv id pick =>
    rw [Lane.step]
    cases hg : getCall l id with
    | none => exact forall_mem_none
    | some c =>
      refine forall_mem_ite (fun _ => forall_mem_none) fun _ => ?_
      match pick with
      | 0 =>
        cases hcell : c.cell with
        | none => exact forall_mem_none
        | some r => exact forall_mem_some (.recv id 0 c r hg (.inl hcell))
      | 1 => exact forall_mem_ite (fun hd => forall_mem_some (.recv id 1 c .ctx hg (.inr (.inl ⟨hd, rfl⟩)))) fun _ => forall_mem_none
      | 2 =>
        refine forall_mem_ite (fun hd => forall_mem_some (.recv id 2 c .closed hg (.inr (.inr ?_)))) fun _ => forall_mem_none
        simp only [Bool.and_eq_true, beq_iff_eq] at hd
        exact ⟨hd.1, hd.2, rfl⟩
      | _ + 3 => exact forall_mem_none
  | cancel id =>
    rw [Lane.step]
    cases getCall l id with
    | none => exact forall_mem_none
    | some _ => exact forall_mem_some (.cancel id)
  | stop => exact forall_mem_some .stop
  | run =>
    rw [Lane.step]
    refine forall_mem_ite (fun _ => forall_mem_some .run) fun _ =>
      forall_mem_ite (fun h => forall_mem_some (.run2 ?_ ?_)) fun _ => forall_mem_some .rerun
    all_goals simp only [Bool.and_eq_true, beq_iff_eq, bne_iff_ne] at h
    · exact h.1.1
    · exact h.1.2
  | pop2 =>
    rw [Lane.step]
    cases hc : l.cons2 with
    | none => exact forall_mem_none
    | some c2 =>
      cases c2
      case running | exited => exact forall_mem_none
      cases hq : l.queue with
      | nil => exact forall_mem_ite (fun _ => forall_mem_some (hq ▸ Step.exit2 hc)) fun _ => forall_mem_none
      | cons c rest => exact forall_mem_some (.take2 c rest hc hq)

variable {cfg : Cfg} {l l' : Lane} {a : LAct}

namespace Step

theorem static (hs : Step cfg l a l') : l'.kind = l.kind ∧ l'.idx = l.idx ∧ l'.cap = l.cap := by
  cases hs <;> exact ⟨rfl, rfl, rfl⟩

theorem accepted (hs : Step cfg l a l') :
    l'.accepted = l.accepted ∨ ∃ id enq, a = .submit id enq ∧ l.next ≤ id ∧ l'.accepted = l.accepted ++ [id] := by
  cases hs
  case accept id enq hid _ => exact .inr ⟨id, enq, rfl, hid, rfl⟩
  all_goals exact .inl rfl

theorem next_le (hs : Step cfg l a l') : l.next ≤ l'.next := by
  cases hs
  case accept hid _ | reject hid _ => exact Nat.le_succ_of_le hid
  all_goals exact Nat.le_refl _

theorem stopped (hs : Step cfg l a l') (h : l.stopped = true) : l'.stopped = true := by
  cases hs
  case stop => rfl
  all_goals exact h

end Step

theorem startIds_append (a b : List Ev) : startIds (a ++ b) = startIds a ++ startIds b := by
  induction a with
  | nil => rfl
  | cons e es ih => cases e <;> simp [startIds, ih]

theorem runEvents_append (a b : List Ev) : runEvents (a ++ b) = runEvents a ++ runEvents b := by
  induction a with
  | nil => rfl
  | cons e es ih => cases e <;> simp [runEvents, ih]

theorem finIds_append (a b : List Ev) : finIds (a ++ b) = finIds a ++ finIds b := by
  induction a with
  | nil => rfl
  | cons e es ih => cases e <;> simp [finIds, ih]

theorem runState_append (a : List (Bool × Nat)) (x : Bool × Nat) : runState (a ++ [x]) = runStep (runState a) x := by
  simp [runState, List.foldl_append]

attribute [local simp] startIds_append runEvents_append finIds_append startIds runEvents finIds

theorem mem_startIds {id ln : Nat} {log : List Ev} (h : Ev.start id ln ∈ log) : id ∈ startIds log := by
  obtain ⟨a, b, rfl⟩ := List.append_of_mem h
  simp

theorem mem_finIds {id : Nat} {r : Res} {log : List Ev} (h : Ev.fin id r ∈ log) : id ∈ finIds log := by
  obtain ⟨a, b, rfl⟩ := List.append_of_mem h
  simp

theorem fin_unique {id : Nat} {r r' : Res} {log : List Ev} (hn : (finIds log).Nodup)
    (h1 : Ev.fin id r ∈ log) (h2 : Ev.fin id r' ∈ log) : r = r' := by
  induction log with
  | nil => cases h1
  | cons e es ih =>
    cases e with
    | fin i x =>
      rw [finIds, List.nodup_cons] at hn
      rcases List.mem_cons.1 h1 with g1 | g1 <;> rcases List.mem_cons.1 h2 with g2 | g2
      · cases g1; cases g2; rfl
      · cases g1; exact absurd (mem_finIds g2) hn.1
      · cases g2; exact absurd (mem_finIds g1) hn.1
      · exact ih hn.2 g1 g2
    | _ => exact ih hn (by simpa using h1) (by simpa using h2)

structure LInv (l : Lane) : Prop where
  acc_split : l.accepted = l.popped ++ l.queue
  acc_sorted : l.accepted.Pairwise (· < ·)
  acc_lt : ∀ id ∈ l.accepted, id < l.next
  starts_sub : (startIds l.log).Sublist l.popped
  starts_eq : (l.kind = .line ∨ l.kind = .mline) → startIds l.log = l.popped
  idx_ok : ∀ id ln, Ev.start id ln ∈ l.log → ln = l.idx
  run_state : runState (runEvents l.log) = some (consRunning l.cons)
  /-- the callee of a call returns at most once: returned ids + the running one = started ids -/
  fin_once : finIds l.log ++ (consRunning l.cons).toList = startIds l.log
  exited_drained : l.cons = .exited → l.stopped = true ∧ (l.kind ≠ .pchan → l.queue = [])
  cons2_none : l.cons2 = none

theorem linv_init (k : Kind) (cap idx : Nat) : LInv (Lane.init k cap idx) where
  acc_split := rfl
  acc_sorted := List.Pairwise.nil
  acc_lt := nofun
  starts_sub := List.Sublist.slnil
  starts_eq := fun _ => rfl
  idx_ok := nofun
  run_state := rfl
  fin_once := rfl
  exited_drained := nofun
  cons2_none := rfl

theorem getCall_some {l : Lane} {id : Nat} {c : CallRec} (h : getCall l id = some c) : c ∈ l.calls ∧ c.id = id :=
  ⟨List.mem_of_find?_eq_some h, by simpa using List.find?_some h⟩

theorem of_skips {l : Lane} {c : Nat} (h : l.skips c = true) :
    (l.kind = .runner ∨ l.kind = .pchan) ∧ Cancelled l.calls c := by
  unfold Lane.skips at h
  simp only [Bool.and_eq_true, Bool.or_eq_true, beq_iff_eq] at h
  cases hg : getCall l c with
  | none => simp [hg] at h
  | some r => exact ⟨h.1, r, (getCall_some hg).1, (getCall_some hg).2, by simpa [hg] using h.2⟩

theorem mem_push {α : Type} {x y : α} {xs : List α} (h : x ∈ xs ++ [y]) : x ∈ xs ∨ x = y :=
  (List.mem_append.1 h).imp_right List.mem_singleton.1

theorem linv_step (hg : RunGuarded cfg l.kind) (h : LInv l) (hs : Step cfg l a l') : LInv l' := by
  have hle := hs.next_le
  have no2 : ∀ {c}, l.cons2 ≠ some c := fun e => by rw [h.cons2_none] at e; cases e
  cases hs with
  | accept id enq hid hw => exact { h with
      acc_split := by simp only [Lane.accept, h.acc_split, List.append_assoc]
      acc_sorted := by
        refine List.pairwise_append.2 ⟨h.acc_sorted, List.pairwise_singleton _ _, fun x hx y hy => ?_⟩
        cases List.mem_singleton.1 hy
        exact Nat.lt_of_lt_of_le (h.acc_lt x hx) hid
      acc_lt := by
        intro x hx
        rcases mem_push hx with hx | hx
        · exact Nat.lt_succ_of_lt (Nat.lt_of_lt_of_le (h.acc_lt x hx) hid)
        · cases hx; exact Nat.lt_succ_self _
      exited_drained := by
        intro he
        have := (h.exited_drained he).1
        exact ⟨this, fun hk => hw.elim (fun e => by rw [e] at this; cases this) (fun e => absurd e.1 hk)⟩ }
  | reject | recv => exact { h with
      acc_lt := fun x hx => Nat.lt_of_lt_of_le (h.acc_lt x hx) hle
      starts_sub := by simpa [Lane.reject] using h.starts_sub
      starts_eq := by simpa [Lane.reject] using h.starts_eq
      idx_ok := fun i ln hm => (mem_push hm).elim (h.idx_ok i ln) nofun
      run_state := by simpa [Lane.reject] using h.run_state
      fin_once := by simpa [Lane.reject] using h.fin_once }
  | exit tk hc hst hq => exact { h with
      starts_sub := by simpa [Lane.doExit] using h.starts_sub
      starts_eq := by simpa [Lane.doExit] using h.starts_eq
      idx_ok := fun i ln hm => (mem_push hm).elim (h.idx_ok i ln) nofun
      run_state := by simpa [Lane.doExit, hc, consRunning] using h.run_state
      fin_once := by simpa [Lane.doExit, hc, consRunning] using h.fin_once
      exited_drained := fun _ => ⟨hst, fun hk => hq.resolve_right hk⟩ }
  | skip tk c rest hc hq hsk => exact { h with
      acc_split := by simp only [h.acc_split, hq, List.append_assoc, List.singleton_append]
      starts_sub := h.starts_sub.trans (List.sublist_append_left _ _)
      starts_eq := fun hk => by rcases (of_skips hsk).1 with e | e <;> rcases hk with k | k <;> rw [k] at e <;> cases e
      exited_drained := fun he => by rw [hc] at he; cases he }
  | start tk c rest hc hq _ => exact { h with
      acc_split := by simp only [h.acc_split, hq, List.append_assoc, List.singleton_append]
      starts_sub := by simpa using h.starts_sub.append (List.Sublist.refl [c])
      starts_eq := fun hk => by simp [h.starts_eq hk]
      idx_ok := fun i ln hm => (mem_push hm).elim (h.idx_ok i ln) fun e => by cases e; rfl
      run_state := by simp [runState_append, h.run_state, hc, consRunning, runStep]
      fin_once := by simpa [hc, consRunning] using h.fin_once
      exited_drained := nofun }
  | finish id r hc _ => exact { h with
      starts_sub := by simpa using h.starts_sub
      starts_eq := by simpa using h.starts_eq
      idx_ok := fun i ln hm => (mem_push hm).elim (h.idx_ok i ln) nofun
      run_state := by simp [runState_append, h.run_state, hc, consRunning, runStep]
      fin_once := by simpa [hc, consRunning] using h.fin_once
      exited_drained := nofun }
  | stop => exact { h with exited_drained := fun he => ⟨rfl, (h.exited_drained he).2⟩ }
  | cancel | run => exact { h with }
  | rerun => exact h
  | run2 hk hne => exact (hg.elim hne fun g => g hk).elim
  | finish2 _ _ h2 | exit2 h2 | take2 _ _ h2 => exact (no2 h2).elim

theorem forall_mem_updCall {P : CallRec → Prop} {calls : List CallRec} {id : Nat} {f : CallRec → CallRec}
    (hold : ∀ c ∈ calls, P c) (hnew : ∀ c ∈ calls, c.id = id → P (f c)) : ∀ c ∈ updCall calls id f, P c := by
  intro c hm
  obtain ⟨c0, h0, rfl⟩ := List.mem_map.1 hm
  by_cases hid : c0.id = id
  · rw [if_pos (beq_iff_eq.2 hid)]; exact hnew c0 h0 hid
  · rw [if_neg (by simpa using hid)]; exact hold c0 h0

theorem forall_mem_push {α : Type} {P : α → Prop} {xs : List α} {y : α} (hold : ∀ x ∈ xs, P x) (hnew : P y) :
    ∀ x ∈ xs ++ [y], P x :=
  List.forall_mem_append.2 ⟨hold, List.forall_mem_singleton.2 hnew⟩

theorem cancelled_updCall {calls : List CallRec} {id i : Nat} {f : CallRec → CallRec}
    (hf : ∀ c, (f c).id = c.id ∧ (c.ctxDone = true → (f c).ctxDone = true)) (h : Cancelled calls i) :
    Cancelled (updCall calls id f) i := by
  obtain ⟨c, hm, hid, hd⟩ := h
  refine ⟨if c.id == id then f c else c, List.mem_map.2 ⟨c, hm, rfl⟩, ?_⟩
  split
  · exact ⟨(hf c).1.trans hid, (hf c).2 hd⟩
  · exact ⟨hid, hd⟩

theorem cancelled_append {calls : List CallRec} {i : Nat} (x : CallRec) (h : Cancelled calls i) :
    Cancelled (calls ++ [x]) i :=
  h.imp fun _ w => ⟨List.mem_append_left _ w.1, w.2⟩

/-- the answer `r` belongs to call `id`: the value its own callee returned, or its own context's error -/
def Own (l : Lane) (id : Nat) (r : Res) : Prop :=
  (isCalleeRes r = true ∧ Ev.fin id r ∈ l.log) ∨ (r = .ctx ∧ Cancelled l.calls id)

namespace Own

theorem mono {l l' : Lane} {i : Nat} {r : Res} (h : Own l i r) (hlog : ∀ e ∈ l.log, e ∈ l'.log)
    (hcan : Cancelled l.calls i → Cancelled l'.calls i) : Own l' i r :=
  h.imp (And.imp_right (hlog _)) (And.imp_right hcan)

end Own

namespace Step

/-- no transition takes a justification away: the log only grows, a cancelled context stays cancelled -/
theorem own {i : Nat} {r : Res} (hs : Step cfg l a l') (h : Own l i r) : Own l' i r := by
  cases hs with
  | accept => exact h.mono (fun _ he => he) (cancelled_append _)
  | reject => exact h.mono (fun _ he => List.mem_append_left _ he) (cancelled_append _)
  | exit | start | exit2 | take2 => exact h.mono (fun _ he => List.mem_append_left _ he) id
  | skip => exact h.mono (fun _ he => he) (cancelled_updCall fun _ => ⟨rfl, id⟩)
  | finish | recv | finish2 =>
    exact h.mono (fun _ he => List.mem_append_left _ he) (cancelled_updCall fun _ => ⟨rfl, id⟩)
  | cancel => exact h.mono (fun _ he => he) (cancelled_updCall fun _ => ⟨rfl, fun _ => rfl⟩)
  | stop | run | rerun | run2 => exact h

end Step

structure RInv (l : Lane) : Prop where
  calls_lt : ∀ c ∈ l.calls, c.id < l.next
  cell : ∀ c ∈ l.calls, ∀ r, c.cell = some r → Own l c.id r
  /-- what a caller was told is its own answer, or a rejection of a call that was not accepted (`closed` also
  comes from ProcChan's stop channel, to an accepted call) -/
  ret : ∀ id r, Ev.ret id r ∈ l.log → id < l.next ∧ (Own l id r ∨
    (r = .closed ∧ l.stopped = true ∧ (id ∉ l.accepted ∨ l.kind = .pchan)) ∨ (r = .full ∧ id ∉ l.accepted))

theorem rinv_init (k : Kind) (cap idx : Nat) : RInv (Lane.init k cap idx) :=
  ⟨fun _ h => absurd h List.not_mem_nil, fun _ h => absurd h List.not_mem_nil,
    fun _ _ h => absurd h List.not_mem_nil⟩

theorem rinv_step (hl : LInv l) (h : RInv l) (hs : Step cfg l a l') : RInv l' := by
  have own : ∀ {i r}, Own l i r → Own l' i r := hs.own
  have cell : ∀ c ∈ l.calls, ∀ r, c.cell = some r → Own l' c.id r := fun c hm r hr => own (h.cell c hm r hr)
  have hle := hs.next_le
  have ret : ∀ i r, Ev.ret i r ∈ l.log → i < l'.next ∧ (Own l' i r ∨
      (r = .closed ∧ l'.stopped = true ∧ (i ∉ l'.accepted ∨ l'.kind = .pchan)) ∨ (r = .full ∧ i ∉ l'.accepted)) := by
    intro i r hm
    obtain ⟨hi, hw⟩ := h.ret i r hm
    -- a call below `next` that was not accepted never will be
    have hna : i ∉ l.accepted → i ∉ l'.accepted := by
      rcases hs.accepted with e | ⟨id, _, _, hid, e⟩ <;> rw [e]
      · exact id
      · exact fun hn hm => (mem_push hm).elim hn fun e => by omega
    exact ⟨Nat.lt_of_lt_of_le hi hle, hw.imp own (Or.imp
      (fun w => ⟨w.1, hs.stopped w.2.1, w.2.2.imp hna (hs.static.1.trans ·)⟩) (And.imp_right hna))⟩
  cases hs with
  | accept id enq hid _ => exact
    { calls_lt := forall_mem_push (fun c hc => Nat.lt_succ_of_lt (Nat.lt_of_lt_of_le (h.calls_lt c hc) hid))
        (Nat.lt_succ_self id)
      cell := forall_mem_push cell nofun
      ret := ret }
  | reject id enq r hid why =>
    have fresh : id ∉ l.accepted := fun hm => Nat.lt_irrefl _ (Nat.lt_of_lt_of_le (hl.acc_lt id hm) hid)
    exact
    { calls_lt := forall_mem_push (fun c hc => Nat.lt_succ_of_lt (Nat.lt_of_lt_of_le (h.calls_lt c hc) hid))
        (Nat.lt_succ_self id)
      cell := forall_mem_push cell nofun
      ret := fun i r' hm => (mem_push hm).elim (ret i r') fun e => by
        cases e
        exact ⟨Nat.lt_succ_self id, .inr (why.elim (fun w => .inr ⟨w.1, fresh⟩) fun w => .inl ⟨w.1, w.2, .inl fresh⟩)⟩ }
  | exit | start | exit2 | take2 => exact
    { calls_lt := h.calls_lt, cell := cell, ret := fun i r hm => ret i r ((mem_push hm).resolve_right nofun) }
  | skip tk c rest _ _ hsk => exact
    { calls_lt := forall_mem_updCall h.calls_lt fun c hc _ => h.calls_lt c hc
      cell := forall_mem_updCall cell fun c0 _ hid r hr => by
        cases hr; cases hid
        exact .inr ⟨rfl, cancelled_updCall (fun _ => ⟨rfl, id⟩) (of_skips hsk).2⟩
      ret := ret }
  | finish id r _ hres | finish2 id r _ hres => exact
    { calls_lt := forall_mem_updCall h.calls_lt fun c hc _ => h.calls_lt c hc
      cell := forall_mem_updCall cell fun c0 _ hid r' hr => by
        cases hr; cases hid
        exact .inl ⟨hres, List.mem_append_right _ (List.mem_singleton_self _)⟩
      ret := fun i r hm => ret i r ((mem_push hm).resolve_right nofun) }
  | recv id pick c r hg why =>
    obtain ⟨hcm, hcid⟩ := getCall_some hg
    exact
    { calls_lt := forall_mem_updCall h.calls_lt fun c hc _ => h.calls_lt c hc
      cell := forall_mem_updCall cell fun c hc _ => cell c hc
      ret := fun i r' hm => (mem_push hm).elim (ret i r') fun e => by
        cases e
        refine ⟨hcid ▸ h.calls_lt c hcm, ?_⟩
        rcases why with hcell | ⟨hd, rfl⟩ | ⟨hk, hst, rfl⟩
        · exact .inl (hcid ▸ cell c hcm _ hcell)
        · exact .inl (own (.inr ⟨rfl, c, hcm, hcid, hd⟩))
        · exact .inr (.inl ⟨rfl, hst, .inr hk⟩) }
  | cancel => exact
    { calls_lt := forall_mem_updCall h.calls_lt fun c hc _ => h.calls_lt c hc
      cell := forall_mem_updCall cell fun c hc _ => cell c hc
      ret := ret }
  | stop | run | rerun | run2 => exact ⟨h.calls_lt, cell, ret⟩

theorem reach_step {cfg : Cfg} {k : Kind} {cap idx : Nat} {l l' : Lane} {a : LAct}
    (hr : (laneLTS cfg k cap idx).Reach l) (hs : l.step cfg a = some l') : (laneLTS cfg k cap idx).Reach l' :=
  LTS.Reach.step (m := laneLTS cfg k cap idx) hr hs

theorem inv_reach {cfg : Cfg} {k : Kind} {cap idx : Nat} (hg : RunGuarded cfg k) {l : Lane}
    (hr : (laneLTS cfg k cap idx).Reach l) : l.kind = k ∧ LInv l ∧ RInv l := by
  refine LTS.inv_of_step (laneLTS cfg k cap idx) (fun l => l.kind = k ∧ LInv l ∧ RInv l)
    ⟨rfl, linv_init k cap idx, rinv_init k cap idx⟩ (fun s a s' ⟨hk, hl, hR⟩ hstep => ?_) l hr
  have hs := step_sound s' hstep
  exact ⟨hs.static.1.trans hk, linv_step (hk ▸ hg) hl hs, rinv_step hl hR hs⟩

end Nv.C14
