import Nv.Model.C13
import Nv.Proofs.C12Step
/-! C13 — lemmas. Every proof about the transition system goes through one classification of its steps (`Move`,
`step_move`): a step changes nothing an invariant looks at, takes an item away from outside (`tryPop`), inserts one
and wakes, closes and wakes, or sends a consumer through the loop test. The critical sections of C12 enter through
their contracts there (`AddLike`, `popNow_cases`, `syncPopNow_cases`, `Took`), the wake primitive through `Woke`.
On top of that: the invariant behind "no stuck waiter" (`Inv'`), "no thread is lost, `closed` is never reset",
conservation of items (`Cons`, `DoneVal`), and the token invariant of PriQueue (`PInv`). -/
namespace Nv.C13
open Nv.C12

theorem size_eq (s : LQ) : s.size = s.ctrl.length + s.req.length := rfl

theorem isEmpty_iff (s : LQ) : s.isEmpty = true ↔ s.ctrl = [] ∧ s.req = [] := by
  simp [LQ.isEmpty]

theorem addLike_ok {x : Nat} {q q' : LQ} (h : AddLike x q (q', .ok)) :
    q'.closed = q.closed ∧ q'.size = q.size + 1 ∧
    ∀ y, q'.items.count y = q.items.count y + if x = y then 1 else 0 := by
  rcases h with ⟨_, h, _⟩ | ⟨_, hc, a, b, ha, hb⟩
  · cases h
  · refine ⟨hc, ?_, fun y => by rw [hb, ha, count_insert]⟩
    have ha := congrArg List.length ha
    have hb := congrArg List.length hb
    simp only [LQ.items, List.length_append, List.length_cons] at ha hb
    rw [LQ.size, LQ.size]
    omega

def outVal : Out → List Nat
  | .val v => [v]
  | _ => []

inductive Ret (q : LQ) : LQ × Out → Prop
  | closed {e : Out} : q.closed = true → outVal e = [] → Ret q (q, e)
  | took {v : Nat} {t : LQ} : Took v q t → Ret q (t, .val v)

theorem attempt_cases (k : Kind) (sh : Shape) (a : Bool) (q : LQ) :
    (q.closed = false ∧ q.req = [] ∧ (k ≠ .syncq → q.ctrl = []) ∧ attempt k sh a q = none) ∨
    ∃ r, Ret q r ∧ attempt k sh a q = some r := by
  unfold attempt
  split
  · rcases syncPopNow_cases q with ⟨hc, hr, e⟩ | ⟨hc, e⟩ | ⟨v, t, e, ht⟩ <;> rw [e]
    · exact .inl ⟨hc, hr, fun h => absurd rfl h, rfl⟩
    · exact .inr ⟨_, .closed hc rfl, rfl⟩
    · exact .inr ⟨_, .took ht, rfl⟩
  · rcases popNow_cases sh a q with ⟨hc, hct, hr, e⟩ | ⟨hc, e⟩ | ⟨v, t, e, ht⟩ <;> rw [e]
    · exact .inl ⟨hc, hr, fun _ => hct, rfl⟩
    · exact .inr ⟨_, .closed hc rfl, rfl⟩
    · exact .inr ⟨_, .took ht, rfl⟩

theorem ret_closed {q : LQ} {r : LQ × Out} (h : Ret q r) : r.1.closed = q.closed := by
  cases h with
  | closed => rfl
  | took ht => cases ht <;> rfl

theorem ret_ctrl_nil {q : LQ} {r : LQ × Out} (h : Ret q r) (hc : q.ctrl = []) : r.1.ctrl = [] := by
  cases h with
  | closed => exact hc
  | took ht => exact (took_fifo ht hc).1

theorem ret_size {q : LQ} {r : LQ × Out} (h : Ret q r) (ho : q.closed = false) : r.1.size + 1 = q.size := by
  cases h with
  | closed hc => rw [hc] at ho; cases ho
  | took ht => cases ht <;> simp only [LQ.size, List.length_cons] <;> omega

theorem tryClear_frame (q : LQ) :
    (tryClear q).1.closed = q.closed ∧ (tryClear q).1.ctrl = q.ctrl ∧ (tryClear q).1.req = q.req := by
  unfold tryClear
  split
  · exact ⟨rfl, rfl, rfl⟩
  · split <;> exact ⟨rfl, rfl, rfl⟩

theorem syncTryPop_frame (sh : SyncShape) (q : LQ) :
    (syncTryPop sh q).1.closed = q.closed ∧ (syncTryPop sh q).1.ctrl = q.ctrl ∧
    (syncTryPop sh q).1.req.length ≤ q.req.length := by
  unfold syncTryPop
  split
  · split
    · rename_i hr; rw [hr]; exact ⟨rfl, rfl, Nat.le_succ _⟩
    · split <;> exact ⟨rfl, rfl, Nat.le_refl _⟩
  · split
    · exact ⟨rfl, rfl, Nat.le_refl _⟩
    · split
      · rename_i hr; rw [hr]; exact ⟨rfl, rfl, Nat.le_succ _⟩
      · exact ⟨rfl, rfl, Nat.le_refl _⟩

inductive Woke (p : Wake) (s : CS) : CS → Prop
  | nobody : (p.wakes = true → s.parked = []) → Woke p s s
  | all : p = .broadcast → Woke p s { s with parked := [], woken := s.woken ++ s.parked }
  | one {e : Tid × Bool} : p = .signal → e ∈ s.parked →
      Woke p s { s with parked := s.parked.erase e, woken := s.woken ++ [e] }

theorem wake_woke {p : Wake} {w : Tid} {s s' : CS} (h : wake p w s = some s') : Woke p s s' := by
  unfold wake at h
  split at h
  · cases h; exact .all rfl
  · split at h
    · rename_i hp; cases h; exact .nobody fun _ => hp
    · split at h
      · rename_i he; cases h; exact .one rfl (List.mem_of_find?_eq_some he)
      · cases h
  · cases h; exact .nobody nofun
  · cases h; exact .nobody nofun

theorem wake_frame {p : Wake} {w : Tid} {s s' : CS} (h : wake p w s = some s') :
    s'.q = s.q ∧ s'.done = s.done ∧ s'.accepted = s.accepted := by
  cases wake_woke h <;> exact ⟨rfl, rfl, rfl⟩

theorem enter_cases (k : Kind) (sh : Shape) (t : Tid) (a : Bool) (s : CS) :
    (s.q.closed = false ∧ s.q.req = [] ∧ (k ≠ .syncq → s.q.ctrl = []) ∧
      enter k sh t a s = { s with parked := s.parked ++ [(t, a)] }) ∨
    (∃ r, Ret s.q r ∧ enter k sh t a s = { s with q := r.1, done := (t, r.2) :: s.done }) := by
  unfold enter
  rcases attempt_cases k sh a s.q with ⟨hc, hr, hct, e⟩ | ⟨r, hr, e⟩ <;> rw [e]
  · exact .inl ⟨hc, hr, hct, rfl⟩
  · exact .inr ⟨r, hr, rfl⟩

/-- Every step of the system is of one of six kinds. The label matters only where a theorem excludes one (`tryPop`)
    or asks what follows it (`close`); the rest is what an invariant can see of the step. -/
inductive Move (P : Par) (s : CS) : Act → CS → Prop
  /-- nothing an invariant looks at changes: a refused add, a repeated close, `TryClose` beside items, `TryClear` -/
  | quiet {a : Act} {q' : LQ} : q'.closed = s.q.closed → q'.ctrl = s.q.ctrl → q'.req = s.q.req →
      Move P s a { s with q := q' }
  /-- `SyncQueue.TryPop` by an outsider: the request list does not grow -/
  | steal {q' : LQ} : q'.closed = s.q.closed → q'.ctrl = s.q.ctrl → q'.req.length ≤ s.q.req.length →
      Move P s .tryPop { s with q := q' }
  /-- an accepted add, followed by the wake primitive of `Add…` or of `AddPrior…` -/
  | insert {a : Act} {x : Nat} {w : Tid} {p : Wake} {q' : LQ} {s' : CS} : AddLike x s.q (q', .ok) →
      (P.kind = .syncq → q'.ctrl = s.q.ctrl) → p = P.wk.add ∨ p = P.wk.prior →
      wake p w { s with q := q', accepted := s.accepted ++ [x] } = some s' → Move P s a s'
  /-- `Close`, or `TryClose` of MQ beside no item, of an open queue, followed by its wake primitive -/
  | close {a : Act} {w : Tid} {p : Wake} {s' : CS} : p = P.wk.close ∨ (P.kind = .mq ∧ p = P.wk.tryClose) →
      wake p w { s with q := closeQ s.q } = some s' → Move P s a s'
  | call {t : Tid} {b : Bool} : Move P s (.popCall t b) (enter P.kind P.sh t b s)
  | resume {e : Tid × Bool} : e ∈ s.woken →
      Move P s (.resume e.1) (enter P.kind P.sh e.1 e.2 { s with woken := s.woken.erase e })

theorem Move.same {P : Par} {s : CS} {a : Act} : Move P s a s := .quiet (q' := s.q) rfl rfl rfl

theorem addLike_move {P : Par} {s s' : CS} {a : Act} {r : LQ × Out} {x : Nat} {p : Wake} {w : Tid}
    (hr : AddLike x s.q r) (hk : P.kind ≠ .syncq) (hp : p = P.wk.add ∨ p = P.wk.prior)
    (h : addLike s r x p w = some s') : Move P s a s' := by
  obtain ⟨q', o⟩ := r
  unfold addLike at h
  by_cases hok : o = .ok
  · subst hok
    exact .insert hr (fun hs => absurd hs hk) hp h
  · rw [if_neg hok] at h
    cases h
    rcases hr with ⟨h1, _, _⟩ | ⟨h2, _⟩
    · rw [show q' = s.q from h1]; exact .same
    · exact absurd h2 hok

theorem step_move {P : Par} {s s' : CS} {a : Act} (h : step P s a = some s') : Move P s a s' := by
  cases a with
  | add x w =>
    simp only [step] at h
    split at h
    · split at h
      · cases h; exact .same
      · rename_i hg
        rw [syncPush, if_neg hg] at h
        exact .insert (addLike_back s.q x) (fun _ => rfl) (.inl rfl) h
    · rename_i hk; exact addLike_move (addReq_addLike P.sh s.q x) hk (.inl rfl) h
  | prior x w =>
    simp only [step] at h
    split at h
    · cases h
    · rename_i hk; exact addLike_move (addPrior_addLike P.sh s.q x) hk (.inr rfl) h
  | addCtrl x w =>
    simp only [step] at h
    split at h
    · rename_i hk; exact addLike_move (addCtrl_addLike P.sh s.q x) (by rw [hk]; decide) (.inl rfl) h
    · cases h
  | priorCtrl x w =>
    simp only [step] at h
    split at h
    · rename_i hk; exact addLike_move (addPriorCtrl_addLike P.sh s.q x) (by rw [hk]; decide) (.inr rfl) h
    · cases h
  | close w =>
    simp only [step] at h
    split at h
    · cases h; exact .same
    · exact .close (.inl rfl) h
  | tryClose w =>
    simp only [step] at h
    split at h
    · rename_i hk
      split at h
      · cases h; exact .same
      · split at h
        · exact .close (.inr ⟨hk, rfl⟩) h
        · cases h; exact .same
    · cases h
  | tryClear =>
    simp only [step] at h
    split at h
    · cases h
      have := tryClear_frame s.q
      exact .quiet this.1 this.2.1 this.2.2
    · cases h
  | tryPop =>
    simp only [step] at h
    split at h
    · cases h
      have := syncTryPop_frame P.ssh s.q
      exact .steal this.1 this.2.1 this.2.2
    · cases h
  | popCall t b =>
    simp only [step] at h
    split at h
    · split at h
      · cases h
      · cases h; exact .call
    · cases h
  | resume t =>
    simp only [step] at h
    split at h
    · rename_i e he
      cases h
      have ht : e.1 = t := eq_of_beq (List.find?_some (p := fun x : Tid × Bool => x.1 == t) he)
      subst ht
      exact .resume (List.mem_of_find?_eq_some he)
    · cases h

/-- closed ⇒ nobody parked; open ⇒ if somebody is parked, every queued item is matched by a woken thread -/
def Inv (s : CS) : Prop :=
  (s.q.closed = true → s.parked = []) ∧
  (s.q.closed = false → s.parked ≠ [] → s.q.size ≤ s.woken.length)

def Inv' (P : Par) (s : CS) : Prop := Inv s ∧ (P.kind = .syncq → s.q.ctrl = [])

theorem inv_of_parked_nil {s : CS} (h : s.parked = []) : Inv s := ⟨fun _ => h, fun _ hne => absurd h hne⟩

theorem inv_init (q : LQ) : Inv (CS.init q) := inv_of_parked_nil rfl

theorem inv_of_shrink {P : Par} {s : CS} {q' : LQ} (hI : Inv' P s) (hc : q'.closed = s.q.closed)
    (hct : q'.ctrl = s.q.ctrl) (hrq : q'.req.length ≤ s.q.req.length) : Inv' P { s with q := q' } := by
  have hs : q'.size ≤ s.q.size := by
    rw [LQ.size, LQ.size, hct]
    exact Nat.add_le_add_left hrq _
  exact ⟨⟨fun h => hI.1.1 (hc ▸ h), fun h hp => Nat.le_trans hs (hI.1.2 (hc ▸ h) hp)⟩, fun hk => hct ▸ hI.2 hk⟩

/-- one more item, then a primitive that wakes: the woken thread pays for the item -/
theorem inv_insert {s s' : CS} {q' : LQ} {acc : List Nat} {p : Wake} {w : Tid} (hI : Inv s) (hp : p.wakes = true)
    (hc : q'.closed = s.q.closed) (hs : q'.size ≤ s.q.size + 1)
    (h : wake p w { s with q := q', accepted := acc } = some s') : Inv s' := by
  cases wake_woke h with
  | nobody h0 => exact inv_of_parked_nil (h0 hp)
  | all => exact inv_of_parked_nil rfl
  | one _ he =>
    refine ⟨fun hcl => ?_, fun hop _ => ?_⟩
    · have := hI.1 (hc ▸ hcl)
      rw [this] at he; cases he
    · have := hI.2 (hc ▸ hop) (List.ne_nil_of_mem he)
      simp only [List.length_append, List.length_singleton]
      omega

theorem inv_broadcast {s s' : CS} {w : Tid} (h : wake .broadcast w s = some s') : Inv s' := by
  cases wake_woke h with
  | nobody h0 => exact inv_of_parked_nil (h0 rfl)
  | all => exact inv_of_parked_nil rfl
  | one hp => cases hp

/-- a consumer at the loop test; `+ 1` because a resumed thread has just been removed from `woken` -/
theorem inv_enter (P : Par) (t : Tid) (a : Bool) (s : CS) (hk : P.kind = .syncq → s.q.ctrl = [])
    (h1 : s.q.closed = true → s.parked = [])
    (h2 : s.q.closed = false → s.parked ≠ [] → s.q.size ≤ s.woken.length + 1) :
    Inv' P (enter P.kind P.sh t a s) := by
  rcases enter_cases P.kind P.sh t a s with ⟨hc, hrq, hct, he⟩ | ⟨r, hr, he⟩ <;> rw [he]
  · have hct : s.q.ctrl = [] := Decidable.byCases hk hct
    refine ⟨⟨fun h => ?_, fun _ _ => ?_⟩, hk⟩
    · rw [hc] at h; cases h
    · simp [LQ.size, hct, hrq]
  · refine ⟨⟨fun h => h1 (ret_closed hr ▸ h), fun hop hne => ?_⟩, fun h => ret_ctrl_nil hr (hk h)⟩
    have hop' : s.q.closed = false := ret_closed hr ▸ hop
    have := h2 hop' hne
    have := ret_size hr hop'
    show r.1.size ≤ s.woken.length
    omega

theorem inv_step (P : Par) (hP : ProvedWake P.kind P.wk) (s s' : CS) (a : Act) (hI : Inv' P s)
    (h : step P s a = some s') : Inv' P s' := by
  obtain ⟨hadd, hprior, hclose, htc⟩ := hP
  cases step_move h with
  | quiet hc hct hrq => exact inv_of_shrink hI hc hct (Nat.le_of_eq (congrArg _ hrq))
  | steal hc hct hrq => exact inv_of_shrink hI hc hct hrq
  | @insert _ x w p q' _ hq hct hp hw =>
    have hpw : p.wakes = true := by rcases hp with rfl | rfl <;> assumption
    obtain ⟨hc, hs, -⟩ := addLike_ok hq
    refine ⟨inv_insert hI.1 hpw hc (Nat.le_of_eq hs) hw, fun hk => ?_⟩
    rw [(wake_frame hw).1]
    exact hct hk ▸ hI.2 hk
  | @close _ w p _ hp hw =>
    have hb : p = .broadcast := by
      rcases hp with rfl | ⟨hk, rfl⟩
      · exact hclose
      · exact htc hk
    rw [hb] at hw
    refine ⟨inv_broadcast hw, fun hk => ?_⟩
    rw [(wake_frame hw).1]
    exact hI.2 hk
  | call => exact inv_enter P _ _ s hI.2 hI.1.1 fun hc hp => Nat.le_succ_of_le (hI.1.2 hc hp)
  | resume he =>
    refine inv_enter P _ _ _ hI.2 hI.1.1 fun hc hp => ?_
    have := hI.1.2 hc hp
    have := List.length_erase_of_mem he
    have := List.length_pos_of_mem he
    show s.q.size ≤ (s.woken.erase _).length + 1
    omega

def CS.has (s : CS) (t : Tid) : Prop := t ∈ tids (s.parked ++ s.woken) ∨ t ∈ tids s.done

theorem woke_perm {p : Wake} {s s' : CS} (h : Woke p s s') : (s'.parked ++ s'.woken).Perm (s.parked ++ s.woken) := by
  cases h with
  | nobody => exact .refl _
  | all => exact (List.perm_append_comm : (s.woken ++ s.parked).Perm _)
  | one _ he =>
    have := (List.perm_cons_erase he).symm.append_right s.woken
    rw [← List.append_assoc]
    exact (List.perm_append_singleton _ _).trans this

theorem wake_has {p : Wake} {w : Tid} {s s' : CS} (h : wake p w s = some s') (t : Tid) (ht : s.has t) : s'.has t := by
  rw [CS.has, (wake_frame h).2.1]
  exact ht.imp_left ((woke_perm (wake_woke h)).map _).mem_iff.2

theorem mem_tids_erase {β} [DecidableEq β] {l : List (Tid × β)} {t : Tid} (e : Tid × β) (h : t ∈ tids l) :
    t ∈ tids (l.erase e) ∨ t = e.1 := by
  obtain ⟨y, hy, rfl⟩ := List.mem_map.1 h
  by_cases hye : y = e
  · exact .inr (hye ▸ rfl)
  · exact .inl (List.mem_map.2 ⟨y, (List.mem_erase_of_ne hye).2 hy, rfl⟩)

theorem enter_has (k : Kind) (sh : Shape) (t : Tid) (a : Bool) (s : CS) (u : Tid) (hu : s.has u ∨ u = t) :
    (enter k sh t a s).has u := by
  simp only [CS.has, tids, List.map_append, List.mem_append] at hu
  rcases enter_cases k sh t a s with ⟨_, _, _, he⟩ | ⟨r, _, he⟩ <;> rw [he]
  · simp only [CS.has, tids, List.map_append, List.mem_append, List.map_cons, List.map_nil, List.mem_singleton]
    rcases hu with ((h | h) | h) | h
    · exact .inl (.inl (.inl h))
    · exact .inl (.inr h)
    · exact .inr h
    · exact .inl (.inl (.inr h))
  · simp only [CS.has, tids, List.map_append, List.mem_append, List.map_cons, List.mem_cons]
    rcases hu with (h | h) | h
    · exact .inl h
    · exact .inr (.inr h)
    · exact .inr (.inl h)

theorem step_has {P : Par} {s s' : CS} {a : Act} (h : step P s a = some s') (t : Tid) (ht : s.has t) : s'.has t := by
  cases step_move h with
  | quiet => exact ht
  | steal => exact ht
  | insert _ _ _ hw => exact wake_has hw t ht
  | close _ hw => exact wake_has hw t ht
  | call => exact enter_has _ _ _ _ s t (.inl ht)
  | @resume e _ =>
    apply enter_has
    simp only [CS.has, tids, List.map_append, List.mem_append] at ht ⊢
    rcases ht with (ht | ht) | ht
    · exact .inl (.inl (.inl ht))
    · exact (mem_tids_erase e ht).imp (fun h => .inl (.inr h)) id
    · exact .inl (.inr ht)

theorem enter_closed (k : Kind) (sh : Shape) (t : Tid) (a : Bool) (s : CS) : (enter k sh t a s).q.closed = s.q.closed := by
  rcases enter_cases k sh t a s with ⟨_, _, _, he⟩ | ⟨r, hr, he⟩ <;> rw [he]
  exact ret_closed hr

theorem enter_woken (k : Kind) (sh : Shape) (t : Tid) (a : Bool) (s : CS) : (enter k sh t a s).woken = s.woken := by
  rcases enter_cases k sh t a s with ⟨_, _, _, he⟩ | ⟨r, _, he⟩ <;> rw [he]

theorem step_closed {P : Par} {s s' : CS} {a : Act} (h : step P s a = some s') (hc : s.q.closed = true) :
    s'.q.closed = true := by
  cases step_move h with
  | quiet hq => exact hq ▸ hc
  | steal hq => exact hq ▸ hc
  | insert hq _ _ hw => rw [(wake_frame hw).1]; exact (addLike_ok hq).1 ▸ hc
  | close _ hw => rw [(wake_frame hw).1]; rfl
  | call => rw [enter_closed]; exact hc
  | resume => rw [enter_closed]; exact hc

theorem step_resume (P : Par) (s : CS) (e : Tid × Bool) (he : s.woken.find? (fun x => x.1 == e.1) = some e) :
    step P s (.resume e.1) = some (enter P.kind P.sh e.1 e.2 { s with woken := s.woken.erase e }) := by
  simp only [step, he]

theorem close_sets_closed (P : Par) (s s' : CS) (w : Tid) (h : step P s (.close w) = some s') : s'.q.closed = true := by
  simp only [step] at h
  split at h
  · rename_i hc; cases h; exact hc
  · rw [(wake_frame h).1]; rfl

theorem run_preserves (P : Par) (q0 : LQ) (R : CS → Prop) (hR : ∀ {s a s'}, step P s a = some s' → R s → R s') :
    ∀ (as : List Act) (s s' : CS), (lts P q0).run s as = some s' → R s → R s'
  | [], s, s', h, hs => by cases h; exact hs
  | a :: as, s, s', h, hs => by
    simp only [LTS.run] at h
    split at h
    · cases h
    · rename_i s1 hs1
      exact run_preserves P q0 R hR as s1 s' h (hR hs1 hs)

def vals : List (Tid × Out) → List Nat
  | [] => []
  | (_, .val v) :: r => v :: vals r
  | _ :: r => vals r

theorem vals_cons (t : Tid) (o : Out) (r : List (Tid × Out)) : vals ((t, o) :: r) = outVal o ++ vals r := by
  cases o <;> rfl

theorem ret_count {q : LQ} {r : LQ × Out} (h : Ret q r) (y : Nat) :
    (outVal r.2).count y + r.1.items.count y = q.items.count y := by
  cases h with
  | closed _ hv => rw [hv]; exact Nat.zero_add _
  | took ht =>
    have := took_conserves ht y
    simp only [outVal, List.count_cons, List.count_nil, beq_iff_eq]
    omega

def Cons (s : CS) : Prop := ∀ y, (vals s.done).count y + s.q.items.count y = s.accepted.count y

theorem cons_init (q : LQ) (h : q.ctrl = [] ∧ q.req = []) : Cons (CS.init q) := by
  intro y; simp [CS.init, vals, LQ.items, h.1, h.2]

theorem cons_wake {p : Wake} {w : Tid} {s s' : CS} (h : wake p w s = some s') (hC : Cons s) : Cons s' := by
  obtain ⟨h1, h2, h3⟩ := wake_frame h
  intro y; rw [h1, h2, h3]; exact hC y

theorem cons_enter (k : Kind) (sh : Shape) (t : Tid) (a : Bool) (s : CS) (hC : Cons s) :
    Cons (enter k sh t a s) := by
  rcases enter_cases k sh t a s with ⟨_, _, _, he⟩ | ⟨r, hr, he⟩ <;> rw [he]
  · exact hC
  · intro y
    have := ret_count hr y
    have := hC y
    simp only [vals_cons, List.count_append]
    omega

theorem cons_step (P : Par) (s s' : CS) (a : Act) (ha : a ≠ .tryPop) (hC : Cons s) (h : step P s a = some s') :
    Cons s' := by
  cases step_move h with
  | quiet _ hct hrq => intro y; simp only [LQ.items, hct, hrq]; exact hC y
  | steal => exact absurd rfl ha
  | insert hq _ _ hw =>
    refine cons_wake hw fun y => ?_
    have := (addLike_ok hq).2.2 y
    have := hC y
    simp only [count_insert, List.append_nil]
    omega
  | close _ hw => exact cons_wake hw hC
  | call => exact cons_enter _ _ _ _ s hC
  | resume => exact cons_enter _ _ _ _ _ hC

def DoneVal (s : CS) : Prop := s.q.closed = false → ∀ d ∈ s.done, ∃ v, d.2 = .val v

theorem doneVal_enter (k : Kind) (sh : Shape) (t : Tid) (a : Bool) (s : CS) (h : DoneVal s) :
    DoneVal (enter k sh t a s) := by
  rcases enter_cases k sh t a s with ⟨_, _, _, he⟩ | ⟨r, hr, he⟩ <;> rw [he]
  · exact h
  · intro hc d hd
    have hc' : s.q.closed = false := ret_closed hr ▸ hc
    rcases List.mem_cons.1 hd with rfl | hd
    · cases hr with
      | closed hcl => rw [hcl] at hc'; cases hc'
      | took => exact ⟨_, rfl⟩
    · exact h hc' d hd

theorem doneVal_step (P : Par) (s s' : CS) (a : Act) (hD : DoneVal s) (h : step P s a = some s') : DoneVal s' := by
  cases step_move h with
  | quiet hc => exact fun h => hD (hc ▸ h)
  | steal hc => exact fun h => hD (hc ▸ h)
  | insert hq _ _ hw =>
    obtain ⟨h1, h2, -⟩ := wake_frame hw
    intro hc
    rw [h2]
    rw [h1] at hc
    exact hD ((addLike_ok hq).1 ▸ hc)
  | close _ hw =>
    intro hc
    rw [(wake_frame hw).1] at hc
    cases hc
  | call => exact doneVal_enter _ _ _ _ s hD
  | resume => exact doneVal_enter _ _ _ _ _ hD

theorem vals_length_of_all_val : ∀ (l : List (Tid × Out)), (∀ d ∈ l, ∃ v, d.2 = .val v) → (vals l).length = l.length
  | [], _ => rfl
  | (t, o) :: r, h => by
    obtain ⟨v, hv⟩ := h (t, o) List.mem_cons_self
    simp only at hv; subst hv
    simp [vals, vals_length_of_all_val r (fun d hd => h d (List.mem_cons_of_mem _ hd))]

/-- a non-empty queue has a token in the channel, or somebody on the way to put one there, or a consumer
    that took one and has not popped yet -/
def PInv (s : PS) : Prop :=
  s.q.entries ≠ [] → (s.token = true ∨ 0 < s.pushGap ∨ 0 < s.popGap ∨ 0 < s.holders)

theorem pinv_init (cap : Int) : PInv (PS.init cap) := fun h => absurd rfl h

theorem pqPush_refused (sh : PriShape) (q : PQ) (x : Nat) (p : Int) (h : (pqPush sh q x p).2 ≠ .ok) :
    (pqPush sh q x p).1 = q := by
  unfold pqPush at h ⊢
  split
  · rfl
  · rename_i hf; rw [if_neg hf] at h; exact absurd rfl h

theorem pqPop_none (sh : PriShape) (q : PQ) (h : (pqPop sh q).2 = none) : (pqPop sh q).1.entries = [] := by
  unfold pqPop at h ⊢
  split
  · assumption
  · rename_i he; rw [he] at h; cases h

theorem pinv_step (sh : PriShape) (pc : PriCfg) (hp : ProvedPri pc) (s s' : PS) (a : PAct) (hI : PInv s)
    (h : pstepC sh pc s a = some s') : PInv s' := by
  obtain ⟨hpush, hpop⟩ := hp
  cases a with
  | pushLock x p =>
    simp only [pstepC, hpush] at h
    split at h
    · cases h; exact fun _ => .inr (.inl (Nat.succ_pos _))
    · rename_i hno
      cases h
      rw [pqPush_refused sh s.q x p hno]
      exact hI
  | pushSignal =>
    simp only [pstepC] at h
    split at h
    · cases h; exact fun _ => .inl rfl
    · cases h
  | popLock hd =>
    -- `split` is slow on this branch (two `let`s under the test)
    rw [pstepC] at h
    by_cases hg : (hd && s.holders == 0) = true
    · rw [if_pos hg] at h; cases h
    · rw [if_neg hg] at h
      intro hne
      cases hr : (pqPop sh s.q).2 with
      | none =>
        simp only [hr] at h
        cases h
        exact absurd (pqPop_none sh s.q hr) hne
      | some m =>
        simp only [hr] at h
        cases h
        -- entries remain, so this `Pop` goes on to re-signal
        have : (pqPop sh s.q).1.entries.isEmpty = false := List.isEmpty_eq_false_iff.2 hne
        refine .inr (.inr (.inl ?_))
        show 0 < s.popGap + if (pc.popResignals && !(pqPop sh s.q).1.entries.isEmpty) = true then 1 else 0
        rw [hpop, this]
        exact Nat.succ_pos _
  | popSignal =>
    simp only [pstepC] at h
    split at h
    · cases h; exact fun _ => .inl rfl
    · cases h
  | recv =>
    simp only [pstepC] at h
    split at h
    · cases h; exact fun _ => .inr (.inr (.inr (Nat.succ_pos _)))
    · cases h

end Nv.C13
