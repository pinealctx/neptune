import Nv.Model.C12
/-! C12 — the bookkeeping functions of the history-level theorems (what a call hands out, what it takes in), and
what each critical section of the list queues does to the two lists, stated once for every shape. -/
namespace Nv.C12

def LQ.items (s : LQ) : List Nat := s.ctrl ++ s.req

def popCount (y : Nat) : Out → Nat
  | .val v => if v = y then 1 else 0
  | .spun l _ => l.count y          -- items taken to make room for a retrying `*Anyway` add
  | _ => 0

/-- the add was accepted: at once, or after retrying while full -/
def okOut : Out → Bool
  | .ok => true
  | .spun _ .ok => true
  | _ => false

/-- 1 when the step is an add of `y` that was accepted (SyncQueue: not dropped because closed) -/
def addCount (y : Nat) (s : LQ) (op : Op) (o : Out) : Nat :=
  match op with
  | .add x | .prior x | .addCtrl x | .priorCtrl x | .addAny x _ | .addCtrlAny x _ =>
    if x = y ∧ okOut o = true ∧ (s.kind = .syncq → s.closed = false) then 1 else 0
  | _ => 0

def poppedOf : Out → List Nat
  | .val v => [v]
  | .spun l _ => l
  | _ => []

/-- the item an accepted back-insertion appends (SyncQueue: `Push` answers ok but drops the item when closed) -/
def acceptedOf (s : LQ) (op : Op) (o : Out) : List Nat :=
  match op with
  | .add x | .addAny x _ => if okOut o = true ∧ (s.kind = .syncq → s.closed = false) then [x] else []
  | _ => []

def noFront : Op → Bool
  | .prior _ | .addCtrl _ | .priorCtrl _ | .addCtrlAny _ _ => false
  | _ => true

theorem popCount_eq (y : Nat) (o : Out) : popCount y o = (poppedOf o).count y := by
  cases o <;> simp [popCount, poppedOf, List.count_cons]

theorem addReq_cases (sh : Shape) (s : LQ) (x : Nat) :
    addReq sh s x = (s, .closed) ∨ addReq sh s x = (s, .full) ∨
    (fullAt s.reqCap s.req.length = false ∧ addReq sh s x = ({ s with req := s.req ++ [x] }, .ok)) := by
  unfold addReq
  cases sh.addClosedFirst <;> cases s.closed <;> cases fullAt s.reqCap s.req.length <;> simp

def AddLike (x : Nat) (s : LQ) (r : LQ × Out) : Prop :=
  (r.1 = s ∧ okOut r.2 = false ∧ poppedOf r.2 = []) ∨
  (r.2 = .ok ∧ r.1.closed = s.closed ∧ ∃ a b, s.items = a ++ b ∧ r.1.items = a ++ x :: b)

theorem addLike_refused {x : Nat} {s : LQ} {o : Out} (h1 : okOut o = false) (h2 : poppedOf o = []) :
    AddLike x s (s, o) := .inl ⟨rfl, h1, h2⟩

theorem addLike_back (s : LQ) (x : Nat) : AddLike x s ({ s with req := s.req ++ [x] }, .ok) :=
  .inr ⟨rfl, rfl, s.items, [], by simp, by simp [LQ.items]⟩

theorem addReq_addLike (sh : Shape) (s : LQ) (x : Nat) : AddLike x s (addReq sh s x) := by
  rcases addReq_cases sh s x with h | h | ⟨_, h⟩ <;> rw [h]
  · exact addLike_refused rfl rfl
  · exact addLike_refused rfl rfl
  · exact addLike_back s x

theorem addPrior_addLike (sh : Shape) (s : LQ) (x : Nat) : AddLike x s (addPrior sh s x) := by
  unfold addPrior
  split
  · exact addLike_refused rfl rfl
  · split
    · exact addLike_refused rfl rfl
    · exact .inr ⟨rfl, rfl, s.ctrl, s.req, rfl, rfl⟩

theorem addCtrl_cases (sh : Shape) (s : LQ) (x : Nat) :
    addCtrl sh s x = (s, .closed) ∨ addCtrl sh s x = (s, .ctrlFull) ∨
    addCtrl sh s x = ({ s with ctrl := s.ctrl ++ [x] }, .ok) := by
  unfold addCtrl
  cases sh.addClosedFirst <;> cases s.closed <;> cases fullAt s.ctrlCap s.ctrl.length <;> simp

theorem addCtrl_addLike (sh : Shape) (s : LQ) (x : Nat) : AddLike x s (addCtrl sh s x) := by
  rcases addCtrl_cases sh s x with h | h | h <;> rw [h]
  · exact addLike_refused rfl rfl
  · exact addLike_refused rfl rfl
  · exact .inr ⟨rfl, rfl, s.ctrl, s.req, rfl, by simp [LQ.items]⟩

theorem addPriorCtrl_addLike (sh : Shape) (s : LQ) (x : Nat) : AddLike x s (addPriorCtrl sh s x) := by
  unfold addPriorCtrl
  split
  · exact addLike_refused rfl rfl
  · split
    · exact addLike_refused rfl rfl
    · exact .inr ⟨rfl, rfl, [], s.items, rfl, rfl⟩

theorem syncPush_cases (sh : SyncShape) (hg : sh.pushGuardsClosed = true) (s : LQ) (x : Nat) :
    (s.closed = true ∧ syncPush sh s x = s) ∨ (s.closed = false ∧ syncPush sh s x = { s with req := s.req ++ [x] }) := by
  cases hc : s.closed <;> simp [syncPush, hg, hc]

inductive Took (v : Nat) : LQ → LQ → Prop
  | ctrl (k cs req cc rc cl clr) : Took v ⟨k, v :: cs, req, cc, rc, cl, clr⟩ ⟨k, cs, req, cc, rc, cl, clr⟩
  | req (k ctrl rs cc rc cl clr) : Took v ⟨k, ctrl, v :: rs, cc, rc, cl, clr⟩ ⟨k, ctrl, rs, cc, rc, cl, clr⟩

def PopLike (s : LQ) (r : LQ × Out) : Prop :=
  (r.1.ctrl = s.ctrl ∧ r.1.req = s.req ∧ r.1.reqCap = s.reqCap ∧ poppedOf r.2 = []) ∨ ∃ v, r.2 = .val v ∧ Took v s r.1

theorem popLike_idle {s : LQ} {o : Out} (h : poppedOf o = []) : PopLike s (s, o) := .inl ⟨rfl, rfl, rfl, h⟩

theorem popLike_idle_ite {s : LQ} {c : Prop} [Decidable c] {a b : Out} (ha : poppedOf a = []) (hb : poppedOf b = []) :
    PopLike s (if c then (s, a) else (s, b)) := by
  split
  · exact popLike_idle ha
  · exact popLike_idle hb

theorem poppedOf_wait (b : Bool) : poppedOf (if b then .ok else .wouldBlock) = [] := by
  cases b <;> rfl

theorem takeFront_took (sh : Shape) (s : LQ) (h : s.isEmpty = false) :
    ∃ v t, takeFront sh s = (t, .val v) ∧ Took v s t := by
  obtain ⟨k, ctrl, req, cc, rc, cl, clr⟩ := s
  unfold takeFront
  cases ctrl with
  | nil =>
    cases req with
    | nil => simp [LQ.isEmpty] at h
    | cons r rs => exact ⟨r, _, by simp, .req ..⟩
  | cons c cs =>
    cases req with
    | nil => exact ⟨c, _, by simp, .ctrl ..⟩
    | cons r rs =>
      cases sh.ctrlFirst
      · exact ⟨r, _, by simp, .req ..⟩
      · exact ⟨c, _, by simp, .ctrl ..⟩

theorem popNow_cases (sh : Shape) (anyway : Bool) (s : LQ) :
    (s.closed = false ∧ s.ctrl = [] ∧ s.req = [] ∧ popNow sh anyway s = none) ∨
    (s.closed = true ∧ popNow sh anyway s = some (s, .closed)) ∨
    ∃ v t, popNow sh anyway s = some (t, .val v) ∧ Took v s t := by
  unfold popNow
  cases he : s.isEmpty
  · cases hg : (!anyway && sh.popChecksClosed && s.closed)
    · obtain ⟨v, t, h, ht⟩ := takeFront_took sh s he
      exact .inr (.inr ⟨v, t, by simp [h], ht⟩)
    · exact .inr (.inl ⟨(Bool.and_eq_true_iff.1 hg).2, rfl⟩)
  · cases hc : s.closed
    · simp only [LQ.isEmpty, Bool.and_eq_true, List.isEmpty_iff] at he
      exact .inl ⟨rfl, he.1, he.2, rfl⟩
    · exact .inr (.inl ⟨rfl, rfl⟩)

theorem popNow_took {sh : Shape} {a : Bool} {s t : LQ} {v : Nat} (h : popNow sh a s = some (t, .val v)) :
    Took v s t := by
  rcases popNow_cases sh a s with ⟨_, _, _, e⟩ | ⟨_, e⟩ | ⟨v', t', e, ht⟩ <;> rw [e] at h
  · cases h
  · cases h
  · cases h; exact ht

theorem pop_popLike (sh : Shape) (anyway : Bool) (s : LQ) : PopLike s (orBlock s (popNow sh anyway s)) := by
  rcases popNow_cases sh anyway s with ⟨_, _, _, h⟩ | ⟨_, h⟩ | ⟨v, t, h, ht⟩ <;> rw [h]
  · exact popLike_idle rfl
  · exact popLike_idle rfl
  · exact .inr ⟨v, rfl, ht⟩

/-- one pass of `SyncQueue.Pop`, which looks at the request list only -/
theorem syncPopNow_cases (s : LQ) :
    (s.closed = false ∧ s.req = [] ∧ syncPopNow s = none) ∨ (s.closed = true ∧ syncPopNow s = some (s, .nil)) ∨
    ∃ v t, syncPopNow s = some (t, .val v) ∧ Took v s t := by
  obtain ⟨k, ctrl, req, cc, rc, cl, clr⟩ := s
  unfold syncPopNow
  cases req with
  | cons r rs => exact .inr (.inr ⟨r, _, rfl, .req ..⟩)
  | nil =>
    cases cl
    · exact .inl ⟨rfl, rfl, rfl⟩
    · exact .inr (.inl ⟨rfl, rfl⟩)

theorem syncPop_popLike (s : LQ) : PopLike s (orBlock s (syncPopNow s)) := by
  rcases syncPopNow_cases s with ⟨_, _, h⟩ | ⟨_, h⟩ | ⟨v, t, h, ht⟩ <;> rw [h]
  · exact popLike_idle rfl
  · exact popLike_idle rfl
  · exact .inr ⟨v, rfl, ht⟩

theorem syncTryPop_popLike (sh : SyncShape) (s : LQ) : PopLike s (syncTryPop sh s) := by
  obtain ⟨k, ctrl, req, cc, rc, cl, clr⟩ := s
  unfold syncTryPop
  cases sh.tryPopItemsFirst <;> cases cl <;> cases req
  all_goals first
    | exact popLike_idle rfl
    | exact .inr ⟨_, rfl, .req ..⟩

theorem tryClose_popLike (s : LQ) : PopLike s (tryClose s) := by
  unfold tryClose
  split
  · exact popLike_idle rfl
  · split <;> exact .inl ⟨rfl, rfl, rfl, rfl⟩

theorem tryClear_popLike (s : LQ) : PopLike s (tryClear s) := by
  unfold tryClear
  split
  · exact popLike_idle rfl
  · split <;> exact .inl ⟨rfl, rfl, rfl, rfl⟩

def Op.offer : Op → Option Nat
  | .add x | .prior x | .addCtrl x | .priorCtrl x | .addAny x _ | .addCtrlAny x _ => some x
  | _ => none

theorem stepPipe_popLike (sh : Shape) (k : Kind) (s : LQ) (op : Op) (h : op.offer = none) :
    PopLike s (stepPipe sh k s op) := by
  cases op with
  | pop => exact pop_popLike sh false s
  | popAnyway => exact pop_popLike sh true s
  | close => exact .inl ⟨rfl, rfl, rfl, rfl⟩
  | isClosed | size => exact popLike_idle_ite rfl rfl
  | waitClose => exact popLike_idle_ite (poppedOf_wait _) rfl
  | add | prior | addCtrl | priorCtrl | addAny | addCtrlAny => cases h
  | _ => exact popLike_idle rfl

theorem stepMQ_popLike (sh : Shape) (s : LQ) (op : Op) (h : op.offer = none) : PopLike s (stepMQ sh s op) := by
  cases op with
  | pop => exact pop_popLike sh false s
  | popAnyway => exact pop_popLike sh true s
  | close => exact .inl ⟨rfl, rfl, rfl, rfl⟩
  | tryClose => exact tryClose_popLike s
  | tryClear => exact tryClear_popLike s
  | waitClose | waitClear => exact popLike_idle (poppedOf_wait _)
  | add | prior | addCtrl | priorCtrl | addAny | addCtrlAny => cases h
  | _ => exact popLike_idle rfl

theorem stepSync_popLike (sh : SyncShape) (s : LQ) (op : Op) (h : op.offer = none) :
    PopLike s (stepSync sh s op) := by
  cases op with
  | pop => exact syncPop_popLike s
  | tryPop => exact syncTryPop_popLike sh s
  | close => exact .inl ⟨rfl, rfl, rfl, rfl⟩
  | add | prior | addCtrl | priorCtrl | addAny | addCtrlAny => cases h
  | _ => exact popLike_idle rfl

theorem okOut_spinEnd {o : Out} (h : okOut o = false) (l : List Nat) : okOut (.spun l (spinEnd o)) = false := by
  cases o <;> first | rfl | cases h

/-- Proof rule for an `*Anyway` add. `I t acc` relates a queue `t` reached while retrying to the items `acc` taken out
    so far (latest first); `Q` is what is wanted of the result. `hadd` is used where the retrying ends: after a pop
    that made room, and when the queue was closed instead (then the add may still answer "full": shapes that test the
    bound first). -/
theorem addAnyway_rule {add : LQ → LQ × Out} {popA : LQ → Option (LQ × Out)} {I : LQ → List Nat → Prop}
    {Q : LQ × Out → Prop} {s : LQ} (hs : I s []) (hclose : I (closeQ s) [])
    (hpop : ∀ t acc t' v, I t acc → popA t = some (t', .val v) → I t' (v :: acc))
    (hstop : ∀ t acc, I t acc → Q (t, .spun acc.reverse .forever))
    (hadd : ∀ t acc, I t acc → Q ((add t).1, .spun acc.reverse (spinEnd (add t).2)))
    (hnow : Q (add s)) (rp : Bool) : Q (addAnyway add popA rp s) := by
  have drain : ∀ (n : Nat) (t : LQ) (acc : List Nat), I t acc → Q (drainFor add popA n t acc) := by
    intro n
    induction n with
    | zero => exact hstop
    | succ n ih =>
      intro t acc h
      unfold drainFor
      split
      · next t' v hp =>
        have h' := hpop t acc t' v h hp
        cases hf : isFullOut (add t').2
        · simpa only [hf, Bool.false_eq_true, ↓reduceIte] using hadd t' (v :: acc) h'
        · simpa only [hf, ↓reduceIte] using ih t' (v :: acc) h'
      · exact hstop t acc h
  cases hf : isFullOut (add s).2
  · simpa only [addAnyway, hf, Bool.not_false, ↓reduceIte] using hnow
  · cases rp
    · simpa only [addAnyway, hf, Bool.not_true, Bool.false_eq_true, ↓reduceIte, List.reverse_nil] using
        hadd (closeQ s) [] hclose
    · simpa only [addAnyway, hf, Bool.not_true, Bool.false_eq_true, ↓reduceIte] using drain _ s [] hs

end Nv.C12
