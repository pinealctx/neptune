import Nv.Model.C10
/-!
C10 — lemmas for `Nv/Props/C10.lean`. Each primitive of the model (`bufRead`, `bufNext`, the varint loops, `pull`,
`streamRead` under `io.ReadFull`) gets its equations for "enough bytes" and "too few bytes" once; the typed reads,
the truncation results and the stream/buffer simulation are read off from those. Core Lean only.
-/
namespace Nv.C10

section Out
variable {α β γ : Type}

@[simp] theorem Out.map_ok (f : α → β) (v : α) : (Out.ok v).map f = .ok (f v) := rfl
@[simp] theorem Out.map_err (f : α → β) (e : Err) : (Out.err e : Out α).map f = .err e := rfl

theorem Out.map_map (f : α → β) (g : β → γ) (o : Out α) : (o.map f).map g = o.map (fun x => g (f x)) := by
  cases o <;> rfl

theorem Out.map_isErr (f : α → β) {o : Out α} (h : ∃ e, o = .err e) : ∃ e, o.map f = .err e := by
  obtain ⟨e, rfl⟩ := h
  exact ⟨e, rfl⟩

variable [DecidableEq α] [DecidableEq β]

theorem Out.agree_refl (a : Out α) : a.agree a = true := by
  cases a <;> simp [Out.agree]

theorem Out.agree_symm {a b : Out α} (h : a.agree b = true) : b.agree a = true := by
  cases a <;> cases b <;> simp_all [Out.agree]

theorem Out.agree_trans {a b c : Out α} (h1 : a.agree b = true) (h2 : b.agree c = true) : a.agree c = true := by
  cases a <;> cases b <;> cases c <;> simp_all [Out.agree]

theorem Out.agree_map (f : α → β) {a b : Out α} (h : a.agree b = true) : (a.map f).agree (b.map f) = true := by
  cases a <;> cases b <;> simp_all [Out.agree]

theorem Out.agree_ok {a : Out α} {v : α} (h : a.agree (.ok v) = true) : a = .ok v := by
  cases a <;> simp_all [Out.agree]

theorem Out.agree_err {a : Out α} {e : Err} (h : a.agree (.err e) = true) : ∃ e', a = .err e' := by
  cases a with
  | ok v => simp [Out.agree] at h
  | err e' => exact ⟨e', rfl⟩

end Out

theorem leBytes_length (n x : Nat) : (leBytes n x).length = n := by
  induction n generalizing x with
  | zero => rfl
  | succ n ih => simp [leBytes, ih]

theorem leVal_leBytes (n x : Nat) : leVal (leBytes n x) = x % 256 ^ n := by
  induction n generalizing x with
  | zero => simp [leBytes, leVal, Nat.mod_one]
  | succ n ih =>
    simp only [leBytes, leVal, ih]
    have h256 : 256 ^ (n + 1) = 256 * 256 ^ n := by rw [Nat.pow_succ, Nat.mul_comm]
    rw [h256, Nat.mod_mul]
    simp

theorem leVal_lt (bs : Bytes) : leVal bs < 256 ^ bs.length := by
  induction bs with
  | nil => simp [leVal]
  | cons b bs ih =>
    have hb := b.toNat_lt
    simp only [leVal, List.length_cons, Nat.pow_succ]
    omega

theorem bufRead_of_le {n : Nat} {bs : Bytes} (h : n ≤ bs.length) : bufRead n bs = (.ok (bs.take n), bs.drop n) := by
  unfold bufRead
  by_cases h0 : n = 0
  · subst n; rfl
  · have hne : ¬ bs.isEmpty = true := fun he => by
      rw [List.isEmpty_iff.1 he] at h
      exact h0 (Nat.le_zero.1 h)
    rw [if_neg h0, if_neg hne, if_neg (Nat.not_lt.2 h)]

theorem bufRead_of_lt {n : Nat} {bs : Bytes} (h : bs.length < n) :
    bufRead n bs = (.err (if bs.isEmpty then .eof else .empty), []) := by
  unfold bufRead
  rw [if_neg (Nat.ne_zero_of_lt h)]
  cases bs with
  | nil => rfl
  | cons b t => rw [if_neg (by simp), if_pos h]; rfl

theorem bufNext_of_le {n : Nat} {bs : Bytes} (h : n ≤ bs.length) : bufNext n bs = (.ok (bs.take n), bs.drop n) :=
  if_neg (Nat.not_lt.2 h)

theorem bufNext_of_lt {n : Nat} {bs : Bytes} (h : bs.length < n) : bufNext n bs = (.err .empty, []) :=
  if_pos h

theorem take_short {n w : Nat} (l : Bytes) (h : n < w) : (l.take n).length < w :=
  Nat.lt_of_le_of_lt (List.length_take_le n l) h

theorem bufRead_append (e rest : Bytes) : bufRead e.length (e ++ rest) = (.ok e, rest) := by
  rw [bufRead_of_le (by simp), List.take_left, List.drop_left]

theorem bufNext_append (e rest : Bytes) : bufNext e.length (e ++ rest) = (.ok e, rest) := by
  rw [bufNext_of_le (by simp), List.take_left, List.drop_left]

theorem bufFixed_leBytes (n x : Nat) (rest : Bytes) :
    bufFixed n (leBytes n x ++ rest) = (.ok (x % 256 ^ n), rest) := by
  have h := bufRead_append (leBytes n x) rest
  rw [leBytes_length] at h
  simp [bufFixed, h, leVal_leBytes]

theorem bufFixed_of_lt {n : Nat} {bs : Bytes} (h : bs.length < n) :
    bufFixed n bs = (.err (if bs.isEmpty then .eof else .empty), []) := by
  simp [bufFixed, bufRead_of_lt h]

theorem bufRead_suffix (n : Nat) (bs : Bytes) : (bufRead n bs).2 <:+ bs := by
  by_cases h : n ≤ bs.length
  · rw [bufRead_of_le h]; exact List.drop_suffix _ _
  · rw [bufRead_of_lt (Nat.lt_of_not_le h)]; exact List.nil_suffix

theorem bufNext_suffix (n : Nat) (bs : Bytes) : (bufNext n bs).2 <:+ bs := by
  by_cases h : n ≤ bs.length
  · rw [bufNext_of_le h]; exact List.drop_suffix _ _
  · rw [bufNext_of_lt (Nat.lt_of_not_le h)]; exact List.nil_suffix

theorem bufReadByte_suffix (bs : Bytes) : (bufReadByte bs).2 <:+ bs := by
  cases bs with
  | nil => exact List.nil_suffix
  | cons b rest => exact List.suffix_cons _ _

theorem bufReadByte_eq (bs : Bytes) :
    bufReadByte bs = ((bufRead 1 bs).1.map (fun p => p.headD 0), (bufRead 1 bs).2) := by
  cases bs with
  | nil => rfl
  | cons a t => simp [bufReadByte, bufRead]

/-- `Read` and `Next` differ only in the error they report on a drained buffer -/
theorem bufRead_vs_bufNext (n : Nat) (bs : Bytes) :
    Out.agree (bufRead n bs).1 (bufNext n bs).1 = true ∧ (bufRead n bs).2 = (bufNext n bs).2 := by
  by_cases h : n ≤ bs.length
  · rw [bufRead_of_le h, bufNext_of_le h]; exact ⟨Out.agree_refl _, rfl⟩
  · rw [bufRead_of_lt (Nat.lt_of_not_le h), bufNext_of_lt (Nat.lt_of_not_le h)]; exact ⟨rfl, rfl⟩

theorem uvarintEncF_small (f : Nat) {x : Nat} (h : x < 128) : uvarintEncF f x = [UInt8.ofNat x] := by
  cases f <;> simp [uvarintEncF, h]

theorem uvarintEncF_big (f : Nat) {x : Nat} (h : ¬ x < 128) :
    uvarintEncF (f + 1) x = UInt8.ofNat (x % 128 + 128) :: uvarintEncF f (x / 128) := by
  rw [uvarintEncF, if_neg h]

theorem uvarintDecF_cont (k acc mul : Nat) {b : UInt8} (hb : 128 ≤ b.toNat) (rest : Bytes) :
    uvarintDecF (k + 1) acc mul (b :: rest) = uvarintDecF k (acc + (b.toNat - 128) * mul) (mul * 128) rest := by
  rw [uvarintDecF, if_neg (Nat.not_lt.2 hb)]

theorem toNat_ofNat_lt {x : Nat} (h : x < 256) : (UInt8.ofNat x).toNat = x := by
  rw [UInt8.toNat_ofNat', Nat.mod_eq_of_lt h]

theorem div128_lt {x k : Nat} (h : x < 2 * 128 ^ (k + 1)) : x / 128 < 2 * 128 ^ k := by
  rw [Nat.pow_succ, ← Nat.mul_assoc, Nat.mul_comm] at h
  exact Nat.div_lt_of_lt_mul h

theorem mul_split (x mul : Nat) : x % 128 * mul + x / 128 * (mul * 128) = x * mul := by
  rw [Nat.mul_comm mul, ← Nat.mul_assoc, ← Nat.add_mul, Nat.mul_comm (x / 128), Nat.mod_add_div]

/-- `ReadUvarint` takes back what `PutUvarint` wrote. With `k + 1` iterations left a value below `2 * 128 ^ k` fits:
    `k` bytes of seven bits and a last one that is 0 or 1, which is the overflow rule for the tenth byte. -/
theorem uvarintDecF_enc (k : Nat) : ∀ (f x acc mul : Nat) (rest : Bytes), x < 2 * 128 ^ k → k ≤ f →
    uvarintDecF (k + 1) acc mul (uvarintEncF f x ++ rest) = (.ok (acc + x * mul), rest) := by
  -- a last byte, without continuation bit; as the tenth byte it may only be 0 or 1
  have last : ∀ (k f x acc mul : Nat) (rest : Bytes), x < 128 → (k = 0 → x ≤ 1) →
      uvarintDecF (k + 1) acc mul (uvarintEncF f x ++ rest) = (.ok (acc + x * mul), rest) := by
    intro k f x acc mul rest hx hk
    have hb := toNat_ofNat_lt (Nat.lt_trans hx (by decide : 128 < 256))
    rw [uvarintEncF_small f hx, List.singleton_append, uvarintDecF, hb, if_pos hx,
      if_neg (fun h => Nat.not_lt.2 (hk h.1) h.2)]
  induction k with
  | zero =>
    intro f x acc mul rest hx _
    have hx2 : x < 2 := hx
    exact last 0 f x acc mul rest (Nat.lt_trans hx2 (by decide)) (fun _ => Nat.le_of_lt_succ hx2)
  | succ k ih =>
    intro f x acc mul rest hx hf
    cases f with
    | zero => exact absurd hf (Nat.not_succ_le_zero k)
    | succ f =>
      by_cases hlt : x < 128
      · exact last (k + 1) (f + 1) x acc mul rest hlt (fun h => absurd h (Nat.succ_ne_zero k))
      · have hm : x % 128 < 128 := Nat.mod_lt x (by decide)
        have hb : (UInt8.ofNat (x % 128 + 128)).toNat = x % 128 + 128 :=
          toNat_ofNat_lt (Nat.add_lt_add_right hm 128)
        rw [uvarintEncF_big f hlt, List.cons_append, uvarintDecF, hb, if_neg (Nat.not_lt.2 (Nat.le_add_left 128 _)),
          ih f (x / 128) _ _ rest (div128_lt hx) (Nat.le_of_succ_le_succ hf), Nat.add_sub_cancel, Nat.add_assoc,
          mul_split]

theorem uvarintDecF_uvarintEnc (x : UInt64) (rest : Bytes) :
    uvarintDecF 10 0 1 (uvarintEnc x ++ rest) = (.ok x.toNat, rest) := by
  have hx : x.toNat < 2 * 128 ^ 9 := x.toNat_lt
  have h := uvarintDecF_enc 9 9 x.toNat 0 1 rest hx (Nat.le_refl _)
  rw [Nat.zero_add, Nat.mul_one] at h
  exact h

theorem uvarint_roundtrip (x : UInt64) (rest : Bytes) : uvarintDec (uvarintEnc x ++ rest) = (.ok x, rest) := by
  simp [uvarintDec, uvarintDecF_uvarintEnc]

theorem zigzag_natCast (n : Nat) : zigzag (n : Int) = 2 * n := by
  rw [zigzag, if_pos (Int.natCast_nonneg n)]
  exact Int.toNat_natCast (2 * n)

theorem zigzag_negSucc (n : Nat) : zigzag (Int.negSucc n) = 2 * n + 1 := by
  -- `-2 * -(n + 1) - 1` computes to `(2 * n + 1) + 1 - 1`
  have : -2 * Int.negSucc n - 1 = ((2 * n + 1 : Nat) : Int) := Int.add_sub_cancel ((2 * n + 1 : Nat) : Int) 1
  rw [zigzag, if_neg (Int.negSucc_not_nonneg n).1, this, Int.toNat_natCast]

theorem unzigzag_zigzag (x : Int) : unzigzag (zigzag x) = x := by
  rcases x with n | n
  · rw [Int.ofNat_eq_natCast, zigzag_natCast, unzigzag, if_pos (Nat.mul_mod_right 2 n),
      Nat.mul_div_cancel_left n (by decide)]
  · have h1 : (2 * n + 1) % 2 = 1 := Nat.mul_add_mod 2 n 1
    have h2 : (2 * n + 1) / 2 = n := by rw [Nat.mul_add_div (by decide)]; rfl
    rw [zigzag_negSucc, unzigzag, if_neg (by rw [h1]; decide), h2, Int.negSucc_eq, Int.neg_add]
    rfl

theorem zigzag_lt (x : Int64) : zigzag x.toInt < 2 ^ 64 := by
  have h1 := x.le_toInt
  have h2 := x.toInt_lt
  unfold zigzag
  split <;> omega

theorem varint_roundtrip (x : Int64) (rest : Bytes) : varintDec (varintEnc x ++ rest) = (.ok x, rest) := by
  have hn : (UInt64.ofNat (zigzag x.toInt)).toNat = zigzag x.toInt := by
    simp [Nat.mod_eq_of_lt (zigzag_lt x)]
  simp [varintDec, varintEnc, uvarint_roundtrip, hn, unzigzag_zigzag]

/-- a varint read that used up its input fails on every strict prefix of it: the loop runs out of bytes -/
theorem uvarintDecF_trunc {k acc mul : Nat} {bs : Bytes} {v : Nat} (h : uvarintDecF k acc mul bs = (.ok v, []))
    {n : Nat} (hn : n < bs.length) : ∃ e, (uvarintDecF k acc mul (bs.take n)).1 = .err e := by
  induction bs generalizing k acc mul n with
  | nil => exact absurd hn (Nat.not_lt_zero n)
  | cons b rest ih =>
    cases k with
    | zero => exact nomatch (Prod.mk.inj h).1
    | succ k =>
      cases n with
      | zero => exact ⟨_, rfl⟩
      | succ n =>
        rw [uvarintDecF] at h
        rw [List.take_succ_cons, uvarintDecF]
        by_cases hb : b.toNat < 128
        · -- `b` ended the read, so nothing follows it
          rw [if_pos hb] at h
          rw [(Prod.mk.inj h).2] at hn
          exact absurd (Nat.lt_of_succ_lt_succ hn) (Nat.not_lt_zero n)
        · rw [if_neg hb] at h ⊢
          exact ih h (Nat.lt_of_succ_lt_succ hn)

theorem uvarintDec_trunc (x : UInt64) (n : Nat) (hn : n < (uvarintEnc x).length) :
    ∃ e, (uvarintDec ((uvarintEnc x).take n)).1 = .err e := by
  have h := uvarintDecF_uvarintEnc x []
  rw [List.append_nil] at h
  exact Out.map_isErr _ (uvarintDecF_trunc h hn)

theorem varintDec_trunc (x : Int64) (n : Nat) (hn : n < (varintEnc x).length) :
    ∃ e, (varintDec ((varintEnc x).take n)).1 = .err e :=
  Out.map_isErr _ (uvarintDec_trunc _ n hn)

theorem uvarintDecF_suffix (k acc mul : Nat) (bs : Bytes) : (uvarintDecF k acc mul bs).2 <:+ bs := by
  induction bs generalizing k acc mul with
  | nil => cases k <;> exact List.suffix_refl _
  | cons b rest ih =>
    cases k with
    | zero => exact List.suffix_refl _
    | succ k =>
      rw [uvarintDecF]
      by_cases hb : b.toNat < 128
      · rw [if_pos hb]; exact List.suffix_cons _ _
      · rw [if_neg hb]; exact List.IsSuffix.trans (ih _ _ _) (List.suffix_cons _ _)

theorem uvarintEncF_length_le (f x : Nat) : (uvarintEncF f x).length ≤ f + 1 := by
  induction f generalizing x with
  | zero => simp [uvarintEncF]
  | succ f ih =>
    by_cases h : x < 128
    · simp [uvarintEncF_small _ h]
    · simp [uvarintEncF_big f h, ih]

/-- the loop bound of `uvarintEncF` is never what stops it: once the fuel covers the value, more fuel changes nothing -/
theorem uvarintEncF_fuel {f g x : Nat} (hx : x < 2 * 128 ^ f) (hfg : f ≤ g) : uvarintEncF g x = uvarintEncF f x := by
  induction f generalizing g x with
  | zero =>
    have : x < 128 := Nat.lt_trans (show x < 2 from hx) (by decide)
    rw [uvarintEncF_small _ this, uvarintEncF_small _ this]
  | succ f ih =>
    cases g with
    | zero => exact absurd hfg (Nat.not_succ_le_zero f)
    | succ g =>
      by_cases hlt : x < 128
      · rw [uvarintEncF_small _ hlt, uvarintEncF_small _ hlt]
      · rw [uvarintEncF_big _ hlt, uvarintEncF_big _ hlt, ih (div128_lt hx) (Nat.le_of_succ_le_succ hfg)]

/-- continuation bytes only use up iterations -/
theorem uvarintDecF_skip (cs : Bytes) (hc : ∀ b ∈ cs, 128 ≤ b.toNat) (k acc mul : Nat) (rest : Bytes) :
    ∃ acc' mul', uvarintDecF (cs.length + k) acc mul (cs ++ rest) = uvarintDecF k acc' mul' rest := by
  induction cs generalizing acc mul with
  | nil => exact ⟨acc, mul, by simp⟩
  | cons b cs ih =>
    rw [List.length_cons, Nat.add_right_comm, List.cons_append, uvarintDecF_cont _ _ _ (hc b (by simp))]
    exact ih (fun x hx => hc x (by simp [hx])) _ _

/-- ten continuation bytes (`0xFF…`, `0x80…`): `ReadUvarint` reports overflow after consuming exactly those ten -/
theorem uvarint_ten_continuation_overflows (cs rest : Bytes) (hl : cs.length = 10)
    (hc : ∀ b ∈ cs, 128 ≤ b.toNat) : uvarintDec (cs ++ rest) = (.err .overflow, rest) := by
  obtain ⟨acc, mul, h⟩ := uvarintDecF_skip cs hc 0 0 1 rest
  rw [hl] at h
  simp [uvarintDec, h, uvarintDecF]

/-- nine continuation bytes and a tenth byte above 1: more than 64 bits — overflow -/
theorem uvarint_tenth_byte_overflows (cs rest : Bytes) (b : UInt8) (hl : cs.length = 9)
    (hc : ∀ x ∈ cs, 128 ≤ x.toNat) (h1 : b.toNat < 128) (h2 : 1 < b.toNat) : uvarintDec (cs ++ b :: rest) = (.err .overflow, rest) := by
  obtain ⟨acc, mul, h⟩ := uvarintDecF_skip cs hc 1 0 1 (b :: rest)
  rw [hl] at h
  simp [uvarintDec, h, uvarintDecF, h1, h2]

/-- all four BufferX varint readers report the overflow (never a value) -/
theorem decBuf_varint_overflow (ty : Ty) (hty : ty.isVarint = true) (bs rest : Bytes)
    (h : uvarintDec bs = (.err .overflow, rest)) : decBuf ty bs = (.err .overflow, rest) := by
  cases ty
  case varU64 | varU32 => simp only [decBuf, h, Out.map_err]
  case varI64 | varI32 => simp only [decBuf, varintDec, h, Out.map_err]
  all_goals exact Bool.noConfusion hty

theorem lstr_len_lt (l : UInt32) (s : Bytes) (h : s.length ≤ l.toNat) : s.length < 2 ^ 32 :=
  Nat.lt_of_le_of_lt h l.toNat_lt

theorem writeOk_of_valid (v : Val) (h : Valid v) : writeOk v = true := by
  cases v <;> simp [writeOk]
  case lstr l s =>
    have h' : s.length ≤ l.toNat := h
    rw [Nat.mod_eq_of_lt (lstr_len_lt l s h')]; exact h'

theorem decBuf_str_hdr {len : Nat} (h : len < 2 ^ 32) (bs : Bytes) :
    decBuf .str (leBytes 4 len ++ bs) = ((bufNext len bs).1.map .str, (bufNext len bs).2) := by
  have h4 : len % 256 ^ 4 % 2 ^ 32 = len := by rw [Nat.mod_eq_of_lt h, Nat.mod_eq_of_lt h]
  simp only [decBuf, bufFixed_leBytes, bufStrBody, h4]

theorem decBuf_lstr_hdr (l : UInt32) {len : Nat} (h : len ≤ l.toNat) (bs : Bytes) :
    decBuf (.lstr l) (leBytes 4 len ++ bs) = ((bufNext len bs).1.map (.lstr l), (bufNext len bs).2) := by
  have hlen : len < 2 ^ 32 := Nat.lt_of_le_of_lt h l.toNat_lt
  have h4 : len % 256 ^ 4 % 2 ^ 32 = len := by rw [Nat.mod_eq_of_lt hlen, Nat.mod_eq_of_lt hlen]
  simp only [decBuf, bufFixed_leBytes, bufStrBody, h4, if_neg (Nat.not_lt.2 h)]

theorem roundtrip_one (v : Val) (rest : Bytes) (h : Valid v) :
    decBuf (tyOf v) (enc v ++ rest) = (.ok v, rest) := by
  cases v
  case bool b => cases b <;> rfl
  case u8 x => rfl
  case u16 x | i16 x | u32 x | i32 x | u64 x | i64 x | f64 x =>
    simp only [tyOf, enc, decBuf, bufFixed_leBytes, Out.map_ok]
    simp
  case varU64 x | varU32 x => simp [tyOf, enc, decBuf, uvarint_roundtrip]
  case varI64 x | varI32 x => simp [tyOf, enc, decBuf, varint_roundtrip]
  case str s =>
    have hs : s.length < 2 ^ 32 := h
    rw [tyOf, enc, Nat.mod_eq_of_lt hs, List.append_assoc, decBuf_str_hdr hs, bufNext_append]; rfl
  case lstr l s =>
    have hl : s.length ≤ l.toNat := h
    rw [tyOf, enc, Nat.mod_eq_of_lt (lstr_len_lt l s hl), List.append_assoc, decBuf_lstr_hdr l hl, bufNext_append]; rfl
  case raw p => simp [tyOf, enc, decBuf, bufRead_append]

theorem writeAll_valid (vs : List Val) (buf : Bytes) (h : ∀ v ∈ vs, Valid v) :
    writeAll vs buf = buf ++ vs.flatMap enc := by
  induction vs generalizing buf with
  | nil => exact (List.append_nil buf).symm
  | cons v vs ih =>
    have hv := writeOk_of_valid v (h v List.mem_cons_self)
    simp only [writeAll, write, hv, if_true]
    rw [ih _ (fun w hw => h w (List.mem_cons_of_mem v hw)), List.flatMap_cons, List.append_assoc]

theorem history_refines_fifo (ops : List BOp) (hops : ∀ o ∈ ops, o.valid) (q : List Val)
    (hq : ∀ v ∈ q, Valid v) :
    history (q.flatMap enc) q ops = ((fifoSpec q ops).1.map .ok, (fifoSpec q ops).2.flatMap enc) := by
  induction ops generalizing q with
  | nil => rfl
  | cons o ops ih =>
    have hrest : ∀ o' ∈ ops, o'.valid := fun o' h => hops o' (List.mem_cons_of_mem o h)
    cases o with
    | w v =>
      have hv : Valid v := hops (.w v) List.mem_cons_self
      have hqv : ∀ u ∈ q ++ [v], Valid u := fun u hu =>
        (List.mem_append.1 hu).elim (hq u) (fun h => List.mem_singleton.1 h ▸ hv)
      have := ih hrest (q ++ [v]) hqv
      rw [List.flatMap_append, List.flatMap_singleton] at this
      simp only [history, fifoSpec, write, writeOk_of_valid v hv, if_true]
      exact this
    | r =>
      cases q with
      | nil => exact ih hrest [] hq
      | cons v q =>
        simp only [history, fifoSpec, List.flatMap_cons, roundtrip_one v _ (hq v List.mem_cons_self)]
        rw [ih hrest q (fun u hu => hq u (List.mem_cons_of_mem v hu))]
        rfl

theorem fixed_trunc {w n : Nat} (hn : n < w) (x : Nat) (f : Nat → Val) :
    ∃ e, (bufFixed w ((leBytes w x).take n)).1.map f = .err e := by
  rw [bufFixed_of_lt (take_short _ hn)]
  exact ⟨_, rfl⟩

theorem take_hdr (x : Nat) (s : Bytes) {n : Nat} (h : 4 ≤ n) :
    (leBytes 4 x ++ s).take n = leBytes 4 x ++ s.take (n - 4) := by
  rw [List.take_append, leBytes_length, List.take_of_length_le (by rw [leBytes_length]; exact h)]

theorem truncated_one (v : Val) (n : Nat) (h : Valid v) (hn : n < (enc v).length) :
    ∃ e, (decBuf (tyOf v) ((enc v).take n)).1 = .err e := by
  cases v
  case bool b | u8 x =>
    have : n = 0 := by simpa [enc] using hn
    subst this
    exact ⟨.eof, rfl⟩
  case u16 x | i16 x | u32 x | i32 x | u64 x | i64 x | f64 x =>
    simp only [enc, leBytes_length] at hn
    exact fixed_trunc hn _ _
  case varU64 x => exact Out.map_isErr _ (uvarintDec_trunc x n hn)
  case varU32 x => exact Out.map_isErr _ (uvarintDec_trunc x.toUInt64 n hn)
  case varI64 x => exact Out.map_isErr _ (varintDec_trunc x n hn)
  case varI32 x => exact Out.map_isErr _ (varintDec_trunc x.toInt64 n hn)
  case str s =>
    have hs : s.length < 2 ^ 32 := h
    simp only [enc, List.length_append, leBytes_length, Nat.mod_eq_of_lt hs] at hn ⊢
    by_cases h4 : 4 ≤ n
    · -- the length field is there, the body is short
      rw [take_hdr _ _ h4, tyOf, decBuf_str_hdr hs, bufNext_of_lt (take_short _ (Nat.sub_lt_left_of_lt_add h4 hn))]
      exact ⟨_, rfl⟩
    · simp only [tyOf, decBuf]
      rw [bufFixed_of_lt (take_short _ (Nat.lt_of_not_le h4))]
      exact ⟨_, rfl⟩
  case lstr l s =>
    have hl : s.length ≤ l.toNat := h
    simp only [enc, List.length_append, leBytes_length, Nat.mod_eq_of_lt (lstr_len_lt l s hl)] at hn ⊢
    by_cases h4 : 4 ≤ n
    · rw [take_hdr _ _ h4, tyOf, decBuf_lstr_hdr l hl, bufNext_of_lt (take_short _ (Nat.sub_lt_left_of_lt_add h4 hn))]
      exact ⟨_, rfl⟩
    · simp only [tyOf, decBuf]
      rw [bufFixed_of_lt (take_short _ (Nat.lt_of_not_le h4))]
      exact ⟨_, rfl⟩
  case raw p =>
    simp only [tyOf, decBuf, enc] at hn ⊢
    rw [bufRead_of_lt (take_short _ hn)]
    exact ⟨_, rfl⟩

theorem decBuf_suffix (ty : Ty) (bs : Bytes) : (decBuf ty bs).2 <:+ bs := by
  cases ty
  case bool | u8 => exact bufReadByte_suffix bs
  case u16 | i16 | u32 | i32 | u64 | i64 | f64 | read => exact bufRead_suffix _ bs
  case varU64 | varI64 | varU32 | varI32 => exact uvarintDecF_suffix _ _ _ bs
  case str =>
    have h : (bufFixed 4 bs).2 <:+ bs := bufRead_suffix 4 bs
    simp only [decBuf]
    split
    · rename_i heq; rw [heq] at h; exact h
    · rename_i heq; rw [heq] at h
      exact List.IsSuffix.trans (bufNext_suffix _ _) h
  case lstr l =>
    have h : (bufFixed 4 bs).2 <:+ bs := bufRead_suffix 4 bs
    simp only [decBuf]
    split
    · rename_i heq; rw [heq] at h; exact h
    · rename_i heq; rw [heq] at h
      split
      · exact h
      · exact List.IsSuffix.trans (bufNext_suffix _ _) h
  case readN n =>
    simp only [decBuf]
    by_cases h : n ≤ 0
    · rw [if_pos h]; exact List.suffix_refl _
    · rw [if_neg h]; exact bufRead_suffix _ bs
  case zreadN n =>
    simp only [decBuf]
    by_cases h : n < 0
    · rw [if_pos h]; exact List.suffix_refl _
    · rw [if_neg h]; exact bufNext_suffix _ bs

theorem readAll_length (ts : List Ty) (bs : Bytes) : (readAll ts bs).1.length = ts.length := by
  induction ts generalizing bs with
  | nil => rfl
  | cons t ts ih => simp [readAll, ih]

theorem readAll_suffix (ts : List Ty) (bs : Bytes) : (readAll ts bs).2 <:+ bs := by
  induction ts generalizing bs with
  | nil => exact List.suffix_refl _
  | cons t ts ih => exact List.IsSuffix.trans (ih _) (decBuf_suffix t bs)

theorem rewrite_in_range (pos : Nat) (p buf : Bytes) (h : pos + p.length ≤ buf.length) :
    rewrite (pos : Int) p buf = some (buf.take pos ++ p ++ buf.drop (pos + p.length)) := by
  have hpos : pos ≤ buf.length := Nat.le_trans (Nat.le_add_right _ _) h
  have h1 : ¬ ((pos : Int) < 0 ∨ (pos : Int) > buf.length) :=
    fun h => h.elim (Int.not_lt.2 (Int.natCast_nonneg pos)) (Int.not_lt.2 (Int.ofNat_le.2 hpos))
  simp only [rewrite, if_neg h1, Int.toNat_natCast]
  rw [List.take_of_length_le (l := p) (Nat.le_sub_of_add_le' h)]

theorem pull_spec (n : Nat) (cs : List Bytes) :
    (pull n cs).1 = cs.flatten.take n ∧ (pull n cs).2.flatten = cs.flatten.drop n := by
  induction cs generalizing n with
  | nil => exact ⟨List.take_nil.symm, List.drop_nil.symm⟩
  | cons c rest ih =>
    rw [pull, List.flatten_cons, List.take_append, List.drop_append]
    by_cases h0 : n = 0
    · subst n
      rw [if_pos rfl, Nat.zero_sub]
      exact ⟨rfl, rfl⟩
    · rw [if_neg h0]
      by_cases hlt : c.length < n
      · rw [if_pos hlt, List.take_of_length_le (Nat.le_of_lt hlt), List.drop_of_length_le (Nat.le_of_lt hlt)]
        exact ⟨congrArg (c ++ ·) (ih _).1, (ih _).2⟩
      · rw [if_neg hlt, Nat.sub_eq_zero_of_le (Nat.le_of_not_lt hlt), List.take_zero, List.drop_zero, List.append_nil]
        refine ⟨rfl, ?_⟩
        by_cases hn : n < c.length
        · rw [if_pos hn]; rfl
        · rw [if_neg hn, List.drop_of_length_le (Nat.le_of_not_lt hn)]; rfl

def Sim {α} [DecidableEq α] (r : Out α × Src) (b : Out α × Bytes) : Prop :=
  Out.agree r.1 b.1 = true ∧ r.2.flat = b.2

theorem Sim.map {α β} [DecidableEq α] [DecidableEq β] (f : α → β) {r : Out α × Src} {b : Out α × Bytes}
    (h : Sim r b) : Sim (r.1.map f, r.2) (b.1.map f, b.2) :=
  ⟨Out.agree_map f h.1, h.2⟩

theorem flat_mk (e : Bool) (q : List Bytes) (f : Bool) : (Src.mk e q f).flat = q.flatten := rfl

theorem flat_feed (s : Src) (cs : List Bytes) : (s.feed cs).flat = s.flat ++ cs.flatten :=
  List.flatten_append

theorem Sim.of_eq {α} [DecidableEq α] {r : Out α × Src} {b b' : Out α × Bytes} (h : Sim r b) (e : b = b') : Sim r b' :=
  e ▸ h

theorem Sim.cases {α} [DecidableEq α] {r : Out α × Src} {b : Out α × Bytes} (h : Sim r b) :
    (∃ e e', r = (.err e, r.2) ∧ b = (.err e', r.2.flat)) ∨
      (∃ a, r = (.ok a, r.2) ∧ b = (.ok a, r.2.flat)) := by
  obtain ⟨ro, rs⟩ := r
  obtain ⟨bo, bs⟩ := b
  obtain ⟨h1, h2⟩ := h
  simp only at h1 h2
  subst h2
  cases bo with
  | ok v => exact .inr ⟨v, by rw [Out.agree_ok h1], rfl⟩
  | err e' =>
    obtain ⟨e, rfl⟩ := Out.agree_err h1
    exact .inl ⟨e, e', rfl, rfl⟩

theorem streamRead_full {c : Cfg} (hc : c.strategy = .full) (n : Nat) (s : Src) :
    streamRead c n s =
      (if n ≤ s.flat.length then .ok (s.flat.take n)
        else .err (if s.fail then .io else if s.flat.isEmpty then .eof
          else if c.mapShort then .empty else .unexpectedEOF),
       { s with chunks := (pull n s.chunks).2 }) := by
  have p1 : (pull n s.chunks).1 = s.flat.take n := (pull_spec n s.chunks).1
  by_cases h0 : n = 0
  · subst n
    have : (pull 0 s.chunks).2 = s.chunks := by cases s.chunks <;> rfl
    simp [streamRead, this]
  · simp only [streamRead, if_neg h0, hc, p1]
    by_cases h : n ≤ s.flat.length
    · rw [if_pos (List.length_take_of_le h), if_pos h]
    · -- `pull` returns all there is
      have hlt := Nat.lt_of_not_le h
      rw [if_neg (Nat.ne_of_lt (Nat.lt_of_le_of_lt (List.length_take_le' n _) hlt)), if_neg h,
        List.take_of_length_le (Nat.le_of_lt hlt)]
      cases s.fail <;> cases s.flat.isEmpty <;> rfl

theorem streamRead_sim (c : Cfg) (hc : c.strategy = .full) (n : Nat) (s : Src) :
    Sim (streamRead c n s) (bufRead n s.flat) := by
  have hflat : (pull n s.chunks).2.flatten = s.flat.drop n := (pull_spec n s.chunks).2
  rw [streamRead_full hc]
  by_cases h : n ≤ s.flat.length
  · rw [bufRead_of_le h, if_pos h]
    exact ⟨Out.agree_refl _, hflat⟩
  · have hlt := Nat.lt_of_not_le h
    rw [bufRead_of_lt hlt, if_neg h]
    exact ⟨rfl, hflat.trans (List.drop_of_length_le (Nat.le_of_lt hlt))⟩

/-- with the `ErrUnexpectedEOF → ErrByteBufferEmpty` mapping the raw read agrees with the buffer also in the error
    kind -/
theorem streamRead_exact (c : Cfg) (hc : c.strategy = .full) (hm : c.mapShort = true) (n : Nat) (s : Src)
    (hnf : s.fail = false) : (streamRead c n s).1 = (bufRead n s.flat).1 := by
  rw [streamRead_full hc]
  by_cases h : n ≤ s.flat.length
  · rw [bufRead_of_le h, if_pos h]
  · rw [bufRead_of_lt (Nat.lt_of_not_le h), if_neg h, hnf, hm]; rfl

theorem streamReadN_sim (c : Cfg) (hc : c.strategy = .full) (n : Int) (s : Src) :
    Sim (streamReadN c n s) (if n ≤ 0 then (.err .wrongNum, s.flat) else bufRead n.toNat s.flat) := by
  by_cases h : n ≤ 0
  · rw [streamReadN, if_pos h, if_pos h]; exact ⟨rfl, rfl⟩
  · rw [streamReadN, if_neg h, if_neg h]; exact streamRead_sim c hc _ s

theorem streamZReadN_sim (c : Cfg) (hc : Proved c) (n : Int) (s : Src) :
    Sim (streamZReadN c n s) (if n < 0 then (.err .wrongNum, s.flat) else bufNext n.toNat s.flat) := by
  unfold streamZReadN
  by_cases h0 : n = 0
  · subst h0
    rw [if_pos ⟨rfl, hc.2⟩, if_neg (by decide), Int.toNat_zero, bufNext_of_le (Nat.zero_le _)]
    exact ⟨rfl, rfl⟩
  · rw [if_neg (fun h => h0 h.1)]
    have hs := streamReadN_sim c hc.1 n s
    by_cases hneg : n < 0
    · rw [if_pos hneg]; rw [if_pos (Int.le_of_lt hneg)] at hs; exact hs
    · rw [if_neg hneg]; rw [if_neg (fun h => hneg (Int.lt_iff_le_and_ne.2 ⟨h, h0⟩))] at hs
      have hb := bufRead_vs_bufNext n.toNat s.flat
      exact ⟨Out.agree_trans hs.1 hb.1, hs.2.trans hb.2⟩

theorem strBody_sim (c : Cfg) (hc : Proved c) (m : Nat) (s : Src) :
    Sim (streamZReadN c (m : Int) s) (bufStrBody m s.flat) := by
  have h := streamZReadN_sim c hc (m : Int) s
  rw [if_neg (Int.not_lt.2 (Int.natCast_nonneg m)), Int.toNat_natCast] at h
  exact h

theorem decStream_sim (c : Cfg) (hc : Proved c) (ty : Ty) (hty : ty.streamable = true) (s : Src) :
    Sim (decStream c ty s) (decBuf ty s.flat) := by
  have fixed : ∀ n, Sim (streamFixed c n s) (bufFixed n s.flat) := fun n => (streamRead_sim c hc.1 n s).map leVal
  cases ty
  case bool | u8 =>
    simp only [decStream, decBuf, bufReadByte_eq, Out.map_map]
    exact (streamRead_sim c hc.1 1 s).map _
  case u16 | i16 | u32 | i32 | u64 | i64 | f64 => exact (fixed _).map _
  case varU64 | varI64 | varU32 | varI32 => exact absurd hty (by decide)
  case str =>
    simp only [decStream, decBuf]
    rcases (fixed 4).cases with ⟨e, e', hs, hb⟩ | ⟨n, hs, hb⟩
    · rw [hs, hb]; exact ⟨rfl, rfl⟩
    · rw [hs, hb]; exact (strBody_sim c hc _ _).map _
  case lstr l =>
    simp only [decStream, decBuf]
    rcases (fixed 4).cases with ⟨e, e', hs, hb⟩ | ⟨n, hs, hb⟩
    · rw [hs, hb]; exact ⟨rfl, rfl⟩
    · rw [hs, hb]
      by_cases hl : n % 2 ^ 32 > l.toNat
      · simp only [if_pos hl]; exact ⟨rfl, rfl⟩
      · simp only [if_neg hl]; exact (strBody_sim c hc _ _).map _
  case read n => exact (streamRead_sim c hc.1 n s).map _
  case readN n =>
    have h := streamReadN_sim c hc.1 n s
    simp only [decStream, decBuf]
    by_cases hn : n ≤ 0
    · rw [if_pos hn] at h ⊢; exact h.map _
    · rw [if_neg hn] at h ⊢; exact h.map _
  case zreadN n =>
    have h := streamZReadN_sim c hc n s
    simp only [decStream, decBuf]
    by_cases hn : n < 0
    · rw [if_pos hn] at h ⊢; exact h.map _
    · rw [if_neg hn] at h ⊢; exact h.map _

theorem readAllStream_sim (c : Cfg) (hc : Proved c) (ts : List Ty) (hts : ∀ t ∈ ts, t.streamable = true) (s : Src) :
    agreeAll (readAllStream c ts s).1 (readAll ts s.flat).1 = true ∧
    (readAllStream c ts s).2.flat = (readAll ts s.flat).2 := by
  induction ts generalizing s with
  | nil => simp [readAllStream, readAll, agreeAll]
  | cons t ts ih =>
    have h1 := decStream_sim c hc t (hts t (by simp)) s
    have h2 := ih (fun u hu => hts u (by simp [hu])) (decStream c t s).2
    rw [h1.2] at h2
    simp only [readAllStream, readAll, agreeAll]
    exact ⟨by simp [h1.1, h2.1], h2.2⟩

theorem nextChecked_nat (k : Nat) (bs : Bytes) : nextChecked (k : Int) bs = some (bufNext k bs) := by
  have hneg : ¬ ((k : Int) < 0) := Int.not_lt.2 (Int.natCast_nonneg k)
  simp only [nextChecked, goNext, hneg, if_false, Option.map_some, Int.toNat_natCast]
  by_cases h : k ≤ bs.length
  · rw [bufNext_of_le h, if_neg (by rw [List.length_take_of_le h]; exact fun h => h rfl)]
  · have hlt := Nat.lt_of_not_le h
    have hne : ((bs.take k).length : Int) ≠ (k : Int) := fun e =>
      Nat.ne_of_lt (Nat.lt_of_le_of_lt (List.length_take_le' k bs) hlt) (Int.ofNat_inj.1 e)
    rw [bufNext_of_lt hlt, if_pos hne, List.drop_of_length_le (Nat.le_of_lt hlt)]

/-- on an `int` of more than 32 bits the conversion of a `uint32` length field is the identity, so `Next` gets a
    count ≥ 0 -/
theorem nextChecked_goInt {bits : Nat} (hb : 32 < bits) (n : Nat) (bs : Bytes) :
    nextChecked (goInt bits (n % 2 ^ 32)) bs = some (bufNext (n % 2 ^ 32) bs) := by
  have : n % 2 ^ 32 < 2 ^ (bits - 1) :=
    Nat.lt_of_lt_of_le (Nat.mod_lt n (by decide)) (Nat.pow_le_pow_right (by decide) (Nat.le_sub_one_of_lt hb))
  rw [goInt, if_pos this, nextChecked_nat]

/-- with the panicking primitives explicit, no typed read panics where Go's `int` has more than 32 bits -/
theorem decBufP_eq {bits : Nat} (hb : 32 < bits) (ty : Ty) (bs : Bytes) : decBufP bits ty bs = some (decBuf ty bs) := by
  cases ty
  case str =>
    simp only [decBufP, decBuf, nextChecked_goInt hb]
    split <;> rfl
  case lstr l =>
    simp only [decBufP, decBuf, nextChecked_goInt hb]
    split
    · rfl
    · split <;> rfl
  case readN n =>
    simp only [decBufP, decBuf]
    by_cases h : n ≤ 0
    · rw [if_pos h, if_pos h]
    · rw [if_neg h, if_neg h, goMake, if_neg (fun hn => h (Int.le_of_lt hn))]; rfl
  case zreadN n =>
    simp only [decBufP, decBuf]
    by_cases h : n < 0
    · rw [if_pos h, if_pos h]
    · have hn := nextChecked_nat n.toNat bs
      rw [Int.toNat_of_nonneg (Int.not_lt.1 h)] at hn
      rw [if_neg h, if_neg h, hn]; rfl
  all_goals rfl

theorem digestPatLoop_eq (seed : Nat) : ∀ (k i h : Nat),
    digestPatLoop seed k i h = ((List.range' i k).map (patByte seed)).foldl digestStep h := by
  intro k
  induction k with
  | zero => intro i h; simp [digestPatLoop]
  | succ k ih => intro i h; simp [digestPatLoop, ih, List.range'_succ]

theorem digestPat_eq (seed n : Nat) : digestPat seed n = digest (pat seed n) := by
  simp [digestPat, digest, pat, digestPatLoop_eq, List.range_eq_range']

theorem pat_length (seed n : Nat) : (pat seed n).length = n := by simp [pat]

theorem agreeAll_ok (xs : List (Out Val)) (vs : List Val) (h : agreeAll xs (vs.map .ok) = true) : xs = vs.map .ok := by
  induction vs generalizing xs with
  | nil => cases xs <;> simp_all [agreeAll]
  | cons v vs ih =>
    cases xs with
    | nil => simp [agreeAll] at h
    | cons x xs =>
      simp only [List.map_cons, agreeAll, Bool.and_eq_true] at h
      rw [Out.agree_ok h.1, ih xs h.2]; rfl

end Nv.C10
