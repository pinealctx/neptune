import Nv.Proofs.C11Step
/-!
C11 — property theorems: the implementation-shaped model of `tex.Buffer` (`Nv.Model.C11`, configuration `c`
ranging over `Proved`) refines the abstract byte buffer (`Nv.Spec.C11`, = what `bytes.Buffer` does) on every
operation sequence of the shared interface — same results, errors, panics and unread contents after every step —
except `Unread*` issued while a `Grow` is the last operation that did not (re)assign `lastRead`
(the property's own exclusion; pure observers `Len/Bytes/String` in between do not lift it).
Scripted readers are those whose output does not depend on the size of the slice they are offered (chunks ≤ MinRead, or
greedy): that size is `cap-len`, i.e. capacity policy, which the property leaves open (`Cap()` is not compared);
`witness_reader_depends_on_space` shows what happens outside. `ReWrite` and `NewSizedBuffer` have their own theorems. All statements are over all inputs and all histories.
-/
namespace Nv.C11
open Spec

/-- result of a step together with the unread contents after it (`Len` is its length) -/
def implObs (c : Cfg) (i : St) (op : Op) : St × (Out × Bytes) :=
  ((step c i op).1, ((step c i op).2, (step c i op).1.data))

def specObs (s : SSt) (op : Op) : SSt × (Out × Bytes) :=
  ((Spec.step s op).1, ((Spec.step s op).2, (Spec.step s op).1.data))

/-- no `UnreadByte/UnreadRune` while tainted by a `Grow` (`t` = taint at the start of the list) -/
def NoUnreadAfterGrow : Bool → List Op → Prop
  | _, [] => True
  | t, op :: rest => ¬ (t = true ∧ isUnread op = true) ∧ NoUnreadAfterGrow (taintAfter t op) rest

instance : ∀ t ops, Decidable (NoUnreadAfterGrow t ops)
  | _, [] => isTrue trivial
  | t, op :: rest => by
    unfold NoUnreadAfterGrow
    have := instDecidableNoUnreadAfterGrow (taintAfter t op) rest
    exact inferInstance

/-- memory suffices along the run: the model reports `ErrTooLarge` only where the request itself exceeds the
    allocation limit (a `Grow(n)` with `n > allocLimit`) -/
def MemOk (c : Cfg) : St → List Op → Prop
  | _, [] => True
  | i, op :: rest => ((step c i op).2 = .panic .tooLarge → opTooLarge op) ∧ MemOk c (step c i op).1 rest

instance (c : Cfg) : ∀ i ops, Decidable (MemOk c i ops)
  | _, [] => isTrue trivial
  | i, op :: rest => by
    unfold MemOk
    have := instDecidableMemOk c (step c i op).1 rest
    exact inferInstance

/-- **refinement, one step**: from related states a shared operation yields the same output and related states -/
theorem texbuf_step_refines (c : Cfg) (hc : Proved c) {t : Bool} {i : St} {s : SSt} (R : Rel t i s) (op : Op)
    (hcom : Common c op) (hun : ¬ (t = true ∧ isUnread op = true))
    (hmem : (step c i op).2 = .panic .tooLarge → opTooLarge op) :
    (step c i op).2 = (Spec.step s op).2 ∧ (step c i op).1.data = (Spec.step s op).1.data ∧
    Rel (taintAfter t op) (step c i op).1 (Spec.step s op).1 := by
  have k := sim_step hc R op hcom hun hmem
  exact ⟨k.1, by rw [St.data, k.2.data], k.2⟩

/-- **refinement, all histories**, from any pair of related states -/
theorem texbuf_refines_from (c : Cfg) (hc : Proved c) :
    ∀ (ops : List Op) (t : Bool) (i : St) (s : SSt), Rel t i s → (∀ op ∈ ops, Common c op) →
      NoUnreadAfterGrow t ops → MemOk c i ops → outs (implObs c) i ops = outs specObs s ops
  | [], _, _, _, _, _, _, _ => rfl
  | op :: rest, t, i, s, R, hcom, hun, hmem => by
    have k := texbuf_step_refines c hc R op (hcom op (by simp)) hun.1 hmem.1
    simp only [outs_cons, implObs, specObs]
    rw [k.1, k.2.1]
    congr 1
    exact texbuf_refines_from c hc rest _ _ _ k.2.2 (fun o ho => hcom o (by simp [ho])) hun.2 hmem.2

/-- **C11, main theorem**: a zero `tex.Buffer` and a zero `bytes.Buffer` driven by the same operations -/
theorem texbuf_refines (c : Cfg) (hc : Proved c) (ops : List Op) (hcom : ∀ op ∈ ops, Common c op)
    (hun : NoUnreadAfterGrow false ops) (hmem : MemOk c St.zero ops) :
    outs (implObs c) St.zero ops = outs specObs SSt.empty ops :=
  texbuf_refines_from c hc ops false _ _ rel_zero hcom hun hmem

/-- the same from `NewBuffer(content)` with any spare capacity -/
theorem texbuf_refines_newBuffer (c : Cfg) (hc : Proved c) (content : Bytes) (extra : Nat)
    (hfit : content.length + extra ≤ allocLimit) (ops : List Op) (hcom : ∀ op ∈ ops, Common c op)
    (hun : NoUnreadAfterGrow false ops) (hmem : MemOk c (St.ofBytes content extra) ops) :
    outs (implObs c) (St.ofBytes content extra) ops = outs specObs (SSt.ofBytes content) ops :=
  texbuf_refines_from c hc ops false _ _ (rel_new (Nat.le_add_right _ _) hfit (fun h => nomatch h)) hcom hun hmem

theorem sized_rel (size : Nat) (hfit : size ≤ allocLimit) : Rel false (St.sized size) SSt.empty :=
  rel_new (Nat.zero_le _) hfit (fun h => nomatch h)

theorem newSizedBuffer_eq (size : Int) (h0 : 0 ≤ size) (h1 : size ≤ (allocLimit : Int)) :
    newSizedBuffer size = (St.sized size.toNat, .ok) := by
  have hc : ¬ (size < 0 ∨ size > (allocLimit : Int)) := not_or.2 ⟨Int.not_lt.2 h0, Int.not_lt.2 h1⟩
  unfold newSizedBuffer
  rw [if_neg hc]
  rfl

/-- **NewSizedBuffer** (derived from the model of its body, not from a definition): for every admissible size the
    call returns normally with an empty buffer (`Len() = 0`, `Bytes()` empty) whose capacity is at least the requested
    size, and which from then on behaves like an empty `bytes.Buffer` (`texbuf_refines_sized`) -/
theorem sized_buffer (size : Int) (h0 : 0 ≤ size) (h1 : size ≤ (allocLimit : Int)) :
    (newSizedBuffer size).2 = .ok ∧ (newSizedBuffer size).1.data = [] ∧ (newSizedBuffer size).1.buf.length = 0 ∧
    size ≤ ((newSizedBuffer size).1.cap : Int) ∧ Rel false (newSizedBuffer size).1 SSt.empty := by
  rw [newSizedBuffer_eq size h0 h1]
  exact ⟨rfl, rfl, rfl, Int.self_le_toNat size, sized_rel _ (Int.toNat_le.2 h1)⟩

/-- a negative size, or one the runtime cannot allocate, panics in `make` (no buffer exists afterwards) -/
theorem sized_buffer_invalid (size : Int) (h : size < 0 ∨ size > (allocLimit : Int)) :
    (newSizedBuffer size).2 = .panic .makeslice := by
  unfold newSizedBuffer; rw [if_pos h]

theorem texbuf_refines_sized (c : Cfg) (hc : Proved c) (size : Nat) (hfit : size ≤ allocLimit) (ops : List Op)
    (hcom : ∀ op ∈ ops, Common c op) (hun : NoUnreadAfterGrow false ops) (hmem : MemOk c (St.sized size) ops) :
    outs (implObs c) (St.sized size) ops = outs specObs SSt.empty ops :=
  texbuf_refines_from c hc ops false _ _ (sized_rel size hfit) hcom hun hmem

/-- each of the five growth paths keeps the unread bytes in front of the write index and makes room for `n` more;
    a failed growth (`ErrTooLarge`) leaves them untouched. Holds whatever the rune comparison and the slide guard. -/
theorem texbuf_grow_paths (c : Cfg) (hs : c.small ≤ allocLimit) (s : St) (n : Nat) (h : Inv s) :
    match grow c s n with
    | (s', some m) => Inv s' ∧ s'.off ≤ m ∧ s'.buf.length = m + n ∧ (s'.buf.take m).drop s'.off = s.data
    | (s', none) => Inv s' ∧ s'.data = s.data := by
  cases hg : grow c s n with
  | mk s' r =>
    cases r with
    | some m =>
      have g : Grown s s' n m := grow_spec (fun _ => hs) h hg
      exact ⟨g.inv, g.off_le, g.len, g.data⟩
    | none =>
      have k : Kept s s' := grow_spec (fun _ => hs) h hg
      exact ⟨k.inv, k.data⟩

/-- the storage invariant `off ≤ len ≤ cap` survives every shared operation (under the hypotheses of the step theorem) -/
theorem texbuf_inv_step (c : Cfg) (hc : Proved c) {t : Bool} {i : St} {s : SSt} (R : Rel t i s) (op : Op)
    (hcom : Common c op) (hun : ¬ (t = true ∧ isUnread op = true))
    (hmem : (step c i op).2 = .panic .tooLarge → opTooLarge op) : Inv (step c i op).1 :=
  (sim_step hc R op hcom hun hmem).2.inv

theorem delivered_ignores_empty_reads (greedy : Bool) (tail : Nat) :
    ∀ (sizes : List Nat) (data : Bytes),
      delivered greedy (sizes.filter (· ≠ 0)) tail data = delivered greedy sizes tail data
  | [], _ => rfl
  | k :: sizes, data => by
    by_cases hk : k = 0
    · subst hk
      have ih := delivered_ignores_empty_reads greedy tail sizes data
      simpa [delivered] using ih
    · have ih := delivered_ignores_empty_reads greedy tail sizes (data.drop k)
      simpa [hk, delivered] using ih

def Reader.withoutEmptyReads (r : Reader) : Reader := { r with sizes := r.sizes.filter (· ≠ 0) }

/-- **ReadFrom keeps reading through empty reads**: a `(0, nil)` answer changes nothing and the loop continues, however
    many of them come in a row — result, error and contents are those of the reader with the empty reads removed
    (`bytes.Buffer` gives up on no count of them; only `io.EOF` or an error ends the loop) -/
theorem readFrom_ignores_empty_reads (c : Cfg) (hc : Proved c) {t : Bool} {i : St} {s : SSt} (R : Rel t i s) (r : Reader)
    (hcom : Common c (.readFrom r))
    (hmem : (step c i (.readFrom r)).2 ≠ .panic .tooLarge)
    (hmem' : (step c i (.readFrom r.withoutEmptyReads)).2 ≠ .panic .tooLarge) :
    (step c i (.readFrom r)).2 = (step c i (.readFrom r.withoutEmptyReads)).2 ∧
    (step c i (.readFrom r)).1.data = (step c i (.readFrom r.withoutEmptyReads)).1.data := by
  have hcom' : Common c (.readFrom r.withoutEmptyReads) :=
    ⟨fun k hk => hcom.1 k (List.mem_filter.1 hk).1, hcom.2⟩
  have a := texbuf_step_refines c hc R (.readFrom r) hcom (by simp [isUnread]) (fun h => absurd h hmem)
  have b := texbuf_step_refines c hc R (.readFrom r.withoutEmptyReads) hcom' (by simp [isUnread]) (fun h => absurd h hmem')
  have e : Spec.step s (.readFrom r.withoutEmptyReads) = Spec.step s (.readFrom r) := by
    simp only [Spec.step, Reader.withoutEmptyReads, delivered_ignores_empty_reads]
  rw [a.1, a.2.1, b.1, b.2.1, e]
  exact ⟨rfl, rfl⟩

/-- 101 empty reads in a row between two chunks: all three bytes arrive, no error -/
example : (outs (implObs ⟨.unsigned, .half, 4, 4⟩) St.zero
    [.readFrom ⟨[1, 2, 3], [1] ++ List.replicate 101 0 ++ [1], 4, .eof, false⟩]) = [(.nErr 3 .nil, [1, 2, 3])] := by decide +kernel

def isGrow : Op → Bool
  | .grow _ => true
  | _ => false

def isObserver : Op → Bool
  | .len | .bytes | .string => true
  | _ => false

/-- "no UnreadByte/UnreadRune issued directly after Grow" -/
def NoUnreadDirectlyAfterGrow : List Op → Prop
  | a :: b :: rest => ¬ (isGrow a = true ∧ isUnread b = true) ∧ NoUnreadDirectlyAfterGrow (b :: rest)
  | _ => True

theorem taintAfter_of_mutator (c : Cfg) (t : Bool) (op : Op) (hcom : Common c op) (hobs : isObserver op = false) :
    taintAfter t op = isGrow op := by
  cases op with
  | len | bytes | string => cases hobs
  | cap | off | rewrite => exact hcom.elim
  | _ => rfl

/-- for scripts of mutating operations the literal wording implies the taint condition -/
theorem noUnreadAfterGrow_of_literal (c : Cfg) :
    ∀ (ops : List Op) (t : Bool), (∀ op ∈ ops, Common c op ∧ isObserver op = false) →
      NoUnreadDirectlyAfterGrow ops → (t = true → ∀ op ∈ ops.head?, isUnread op = false) → NoUnreadAfterGrow t ops
  | [], _, _, _, _ => trivial
  | [op], t, _, _, ht => ⟨fun h => by have := ht h.1 op (by simp); simp [this] at h, trivial⟩
  | a :: b :: rest, t, hall, hlit, ht => by
    refine ⟨fun h => by have := ht h.1 a (by simp); simp [this] at h, ?_⟩
    apply noUnreadAfterGrow_of_literal c (b :: rest) _ (fun o ho => hall o (by simp [ho])) hlit.2
    intro hta o ho
    simp only [List.head?_cons, Option.mem_def, Option.some.injEq] at ho
    subst ho
    rw [taintAfter_of_mutator c t a (hall a (by simp)).1 (hall a (by simp)).2] at hta
    cases hu : isUnread b with
    | false => rfl
    | true => exact absurd ⟨hta, hu⟩ hlit.1

/-- **C11 in the property's wording**: sequences of mutating operations with no Unread* directly after a Grow -/
theorem texbuf_refines_literal (c : Cfg) (hc : Proved c) (ops : List Op)
    (hcom : ∀ op ∈ ops, Common c op ∧ isObserver op = false)
    (hun : NoUnreadDirectlyAfterGrow ops) (hmem : MemOk c St.zero ops) :
    outs (implObs c) St.zero ops = outs specObs SSt.empty ops :=
  texbuf_refines c hc ops (fun o ho => (hcom o ho).1)
    (noUnreadAfterGrow_of_literal c ops false hcom hun (fun h => by cases h)) hmem

/-- `ReWrite(pos, p)` with `0 ≤ pos ≤ len(buf)`: storage index `j` holds `p[j-pos]` for `pos ≤ j < pos+|p|`
    (as far as the storage reaches) and is unchanged elsewhere; length, offset, capacity, lastRead untouched -/
theorem rewrite_exact (s : St) (pos : Nat) (p : Bytes) (hpos : pos ≤ s.buf.length) :
    (rewrite s pos p).2 = .ok ∧
    (rewrite s pos p).1.buf.length = s.buf.length ∧
    (rewrite s pos p).1.off = s.off ∧ (rewrite s pos p).1.cap = s.cap ∧
    (rewrite s pos p).1.lastRead = s.lastRead ∧
    ∀ j, j < s.buf.length →
      (rewrite s pos p).1.buf[j]? = if pos ≤ j ∧ j < pos + p.length then p[j - pos]? else s.buf[j]? := by
  have hc : ¬ ((pos : Int) < 0 ∨ (pos : Int) > (s.buf.length : Int)) :=
    not_or.2 ⟨Int.not_lt.2 (Int.natCast_nonneg _), Int.not_lt.2 (Int.ofNat_le.2 hpos)⟩
  unfold rewrite
  simp only [hc, if_false, Int.toNat_natCast]
  have hk : (s.buf.take pos).length = pos := by rw [List.length_take, Nat.min_eq_left hpos]
  have hw : (p.take (s.buf.length - pos)).length = min (s.buf.length - pos) p.length := List.length_take
  refine ⟨trivial, ?_, trivial, trivial, trivial, ?_⟩
  · rw [List.length_append, List.length_append, hk, List.length_drop, hw]
    exact Nat.add_sub_of_le (Nat.add_le_of_le_sub' hpos (Nat.min_le_left _ _))
  · intro j hj
    rw [List.append_assoc]
    by_cases h1 : j < pos
    · rw [if_neg (fun h => Nat.not_le.2 h1 h.1), List.getElem?_append_left (hk.symm ▸ h1), List.getElem?_take,
        if_pos h1]
    · have hpj : pos ≤ j := Nat.le_of_not_lt h1
      rw [List.getElem?_append_right (hk.symm ▸ hpj), hk]
      by_cases h2 : j < pos + p.length
      · have hjk : j - pos < s.buf.length - pos := Nat.sub_lt_sub_right hpj hj
        rw [if_pos ⟨hpj, h2⟩, List.getElem?_append_left (hw ▸ Nat.lt_min.2 ⟨hjk, Nat.sub_lt_left_of_lt_add hpj h2⟩),
          List.getElem?_take, if_pos hjk]
      · have hwj : (p.take (s.buf.length - pos)).length ≤ j - pos :=
          hw ▸ Nat.le_trans (Nat.min_le_right _ _) (Nat.le_sub_of_add_le' (Nat.le_of_not_lt h2))
        rw [if_neg (fun h => h2 h.2), List.getElem?_append_right hwj, List.getElem?_drop, Nat.add_assoc,
          Nat.add_sub_of_le hwj, Nat.add_sub_of_le hpj]

/-- out-of-range positions panic (slice bounds) and change nothing -/
theorem rewrite_out_of_range (s : St) (pos : Int) (p : Bytes) (h : pos < 0 ∨ pos > (s.buf.length : Int)) :
    rewrite s pos p = (s, .panic .sliceBounds) := by
  unfold rewrite; simp only [h, if_true]

/-- the same on the observable `Bytes()`: unread byte `j` is `p[off+j-pos]` where addressed, unchanged elsewhere
    (addresses count from the start of the storage, i.e. include the `off` bytes already read) -/
theorem rewrite_bytes (s : St) (pos : Nat) (p : Bytes) (hpos : pos ≤ s.buf.length) (j : Nat)
    (hj : s.off + j < s.buf.length) :
    (rewrite s pos p).1.data[j]? =
      if pos ≤ s.off + j ∧ s.off + j < pos + p.length then p[s.off + j - pos]? else s.data[j]? := by
  have k := rewrite_exact s pos p hpos
  simp only [St.data, k.2.2.1, List.getElem?_drop]
  exact k.2.2.2.2.2 (s.off + j) hj

/-- **ReWrite with a payload that aliases the buffer** (`ReWrite(pos, b.Bytes()[f:f+k])`): `copy` is `memmove`, so what is
    stored are the OLD bytes of the source range, also where source and destination overlap (a forward byte loop would smear) -/
theorem rewrite_aliasing (s : St) (pos f k : Nat) (hpos : pos ≤ s.buf.length) (j : Nat) (hj : j < s.buf.length) :
    (rewrite s pos ((s.data.drop f).take k)).1.buf[j]? =
      if pos ≤ j ∧ j < pos + ((s.data.drop f).take k).length then s.buf[s.off + f + (j - pos)]? else s.buf[j]? := by
  have h := (rewrite_exact s pos ((s.data.drop f).take k) hpos).2.2.2.2.2 j hj
  rw [h]
  by_cases hc : pos ≤ j ∧ j < pos + ((s.data.drop f).take k).length
  · rw [if_pos hc, if_pos hc]
    have hk : j - pos < k :=
      Nat.lt_of_lt_of_le (Nat.sub_lt_left_of_lt_add hc.1 hc.2) (List.length_take ▸ Nat.min_le_left _ _)
    rw [List.getElem?_take, if_pos hk, St.data, List.getElem?_drop, List.getElem?_drop, Nat.add_assoc]
  · rw [if_neg hc, if_neg hc]

/-- overlapping self-copy, the red-team's input: `01..08`, `ReWrite(2, Bytes()[0:6])` gives `01 02 01 02 03 04 05 06` -/
example : (rewrite ⟨[1, 2, 3, 4, 5, 6, 7, 8], 0, 16, 0, false⟩ 2
    (((⟨[1, 2, 3, 4, 5, 6, 7, 8], 0, 16, 0, false⟩ : St).data.drop 0).take 6)).1.buf = [1, 2, 1, 2, 3, 4, 5, 6] := by decide

/-- the script behind the `big` operation on the abstract buffer, for payloads of ANY size: `Write(p); Next(r); Write(q)`
    returns `|p|`, the first `r` bytes of `p`, `|q|`, and leaves `p[r:] ++ q` (the oracle streams length and digest of that) -/
theorem spec_write_next_write (p q : Bytes) (r : Nat) :
    outs specObs SSt.empty [.write p, .next r, .write q] =
      [(.nErr p.length .nil, p), (.data (p.take r), p.drop r), (.nErr q.length .nil, p.drop r ++ q)] := by
  have h : ¬ ((r : Int) < 0) := Int.not_lt.2 (Int.natCast_nonneg r)
  simp [outs, runOps, specObs, Spec.step, SSt.empty, h]

/-! ### non-vacuity -/

example : Proved ⟨.unsigned, .half, 64, 512⟩ := by decide
example : Proved ⟨.unsigned, .full, 64, 512⟩ := by decide

def exampleOps : List Op :=
  [.write [1, 2, 0xE2, 0x82, 0xAC], .readByte, .unreadByte, .grow 100, .len, .writeRune 0x20AC, .read 2, .readRune,
   .unreadRune, .readFrom ⟨[9, 8, 7], [1, 0], 5, .eof, false⟩, .writeTo (.short 2), .truncate 3, .next 1, .unreadByte, .bytes]

/-- a script touching every clause satisfies the hypotheses of `texbuf_refines` … -/
example : (∀ op ∈ exampleOps, Common ⟨.unsigned, .half, 64, 512⟩ op) ∧ NoUnreadAfterGrow false exampleOps ∧
    MemOk ⟨.unsigned, .half, 64, 512⟩ St.zero exampleOps := by decide +kernel

/-- … and ends with the expected unread bytes -/
example : (final (implObs ⟨.unsigned, .half, 64, 512⟩) St.zero exampleOps).data = [0xAC, 0xE2, 0x82] := by decide +kernel

example : (64 : Nat) ≤ allocLimit := by decide
example : Rel false St.zero SSt.empty := rel_zero
example : Rel false (newSizedBuffer 16).1 SSt.empty := (sized_buffer 16 (by decide) (by decide)).2.2.2.2
/-- ReWrite of the length prefix of a frame, as the callers in mpb use it -/
example : (rewrite ⟨[0, 0, 1, 2, 3], 0, 8, 0, false⟩ 0 [0, 3]).1.buf = [0, 3, 1, 2, 3] := by decide
/-- ReWrite addresses the storage from its start: after one byte was read, position 1 is the first unread byte -/
example : (rewrite ⟨[9, 1, 2], 1, 8, -1, false⟩ 1 [7]).1.data = [7, 2] := by decide
example : NoUnreadDirectlyAfterGrow [.write [1], .readByte, .grow 3, .writeByte 2, .unreadByte] := by
  simp [NoUnreadDirectlyAfterGrow, isGrow, isUnread]

/-- a reader that fills whatever space it is offered (`bytes.Reader`): with `MinRead = 4` its 11 bytes take three
    `Read` calls and three reallocations (4, 12, 28), and arrive whole -/
example : outs (implObs ⟨.unsigned, .half, 2, 4⟩) St.zero [.readFrom ⟨[1, 2, 3, 4, 5, 6, 7, 8, 9, 10, 11], [], 0, .eof, true⟩, .cap]
    = [(.nErr 11 .nil, [1, 2, 3, 4, 5, 6, 7, 8, 9, 10, 11]), (.int 28, [1, 2, 3, 4, 5, 6, 7, 8, 9, 10, 11])] := by decide +kernel

/-! ### the signed comparison `r < utf8.RuneSelf`: the property is false of it -/

/-- `r < utf8.RuneSelf` on the signed rune: `WriteRune(-1)` stores the single byte FF … -/
theorem witness_signed_negative_rune :
    outs (implObs ⟨.signed, .half, 64, 512⟩) St.zero [.writeRune (-1)] = [(.nErr 1 .nil, [0xFF])] := by decide +kernel

/-- … while the abstract buffer (`bytes.Buffer`) stores U+FFFD -/
theorem witness_spec_negative_rune :
    outs specObs SSt.empty [.writeRune (-1)] = [(.nErr 3 .nil, [0xEF, 0xBF, 0xBD])] := by decide +kernel

theorem not_refines_signed :
    ¬ (∀ ops : List Op, (∀ op ∈ ops, Common ⟨.signed, .half, 64, 512⟩ op) → NoUnreadAfterGrow false ops →
        MemOk ⟨.signed, .half, 64, 512⟩ St.zero ops →
        outs (implObs ⟨.signed, .half, 64, 512⟩) St.zero ops = outs specObs SSt.empty ops) := by
  intro h
  have := h [.writeRune (-1)] (by decide) (by decide) (by decide)
  rw [witness_signed_negative_rune, witness_spec_negative_rune] at this
  cases this

/-- the excluded corner is real: after `Grow` moved the data to the front, `UnreadByte` reports success
    without restoring the byte (whether a `bytes.Buffer` does depends on its capacity policy) -/
theorem witness_unread_after_grow :
    outs (implObs ⟨.unsigned, .half, 64, 512⟩) St.zero [.write [1, 2, 3], .readByte, .grow 64, .unreadByte]
      ≠ outs specObs SSt.empty [.write [1, 2, 3], .readByte, .grow 64, .unreadByte] := by decide +kernel

/-! ### why the exclusion is "until `lastRead` is reassigned", not only "directly after" -/

/-- a pure observer between `Grow` and `UnreadByte` does not lift the hazard: the literal wording would admit this script -/
theorem witness_unread_after_grow_observer :
    outs (implObs ⟨.unsigned, .half, 64, 512⟩) St.zero [.write [1, 2, 3], .readByte, .grow 64, .len, .unreadByte]
      ≠ outs specObs SSt.empty [.write [1, 2, 3], .readByte, .grow 64, .len, .unreadByte] := by decide +kernel

def policyScript : List Op :=
  [.write (List.replicate 60 7), .read 50, .grow 30, .readByte, .grow 100, .len, .unreadByte, .bytes]

/-- and what the answer there depends on is the capacity policy alone: the two slide guards — both inside `Proved`,
    both refining the abstract buffer on every admissible script — answer this script differently, because the
    earlier `Grow(30)` slid (cap 64) under one and reallocated (cap 158) under the other, so that `Grow(100)`
    reslices (offset kept, byte restored) or moves the data (offset 0, nothing restored). The set of scripts on which a
    `bytes.Buffer`'s answer can depend on its growth policy is exactly: `Unread*` while `lastRead` is still the one a read
    before a `Grow` left (`off` enters a result only through `off > 0` / `off >= lastRead` in `Unread*`; the invariant
    `lastRead valid ⇒ off ≥ size` is broken only by `Grow` and re-established by every operation that assigns
    `lastRead`; `Len/Bytes/String` assign nothing). -/
theorem witness_unread_depends_on_capacity_policy :
    outs (implObs ⟨.unsigned, .half, 64, 512⟩) St.zero policyScript
      ≠ outs (implObs ⟨.unsigned, .full, 64, 512⟩) St.zero policyScript := by decide +kernel

/-- A reader that hands over up to 6 bytes per call when `MinRead = 4`: how much it delivers depends on the space
    `cap-len` the buffer offers (4, then 8 after reallocating to 12) — the model takes 4+6 = 10 bytes where a buffer
    that always offers ≥ 6 would take 12. That size is capacity policy, outside the contract like `Cap()`: such
    readers are outside `Common`. The same bytes delivered always give the same contents and results (`texbuf_refines`). -/
theorem witness_reader_depends_on_space :
    ¬ Common ⟨.unsigned, .half, 2, 4⟩ (.readFrom ⟨List.replicate 20 1, [6, 6], 0, .eof, false⟩) ∧
    (outs (implObs ⟨.unsigned, .half, 2, 4⟩) St.zero [.readFrom ⟨List.replicate 20 1, [6, 6], 0, .eof, false⟩]).map (·.1)
      = [.nErr 10 .nil] ∧
    (outs specObs SSt.empty [.readFrom ⟨List.replicate 20 1, [6, 6], 0, .eof, false⟩]).map (·.1) = [.nErr 12 .nil] := by
  decide +kernel

end Nv.C11
