import Nv.Proofs.C16Flush
import Nv.Proofs.C16Conf
/-!
C16 — property theorems for `stcp.Session`, `SessionMgr.count` and the accept loop (model: `Nv.Model.C16`).

Every statement quantifies over all reachable states of the transition systems, i.e. over every schedule of the
two loops (with `quit` split into its four effects), every order and combination of terminating events, any number
of queued sends, any number of sessions and connection attempts; `c` ranges over the proved configurations.
Environment assumption, named in every statement: `OnExitReturns k` — the handler's exit callback returns normally
(`witness_onexit_panics_leaks`, `witness_onexit_blocks_leaks` show what happens otherwise). Below the transition
level the behaviour of the OS (`net.Conn`, deadlines, the Go scheduler) is assumed — see docs/C16.md.
-/
namespace Nv.C16

theorem reach_returns {c : Cfg} {k : OnExitKind} (hx : OnExitReturns k) {s : Sess} (hr : (sessLTSK c k).Reach s) :
    (sessLTS c).Reach s := by cases hx; exact hr

/-! ### one session: single exit -/

/-- the exit callback, the count decrement and the connection close each happen at most once, in every reachable state -/
theorem sess_exit_at_most_once {c : Cfg} (hc : Proved c) {k : OnExitKind} (hx : OnExitReturns k) (s : Sess)
    (hr : (sessLTSK c k).Reach s) : s.exits ≤ 1 ∧ s.decs ≤ 1 ∧ s.closes ≤ 1 :=
  counters_le_one (sinv_reach hc s (reach_returns hx hr))

/-- … in the order OnExit, Dec, Close, all of them done once the once has finished and none before it is taken; a
    loop that has stopped has seen the once finished; no panic escapes -/
theorem sess_exit_together {c : Cfg} (hc : Proved c) {k : OnExitKind} (hx : OnExitReturns k) (s : Sess)
    (hr : (sessLTSK c k).Reach s) :
    s.closes ≤ s.decs ∧ s.decs ≤ s.exits ∧
    (s.onceTaken = false → s.exits = 0) ∧ (s.onceDone = true → s.exits = 1 ∧ s.decs = 1 ∧ s.closes = 1) ∧
    (s.sendPc = .done → s.onceDone = true) ∧ (s.recvPc = .done → s.onceDone = true) ∧ s.crashed = false := by
  have hS := sinv_reach hc s (reach_returns hx hr)
  refine ⟨?_, ?_, fun a => (hS.fresh a).2.1, fun a => ⟨(hS.fin a).2.1, (hS.fin a).2.2.1, (hS.fin a).2.2.2.1⟩,
    hS.send_done, hS.recv_done, hS.not_crashed⟩
  all_goals rcases hS.phase with ⟨_, _, e, d, c⟩ | ⟨_, _, e, d, c⟩ | ⟨_, _, e, d, c⟩ <;> omega

/-! ### one session: terminal states -/

/-- In every reachable state in which neither loop can move, the session is either over — exit callback ran exactly
    once, count given back exactly once, connection closed, both loops stopped — or it is still fully alive and
    waiting: nothing has been released, the read loop is blocked on an open connection, and the send loop is parked on
    an empty open queue or blocked writing to a peer that does not read. (No state "in the middle of quit" is
    quiescent: the owner of the once can always move.) -/
theorem sess_terminal_state {c : Cfg} (hc : Proved c) {k : OnExitKind} (hx : OnExitReturns k) (s : Sess)
    (hr : (sessLTSK c k).Reach s) (hq : quiescent c s) : ended s ∨ waiting s := by
  have hS := sinv_reach hc s (reach_returns hx hr)
  exact quiescentP_cases hS ((quiescent_proved hc hS).1 hq)

/-- whatever ends it, state form: once a terminating condition holds (`Doomed`: the read loop has left its read, the
    peer or the connection is closed, a failing write is in progress or ahead, or the queue is closed and no write can
    stay blocked), a quiescent state is an ended one -/
theorem sess_terminating_event_ends {c : Cfg} (hc : Proved c) {k : OnExitKind} (hx : OnExitReturns k) (s : Sess)
    (hr : (sessLTSK c k).Reach s) (hq : quiescent c s) (hev : Doomed s) : ended s := by
  rcases sess_terminal_state hc hx s hr hq with h | h
  · exact h
  · exact absurd h (fun w => doomed_not_waiting hev w)

/-! ### one session: progress -/

def Act.internal : Act → Bool
  | .sendStep | .recvStep => true
  | .env _ => false

/-- every loop step strictly decreases `measure s = 2·|queue| + weights ≤ 2·|queue| + 13` -/
theorem sess_progress {c : Cfg} (hc : Proved c) {s s' : Sess} {a : Act} (hS : SInv s) (ha : a.internal = true)
    (hs : step c s a = some s') : measure s' < measure s := by
  rcases step_proved hc hS hs with ⟨e, rfl, _⟩ | ⟨_, hs⟩ | ⟨_, hs⟩
  · cases ha
  · exact measure_sendStepP hs
  · exact measure_recvStepP hs

theorem measure_le (s : Sess) : measure s ≤ 2 * s.q.length + 13 := by
  unfold measure
  have h1 : s.sendPc.weight ≤ 7 := by cases s.sendPc <;> simp [SendPc.weight]; rename_i st; cases st <;> simp [QStage.weight]
  have h2 : s.recvPc.weight ≤ 6 := by cases s.recvPc <;> simp [RecvPc.weight]; rename_i p st; cases st <;> simp [QStage.weight]
  omega

/-- hence without new environment events the loops take at most `2·queued + 13` more steps (no livelock) -/
theorem sess_internal_run_bounded {c : Cfg} (hc : Proved c) : ∀ (as : List Act) (s s' : Sess), SInv s →
    (∀ a ∈ as, a.internal = true) → (sessLTS c).run s as = some s' → as.length + measure s' ≤ measure s
  | [], s, s', _, _, h => by simp [LTS.run] at h; subst h; simp
  | a :: as, s, s', hS, hi, h => by
    simp only [LTS.run] at h
    cases h1 : (sessLTS c).step s a with
    | none => simp [h1] at h
    | some s1 =>
      simp only [h1] at h
      have := sess_progress hc hS (hi a (by simp)) h1
      have := sess_internal_run_bounded hc as s1 s' (sinv_step hc hS h1) (fun b hb => hi b (by simp [hb])) h
      simp; omega

/-- running the loops until nothing moves (what the correspondence does after each event) ends in a quiescent state
    (a reachable one: `settle_reach`) -/
theorem settle_quiescent {c : Cfg} (hc : Proved c) (s : Sess) (hS : SInv s) : quiescent c (settle c s) :=
  (settleN_spec hc (measure s) s hS (Nat.le_refl _)).2

theorem settle_reach {c : Cfg} (s : Sess) (hr : (sessLTS c).Reach s) : (sessLTS c).Reach (settle c s) :=
  settleN_reach _ s hr

theorem event_reach {c : Cfg} (s : Sess) (e : Env) (hr : (sessLTS c).Reach s) : (sessLTS c).Reach (event c s e) :=
  settle_reach _ (LTS.Reach.step (a := Act.env e) hr rfl)

theorem events_reach {c : Cfg} : ∀ (es : List Env) (s : Sess), (sessLTS c).Reach s → (sessLTS c).Reach (events c s es)
  | [], _, hr => hr
  | e :: es, s, hr => by
    simp only [events, List.foldl_cons]
    exact events_reach es _ (event_reach s e hr)

theorem irun_of_run {c : Cfg} (hc : Proved c) : ∀ (as : List Act) (u t : Sess), SInv u → (∀ a ∈ as, a.internal = true) →
    (sessLTS c).run u as = some t → IRun u t
  | [], u, t, _, _, h => by simp [LTS.run] at h; subst h; exact IRun.refl _
  | a :: as, u, t, hS, hi, h => by
    simp only [LTS.run] at h
    cases h1 : (sessLTS c).step u a with
    | none => simp [h1] at h
    | some u1 =>
      simp only [h1] at h
      have r := irun_of_run hc as u1 t (sinv_step hc hS h1) (fun b hb => hi b (by simp [hb])) h
      have hia := hi a (by simp)
      rcases step_proved hc hS h1 with ⟨e, rfl, _⟩ | ⟨_, h1⟩ | ⟨_, h1⟩
      · cases hia
      · exact IRun.send h1 r
      · exact IRun.recv h1 r

/-- whatever ends it, run form: from a state in which a terminating condition holds, every run of loop steps that
    reaches quiescence reaches `ended` -/
theorem doomed_irun_ends {c : Cfg} (hc : Proved c) {s t : Sess} (r : IRun s t) (hS : SInv s) (hd : Doomed s)
    (hq : quiescent c t) : ended t := by
  induction r with
  | refl s => exact (quiescentP_cases hS ((quiescent_proved hc hS).1 hq)).resolve_right (doomed_not_waiting hd)
  | send h _ ih => exact ih (sinv_sendStepP hS h) (doomed_sendStepP hd h) hq
  | recv h _ ih => exact ih (sinv_recvStepP hS h) (doomed_recvStepP h) hq

/-- **Whatever ends it.** For every terminating event of the property's list — local `Close` (`.close`), peer close
    (`.peerClose`), read error or read timeout (`.readFail`), write error or write timeout (`.writeFail`, after a partial
    write: `.writeFailAfter n`), a panic in the read handler (`.handlerPanic`) — from ANY reachable state in which the
    event is a terminating one (`Terminating s e`: always for the read-side events and the peer close; for a failing
    write when a write is in progress or queued; for a local Close unless a write stays blocked on a peer that does not
    read), EVERY schedule of loop steps that runs until neither loop can move ends in `ended`: exit callback exactly
    once, count returned exactly once, connection closed, both loops stopped, no escaped panic. -/
theorem terminating_event_ends {c : Cfg} (hc : Proved c) {k : OnExitKind} (hx : OnExitReturns k) (s : Sess)
    (hr : (sessLTSK c k).Reach s) (e : Env) (he : Terminating s e) (as : List Act) (hi : ∀ a ∈ as, a.internal = true)
    (t : Sess) (hrun : (sessLTS c).run (envStep s e) as = some t) (hq : quiescent c t) : ended t := by
  have hS := sinv_env (sinv_reach hc s (reach_returns hx hr)) e
  exact doomed_irun_ends hc (irun_of_run hc as _ t hS hi hrun) hS (doomed_of_event he) hq

/-- the blocked-write form of a local Close (and of anything else): a write blocked on a silent peer ends the
    session as soon as the peer reads again or the write fails/times out -/
theorem blocked_close_ends {c : Cfg} (hc : Proved c) {k : OnExitKind} (hx : OnExitReturns k) (s : Sess)
    (hr : (sessLTSK c k).Reach s) (hcl : s.qClosed = true) (e : Env) (he : e = .peerDrain ∨ e = .writeFail)
    (as : List Act) (hi : ∀ a ∈ as, a.internal = true)
    (t : Sess) (hrun : (sessLTS c).run (envStep s e) as = some t) (hq : quiescent c t) : ended t := by
  have hS := sinv_env (sinv_reach hc s (reach_returns hx hr)) e
  have h0 : Doomed (envStep s e) := by
    refine Or.inr (Or.inr (Or.inr (Or.inr ?_)))
    rcases he with rfl | rfl
    · exact ⟨hcl, Or.inl rfl⟩
    · exact ⟨hcl, Or.inr (Or.inl rfl)⟩
  exact doomed_irun_ends hc (irun_of_run hc as _ t hS hi hrun) hS h0 hq

/-- in particular the schedule the oracle runs -/
theorem event_ends_session {c : Cfg} (hc : Proved c) {k : OnExitKind} (hx : OnExitReturns k) (s : Sess)
    (hr : (sessLTSK c k).Reach s) (e : Env) (he : Terminating s e) : ended (event c s e) := by
  have hS := sinv_env (sinv_reach hc s (reach_returns hx hr)) e
  obtain ⟨r, q⟩ := settleN_spec hc _ (envStep s e) hS (Nat.le_refl _)
  exact doomed_irun_ends hc r hS (doomed_of_event he) q

/-- Schedule independence of one script step: from a quiescent reachable state, after one environment event, *every*
    schedule of the two loops that runs until neither can move ends in the same state — the one the oracle computes
    (`event c s e`). So the correspondence compares against the only possible outcome, not against one schedule. -/
theorem event_schedule_independent {c : Cfg} (hc : Proved c) {k : OnExitKind} (hx : OnExitReturns k) (s : Sess)
    (hr : (sessLTSK c k).Reach s) (hq : quiescent c s)
    (e : Env) (as : List Act) (hi : ∀ a ∈ as, a.internal = true) (t : Sess)
    (hrun : (sessLTS c).run (envStep s e) as = some t) (hqt : quiescent c t) : t = event c s e := by
  have hr' := reach_returns hx hr
  have hS := sinv_env (sinv_reach hc s hr') e
  have hK := norace_after_event (sess_terminal_state hc hx s hr hq) e
  have r1 := irun_of_run hc as _ t hS hi hrun
  have n1 := (quiescent_proved hc (r1.sinv hS)).1 hqt
  obtain ⟨r2, q2⟩ := settleN_spec hc _ (envStep s e) hS (Nat.le_refl _)
  have n2 := (quiescent_proved hc (r2.sinv hS)).1 q2
  exact normal_unique _ _ _ _ (Nat.lt_succ_self _) hS hK r1 n1 r2 n2

/-! ### one session: flush before local close -/

theorem all_inv_reach {c : Cfg} (hc : Proved c) : ∀ s, (sessLTS c).Reach s → SInv s ∧ GInv s ∧ FOk s :=
  (sessLTS c).inv_of_step (fun s => SInv s ∧ GInv s ∧ FOk s) ⟨sinv_init, ginv_init, fok_init⟩ (by
    intro s a s' ⟨hS, hG, hF⟩ hs
    rcases step_proved hc hS hs with ⟨e, _, rfl⟩ | ⟨_, hs⟩ | ⟨_, hs⟩
    · exact ⟨sinv_env hS e, ginv_env hG e, fok_env hF e⟩
    · exact ⟨sinv_sendStepP hS hs, ginv_sendStepP hG hs, fok_sendStepP hS hG hF hs⟩
    · exact ⟨sinv_recvStepP hS hs, ginv_recvStepP hG hs, fok_recvStepP hS hF hs⟩)

/-- the peer reads a prefix of what `Send` accepted: in order, nothing duplicated or invented — in every reachable state -/
theorem delivered_in_order {c : Cfg} (hc : Proved c) {k : OnExitKind} (hx : OnExitReturns k) (s : Sess)
    (hr : (sessLTSK c k).Reach s) : s.delivered <+: s.accepted.flatten :=
  (all_inv_reach hc s (reach_returns hx hr)).2.1.pref

/-- Flush before local close: in every reachable state in which no terminating event other than a local `Close`
    has happened (no peer close, no failing read or write, no handler panic), if the connection is closed then the
    peer has read *all* bytes `Send` accepted, in order. (The connection is closed by the last step of `quit` only, so
    this holds at the moment of closing; already when the once is taken — before OnExit runs — everything has been
    delivered.) Nothing is accepted after the local Close: `no_accept_after_close`. -/
theorem flush_before_close {c : Cfg} (hc : Proved c) {k : OnExitKind} (hx : OnExitReturns k) (s : Sess)
    (hr : (sessLTSK c k).Reach s) (hf : s.faulted = false) (hcl : s.closes ≠ 0 ∨ s.onceTaken = true) :
    s.delivered = s.accepted.flatten := by
  obtain ⟨hS, _, hF⟩ := all_inv_reach hc s (reach_returns hx hr)
  obtain ⟨_, _, f3, f4, _⟩ := hF hf
  have ht : s.onceTaken = true := by
    rcases hcl with h | h
    · exact (once_of_closes hS h).1
    · exact h
  exact (f4 (f3 ht)).1

/-- … and until then nothing is lost either: while the send loop runs, delivered ++ in-flight ++ queued = accepted -/
theorem nothing_lost_while_sending {c : Cfg} (hc : Proved c) {k : OnExitKind} (hx : OnExitReturns k) (s : Sess)
    (hr : (sessLTSK c k).Reach s) (hl : sendLooping s) : s.delivered ++ inflight s ++ s.q.flatten = s.accepted.flatten :=
  (all_inv_reach hc s (reach_returns hx hr)).2.1.pending hl

theorem no_accept_after_close (s : Sess) (bs : List Nat) (h : s.qClosed = true) :
    sendAccepted s = false ∧ (envStep s (.send bs)).accepted = s.accepted := by
  simp [sendAccepted, envStep, h]

/-- the events that do not set `faulted` -/
def Act.benign : Act → Bool
  | .env (.send _) | .env .close | .env .peerDrain | .env .peerHold | .env .peerData | .sendStep | .recvStep => true
  | _ => false

theorem faulted_unchanged {c : Cfg} (hc : Proved c) {s s' : Sess} {a : Act} (hS : SInv s) (hb : a.benign = true)
    (hs : step c s a = some s') : s'.faulted = s.faulted := by
  rcases step_proved hc hS hs with ⟨e, rfl, rfl⟩ | ⟨_, hs⟩ | ⟨_, hs⟩
  · cases e <;> simp [Act.benign] at hb <;> simp only [envStep] <;> (try split) <;> rfl
  · exact (sendStepP_frame hs).1.faulted
  · exact (recvStepP_frame hs).1.faulted

/-- trace form: along any run made only of sends, local closes, the peer reading or pausing, handler data and loop
    steps — in any order and number — a closed connection means everything accepted was delivered, in order -/
theorem flush_before_close_trace {c : Cfg} (hc : Proved c) (as : List Act) (s : Sess)
    (hb : ∀ a ∈ as, a.benign = true) (hrun : (sessLTS c).run Sess.init as = some s) (hcl : s.closes ≠ 0) :
    s.delivered = s.accepted.flatten := by
  have hr : (sessLTS c).Reach s := LTS.reach_of_run _ as _ _ LTS.Reach.init hrun
  apply flush_before_close hc rfl s hr _ (Or.inl hcl)
  have key : ∀ (as : List Act) (t t' : Sess), SInv t → (∀ a ∈ as, a.benign = true) → t.faulted = false →
      (sessLTS c).run t as = some t' → t'.faulted = false := by
    intro as
    induction as with
    | nil => intro t t' _ _ h0 h; simp [LTS.run] at h; subst h; exact h0
    | cons a as ih =>
      intro t t' hS hb h0 h
      simp only [LTS.run] at h
      cases h1 : (sessLTS c).step t a with
      | none => simp [h1] at h
      | some t1 =>
        simp only [h1] at h
        have h1' : step c t a = some t1 := h1
        refine ih t1 t' (sinv_step hc hS h1') (fun b hb' => hb b (by simp [hb'])) ?_ h
        rw [faulted_unchanged hc hS (hb a (by simp)) h1']; exact h0
  exact key as Sess.init s sinv_init hb rfl hrun

/-! ### many sessions: the manager's count and the accept loop -/

/-- every session of a reachable world is in a reachable state of the one-session system, so all theorems above
    hold for each of any number of simultaneous sessions -/
theorem world_sess_reach {c : Cfg} (max : Int) (k : OnExitKind) : ∀ w, (worldLTSK c max k).Reach w →
    w.max = max ∧ w.onExit = k ∧ ∀ s ∈ w.sess, (sessLTSK c k).Reach s :=
  (worldLTSK c max k).inv_of_step (fun w => w.max = max ∧ w.onExit = k ∧ ∀ s ∈ w.sess, (sessLTSK c k).Reach s)
    ⟨rfl, rfl, by intro s hs; cases hs⟩ (by
    intro w a w' ⟨h1, h2, h3⟩ hs
    rcases wstep_cases hs with ⟨_, _, rfl⟩ | ⟨_, _, rfl⟩ | ⟨j, b, s0, s1, _, hk, hst, rfl⟩
    · exact ⟨h1, h2, h3⟩
    · refine ⟨h1, h2, fun s hm => ?_⟩
      rcases List.mem_append.1 hm with hm | hm
      · exact h3 s hm
      · cases List.mem_singleton.1 hm; rw [h2]; exact LTS.Reach.init
    · refine ⟨h1, h2, fun s hm => ?_⟩
      rcases List.mem_or_eq_of_mem_set hm with hm | rfl
      · exact h3 s hm
      · exact LTS.Reach.step (h3 s0 (List.mem_of_getElem? hk)) hst)

theorem world_sinv {c : Cfg} (hc : Proved c) (max : Int) {k : OnExitKind} (hx : OnExitReturns k) (w : World)
    (hr : (worldLTSK c max k).Reach w) : ∀ s ∈ w.sess, SInv s :=
  fun s hs => sinv_reach hc s (reach_returns hx ((world_sess_reach max k w hr).2.2 s hs))

/-- balanced count: in every reachable world the count equals the number of sessions that have not executed their
    `count.Dec()` — each session adds one at `Start` and gives exactly that one back, whatever ends it -/
theorem count_balanced {c : Cfg} (hc : Proved c) (max : Int) {k : OnExitKind} (hx : OnExitReturns k) (w : World)
    (hr : (worldLTSK c max k).Reach w) : w.count = (aliveNum w.sess : Int) :=
  liveCount_eq_alive w.sess (world_sinv hc max hx w hr)

theorem count_nonneg {c : Cfg} (hc : Proved c) (max : Int) {k : OnExitKind} (hx : OnExitReturns k) (w : World)
    (hr : (worldLTSK c max k).Reach w) : 0 ≤ w.count := by
  rw [count_balanced hc max hx w hr]; omega

/-- the count never exceeds the configured maximum -/
theorem count_le_max {c : Cfg} (hc : Proved c) (max : Int) (hmax : 0 ≤ max) {k : OnExitKind} (hx : OnExitReturns k)
    (w : World) (hr : (worldLTSK c max k).Reach w) : w.count ≤ max := by
  induction hr with
  | init => exact hmax
  | @step w a w' hr hs ih =>
    obtain ⟨hm, _⟩ := world_sess_reach max k w hr
    rcases wstep_cases hs with ⟨_, _, rfl⟩ | ⟨_, hfull, rfl⟩ | ⟨j, b, s0, s1, _, hk, hst, rfl⟩
    · exact ih
    · -- admitted only below the maximum
      rw [full_proved hc, decide_eq_false_iff_not, hm] at hfull
      simp only [World.count, liveCount_append, Sess.initWith] at hfull ⊢
      omega
    · -- a session moving can only give its count back
      have hm := decs_mono_P hc (world_sinv hc max hx w hr s0 (List.mem_of_getElem? hk)) hst
      have := liveCount_set w.sess j s0 s1 hk
      simp only [World.count] at ih ⊢
      omega

/-- with a negative maximum nothing is ever admitted -/
theorem negative_max_admits_nothing {c : Cfg} (hc : Proved c) (max : Int) (hmax : max < 0) (k : OnExitKind) (w : World)
    (hr : (worldLTSK c max k).Reach w) : w.sess = [] := by
  induction hr with
  | init => rfl
  | @step w a w' hr hs ih =>
    obtain ⟨hm, _⟩ := world_sess_reach max k w hr
    rcases wstep_cases hs with ⟨_, _, rfl⟩ | ⟨_, hfull, rfl⟩ | ⟨j, b, s0, s1, _, hk, hst, rfl⟩
    · exact ih
    · rw [full_proved hc, decide_eq_false_iff_not, hm, World.count, ih] at hfull
      exact absurd (Int.le_of_lt hmax) hfull
    · rw [ih] at hk; cases hk

/-- surplus connections are closed on accept, and only those: the accept loop closes the new connection exactly
    when the count has reached the maximum; otherwise it starts a session (count + 1, inside `Start`) -/
theorem accept_decision {c : Cfg} (hc : Proved c) (w : World) :
    wstep c w .connect =
      if w.count ≥ w.max then some { w with rejected := w.rejected + 1 }
      else some { w with sess := w.sess ++ [Sess.initWith w.onExit] } := by
  simp only [wstep, full_proved hc]
  by_cases h : w.count ≥ w.max <;> simp [h]

/-- a full server closes any number of surplus connections in a row and admits none of them -/
theorem connects_when_full {c : Cfg} (hc : Proved c) (w : World) (hfull : w.count ≥ w.max) : ∀ (n : Nat),
    (worldLTS c w.max).run w (List.replicate n .connect) = some { w with rejected := w.rejected + n }
  | 0 => rfl
  | n + 1 => by
    have hstep : (worldLTS c w.max).step w .connect = some { w with rejected := w.rejected + 1 } := by
      show wstep c w .connect = _
      rw [accept_decision hc]; simp [hfull]
    simp only [List.replicate_succ, LTS.run, hstep]
    have ih := connects_when_full hc { w with rejected := w.rejected + 1 } hfull n
    simp only at ih
    rw [ih]
    simp [Nat.add_assoc, Nat.add_comm 1 n]

/-- when every session of a reachable world is quiescent, each is ended or waiting and the count is exactly the number
    of sessions still waiting: every ended session has returned the count to its previous value -/
theorem count_at_quiescence {c : Cfg} (hc : Proved c) (max : Int) {k : OnExitKind} (hx : OnExitReturns k) (w : World)
    (hr : (worldLTSK c max k).Reach w) (hq : ∀ s ∈ w.sess, quiescent c s) :
    (∀ s ∈ w.sess, ended s ∨ waiting s) ∧ w.count = ((w.sess.filter (fun s => decide (s.decs = 0))).length : Int) := by
  have hsr := (world_sess_reach max k w hr).2.2
  refine ⟨fun s hs => sess_terminal_state hc hx s (hsr s hs) (hq s hs), ?_⟩
  rw [count_balanced hc max hx w hr]
  have : ∀ l : List Sess, aliveNum l = (l.filter (fun s => decide (s.decs = 0))).length := by
    intro l
    induction l with
    | nil => rfl
    | cons x xs ih => by_cases h : x.decs = 0 <;> simp [aliveNum, h, ih] <;> omega
  rw [this]

/-! ### non-vacuity: concrete reachable states satisfying the hypotheses -/

example : Proved Cfg.good := by decide
example : OnExitReturns .returns := by decide

/-- a session ended by a handler panic after two sends: reachable, quiescent, ended -/
example : let s := events Cfg.good Sess.init [.send [1, 2], .send [3], .peerData, .handlerPanic]
    quiescent Cfg.good s ∧ ended s ∧ s.delivered = [1, 2, 3] ∧ s.faulted = true := by decide

/-- local Close behind a blocked write and two queued items: not over while the peer does not read (`waiting`),
    everything delivered in order once it does, then closed -/
example : let s := events Cfg.good Sess.init [.peerHold, .send [1], .send [2, 3], .send [4], .close]
    quiescent Cfg.good s ∧ ¬ ended s ∧ s.closes = 0 ∧ s.faulted = false ∧ ¬ Terminating s .close ∧ Terminating s .writeFail := by decide
example : let s := events Cfg.good Sess.init [.peerHold, .send [1], .send [2, 3], .send [4], .close, .send [9], .peerDrain]
    ended s ∧ s.closes ≠ 0 ∧ s.faulted = false ∧ s.delivered = [1, 2, 3, 4] ∧ s.accepted = [[1], [2, 3], [4]] := by decide

/-- `terminating_event_ends` is about every state, also one in the middle of things: a blocked write, two queued
    items; the write fails (error or timeout) — a schedule with the receive loop scheduled late -/
example : let s := events Cfg.good Sess.init [.peerHold, .send [1], .send [2]]
    Terminating s .writeFail ∧
    ((sessLTS Cfg.good).run (envStep s .writeFail)
      [.sendStep, .sendStep, .sendStep, .sendStep, .sendStep, .recvStep, .recvStep]).map (fun t => decide (ended t)) = some true := by decide

/-- a backlog: three items sent and flushed, then eight queued behind a stalled peer, a local Close, and the peer
    reads again: every byte arrives, in order, before the connection closes -/
example : let backlog := (List.range 8).map (fun i => Env.send [i + 10])
    let s := events Cfg.good Sess.init ([.send [1], .send [2], .send [3], .peerHold] ++ backlog ++ [.close, .peerDrain])
    ended s ∧ s.faulted = false ∧ s.delivered = [1, 2, 3] ++ (List.range 8).map (· + 10) := by decide

/-- a partial write followed by a write error / timeout: the peer has a proper prefix of the item, the session is over,
    nothing else of the queue is ever written (no retry, no duplicate) -/
example : let s := events Cfg.good Sess.init [.send [9], .writeFailAfter 2, .send [1, 2, 3, 4], .send [5]]
    ended s ∧ s.delivered = [9, 1, 2] ∧ s.accepted = [[9], [1, 2, 3, 4]] := by decide

/-- the peer closes while a write is blocked: both loops race for `exitOnce`; the receive-first schedule ends where
    the oracle's send-first schedule (`event`) ends -/
example : let s := events Cfg.good Sess.init [.peerHold, .send [1], .send [2]]
    quiescent Cfg.good s ∧
    (sessLTS Cfg.good).run (envStep s .peerClose)
      [.recvStep, .sendStep, .recvStep, .recvStep, .recvStep, .recvStep, .sendStep] = some (event Cfg.good s .peerClose) ∧
    quiescent Cfg.good (event Cfg.good s .peerClose) := by decide

/-- three connection attempts against maxConn = 2, one session ends (all steps of its quit), a fourth attempt -/
example : ((worldLTS Cfg.good 2).run { max := 2 }
    [.connect, .connect, .connect, .sess 0 (.env .peerClose), .sess 0 .recvStep, .sess 0 .recvStep, .sess 0 .recvStep,
     .sess 0 .recvStep, .sess 0 .recvStep, .sess 0 .sendStep, .sess 0 .sendStep, .connect]).map
      (fun w => (w.count, w.rejected, w.sess.length)) = some (2, 1, 3) := by decide

/-- between the steps of `quit` the count is already returned while the connection is still open -/
example : ((worldLTS Cfg.good 2).run { max := 2 }
    [.connect, .sess 0 (.env .peerClose), .sess 0 .recvStep, .sess 0 .recvStep, .sess 0 .recvStep]).map
      (fun w => (w.count, w.sess.map (fun s => (s.exits, s.decs, s.closes)))) = some (0, [(1, 1, 0)]) := by decide

/-! ### the environment assumption: an exit callback that does not return -/

/-- OnExit panics: `sync.Once` is marked done, the rest of `quit` is skipped; `recovery` swallows the panic. The count
    is not returned, the connection stays open and the send loop stays parked — for ever. (Observed on the real code;
    outside the property's list of terminating events; hardening proposal: fixes/C16-onexit-panic-safe.diff.txt.) -/
theorem witness_onexit_panics_leaks :
    let s := events Cfg.good (Sess.initWith .panics) [.peerClose]
    quiescent Cfg.good s ∧ s.exits = 1 ∧ s.decs = 0 ∧ s.closes = 0 ∧ s.recvPc = .done ∧ s.sendPc = .idle ∧
    s.crashed = false ∧ ¬ ended s := by decide

/-- OnExit blocks: the loop that won the once never comes back, the other one waits in `exitOnce.Do` or stays parked -/
theorem witness_onexit_blocks_leaks :
    let s := events Cfg.good (Sess.initWith .blocks) [.send [1], .close]
    quiescent Cfg.good s ∧ s.exits = 1 ∧ s.decs = 0 ∧ s.closes = 0 ∧ s.sendPc = .quitting .stuck ∧ s.recvPc = .reading := by decide

/-! ### the configurations for which the property is false: concrete witnesses (replayed on the real code by
    `c16 corr`, fixed cases tagged `witness`, on a tree with the corresponding edit) -/

/-- the source before fix 2279fa4: a zero-length item makes `loopSend` return; items accepted after it and before the
    local Close are never written. Script: hold, send 6161, send -, send 6262, close, drain. -/
theorem witness_emptySend_quits :
    let c : Cfg := { Cfg.good with emptySend := .quits }
    let s := events c Sess.init [.peerHold, .send [0x61, 0x61], .send [], .send [0x62, 0x62], .close, .peerDrain]
    s.faulted = false ∧ s.closes ≠ 0 ∧ s.accepted.flatten = [0x61, 0x61, 0x62, 0x62] ∧ s.delivered = [0x61, 0x61] := by decide

theorem not_flush_emptySend_quits :
    ¬ (∀ s, (sessLTS { Cfg.good with emptySend := .quits }).Reach s → s.faulted = false → s.closes ≠ 0 →
        s.delivered = s.accepted.flatten) := by
  intro h
  have := h (events { Cfg.good with emptySend := .quits } Sess.init
      [.peerHold, .send [0x61, 0x61], .send [], .send [0x62, 0x62], .close, .peerDrain])
    (events_reach _ _ LTS.Reach.init) (by decide) (by decide)
  revert this; decide

/-- `loopSend` popping with `Pop`: items still queued at the local Close are dropped -/
theorem witness_pop_loses_queued :
    let c : Cfg := { Cfg.good with sendPop := .pop }
    let s := events c Sess.init [.peerHold, .send [1], .send [2], .close, .peerDrain]
    s.faulted = false ∧ s.closes ≠ 0 ∧ s.accepted.flatten = [1, 2] ∧ s.delivered = [1] := by decide

/-- `quit` without `exitOnce`: both loops run the body — OnExit twice, count −1 -/
theorem witness_quit_without_once :
    let c : Cfg := { Cfg.good with quitOnce := false }
    let s := events c Sess.init [.close]
    s.exits = 2 ∧ s.decs = 2 ∧ liveCount [s] = -1 := by decide

/-- accept loop comparing with `>`: maxConn + 1 sessions -/
theorem witness_accept_gt :
    let c : Cfg := { Cfg.good with acceptCmp := .gt }
    ((worldLTS c 1).run { max := 1 } [.connect, .connect]).map World.count = some 2 := by decide

/-- `loopSend` without a deferred `quit`: a local Close stops the send loop and nothing else -/
theorem witness_send_without_deferred_quit :
    let c : Cfg := { Cfg.good with sendDefers := .recoveryOnly }
    let s := events c Sess.init [.close]
    quiescent c s ∧ s.exits = 0 ∧ s.closes = 0 ∧ s.recvPc = .reading ∧ s.sendPc = .done := by decide

/-- `loopReceive` without a deferred `recovery`: a handler panic escapes the goroutine -/
theorem witness_recv_without_recovery :
    let c : Cfg := { Cfg.good with recvDefers := .quitOnly }
    (events c Sess.init [.handlerPanic]).crashed = true := by decide

/-- `quit` that does not close the connection: after a local Close the read loop never stops -/
theorem witness_quit_without_conn_close :
    let c : Cfg := { Cfg.good with quitCloseConn := false }
    let s := events c Sess.init [.close]
    quiescent c s ∧ s.exits = 1 ∧ s.recvPc = .reading := by decide

/-- `quit` that does not close the queue: after a read error the send loop never stops -/
theorem witness_quit_without_queue_close :
    let c : Cfg := { Cfg.good with quitCloseQ := false }
    let s := events c Sess.init [.readFail]
    quiescent c s ∧ s.exits = 1 ∧ s.sendPc = .idle := by decide

/-- the order of the two defers does not matter (a deferred `recovery` recovers, then `quit` still runs) -/
example : Proved { Cfg.good with sendDefers := .quitRecovery, recvDefers := .quitRecovery } := by decide

end Nv.C16
