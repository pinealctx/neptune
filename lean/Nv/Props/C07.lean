import Nv.Model.C07
import Nv.Proofs.C07Codec
import Nv.Proofs.C07Round
import Nv.Proofs.C07Calendar
/-!
C07 — property theorems for the snowflake id codec (model `Nv/Model/C07.lean`).
Ids are signed 64-bit integers; "non-negative id" is `0 ≤ id.toInt`; every non-negative id has a timestamp
field that fits the configured width. All six layouts (`LayoutOk nb`, node-at-lowest on/off).
-/
namespace Nv.C07
open Nv.C06

/-- splitting an id into (timestamp, node, step) and recombining the fields as `Generate` packs them gives the id -/
theorem id_split_join {nb : BitVec 8} (hl : LayoutOk nb) (nal : Bool) (id : BitVec 64) (h : 0 ≤ id.toInt) :
    join nb nal (idFields id nb nal).1 (idFields id nb nal).2.1 (idFields id nb nal).2.2 = id :=
  join_idFields hl nal (toNat_lt_of_toInt_nonneg h)

theorem id_fields_fit {nb : BitVec 8} (hl : LayoutOk nb) (nal : Bool) (id : BitVec 64) (h : 0 ≤ id.toInt) :
    (idFields id nb nal).1.toNat < 2 ^ tsWidth nb ∧ (idFields id nb nal).2.1.toNat < 2 ^ nb.toNat ∧
      (idFields id nb nal).2.2.toNat < 4096 :=
  idFields_ranges hl nal (toNat_lt_of_toInt_nonneg h)

theorem id_join_split {nb : BitVec 8} (hl : LayoutOk nb) (nal : Bool) (t n s : BitVec 64)
    (ht : t.toNat < 2 ^ tsWidth nb) (hn : n.toNat < 2 ^ nb.toNat) (hs : s.toNat < 4096) :
    idFields (join nb nal t n s) nb nal = (t, n, s) ∧ 0 ≤ (join nb nal t n s).toInt := by
  refine ⟨idFields_join hl nal ht hn hs, ?_⟩
  rw [toInt_eq_toNat_of_lt (join_lt hl nal ht hn hs)]; omega

theorem id_parse_fields (id : BitVec 64) (nb : BitVec 8) (nal : Bool) (epoch : BitVec 64) :
    (idParse id nb nal epoch).1 - epoch = (idFields id nb nal).1 ∧
    (idParse id nb nal epoch).2 = (idFields id nb nal).2 := by
  unfold idParse
  exact ⟨BitVec.add_sub_cancel _ _, rfl⟩

/-- ids order exactly as their (timestamp, remaining bits) pairs order -/
theorem id_order_lex {nb : BitVec 8} (hl : LayoutOk nb) (nal : Bool) (a b : BitVec 64) (ha : 0 ≤ a.toInt) (hb : 0 ≤ b.toInt) :
    a.toInt < b.toInt ↔
      ((idFields a nb nal).1.toInt < (idFields b nb nal).1.toInt ∨
        ((idFields a nb nal).1 = (idFields b nb nal).1 ∧ (rest a nb).toNat < (rest b nb).toNat)) := by
  have ha' := toNat_lt_of_toInt_nonneg ha
  have hb' := toNat_lt_of_toInt_nonneg hb
  rw [toInt_eq_toNat_of_lt ha', toInt_eq_toNat_of_lt hb', ts_toInt hl nal ha', ts_toInt hl nal hb',
    rest_toNat hl, rest_toNat hl, ← BitVec.toNat_inj, ts_toNat hl nal ha', ts_toNat hl nal hb']
  have := lt_iff_lex (Nat.two_pow_pos (tsShift nb)) a.toNat b.toNat
  omega

/-- the comparison the oracle prints (`lexCmp`) is the comparison of the ids -/
theorem lexCmp_spec {nb : BitVec 8} (hl : LayoutOk nb) (nal : Bool) (a b : BitVec 64) (ha : 0 ≤ a.toInt) (hb : 0 ≤ b.toInt) :
    (lexCmp nb nal a b = -1 ↔ a.toInt < b.toInt) ∧ (lexCmp nb nal a b = 1 ↔ b.toInt < a.toInt) := by
  have hab := id_order_lex hl nal a b ha hb
  have hba := id_order_lex hl nal b a hb ha
  rw [← BitVec.toInt_inj] at hab hba
  unfold lexCmp
  simp only [BitVec.slt_iff_toInt_lt, BitVec.ult_iff_toNat_lt]
  omega

/-- **ids are time-ordered**: an id with a strictly earlier timestamp is strictly smaller, whatever node and step either
    carries — sorting ids sorts by creation millisecond -/
theorem id_order_time {nb : BitVec 8} (hl : LayoutOk nb) (nal : Bool) (a b : BitVec 64) (ha : 0 ≤ a.toInt) (hb : 0 ≤ b.toInt)
    (h : (idFields a nb nal).1.toInt < (idFields b nb nal).1.toInt) : a.toInt < b.toInt :=
  (id_order_lex hl nal a b ha hb).2 (Or.inl h)

theorem id_order_time_le {nb : BitVec 8} (hl : LayoutOk nb) (nal : Bool) (a b : BitVec 64) (ha : 0 ≤ a.toInt) (hb : 0 ≤ b.toInt)
    (h : a.toInt ≤ b.toInt) : (idFields a nb nal).1.toInt ≤ (idFields b nb nal).1.toInt :=
  Int.not_lt.1 fun h' => Int.not_lt.2 h (id_order_time hl nal b a hb ha h')

theorem time_id_range_eq (nb : BitVec 8) (epoch sec : BitVec 64) :
    timeIDRange nb epoch sec = timeBetweenID nb epoch sec sec := rfl

/-- the millisecond offset of a second from the epoch, computed without wrap-around -/
theorem sec_offset_toInt (epoch sec : BitVec 64) (hs : -2 ^ 52 ≤ sec.toInt ∧ sec.toInt < 2 ^ 52)
    (he : -2 ^ 62 ≤ epoch.toInt ∧ epoch.toInt < 2 ^ 62) :
    ((sec * 1000#64) - epoch).toInt = sec.toInt * 1000 - epoch.toInt := by
  have h1 : (sec * 1000#64).toInt = sec.toInt * 1000 := by
    rw [BitVec.toInt_mul, show (1000#64).toInt = 1000 by decide]
    apply Int.bmod_eq_of_le <;> omega
  rw [BitVec.toInt_sub, h1]
  apply Int.bmod_eq_of_le <;> omega

/-- **the interval is exact**: with `bOff`/`eOff` the millisecond offsets of the second-truncated endpoints from the
    epoch (non-negative, inside the timestamp width), a non-negative id lies in `[min, max]` iff its timestamp lies
    in `[bOff, eOff]` -/
theorem range_exact {nb : BitVec 8} (hl : LayoutOk nb) (nal : Bool) (epoch b e id : BitVec 64)
    (hb : ((b * 1000#64) - epoch).toNat < 2 ^ tsWidth nb) (he : ((e * 1000#64) - epoch).toNat < 2 ^ tsWidth nb)
    (hid : 0 ≤ id.toInt) :
    ((timeBetweenID nb epoch b e).1.toInt ≤ id.toInt ∧ id.toInt ≤ (timeBetweenID nb epoch b e).2.toInt) ↔
      (((b * 1000#64) - epoch).toInt ≤ (idFields id nb nal).1.toInt ∧
        (idFields id nb nal).1.toInt ≤ ((e * 1000#64) - epoch).toInt) := by
  have hid' := toNat_lt_of_toInt_nonneg hid
  obtain ⟨⟨hmin, hminlt⟩, hmax, hmaxlt⟩ := timeBetweenID_toNat hl epoch b e hb he
  rw [toInt_eq_toNat_of_lt hminlt, toInt_eq_toNat_of_lt hmaxlt, toInt_eq_toNat_of_lt hid', ts_toInt hl nal hid',
    (time_toInt hb).1, (time_toInt he).1, hmin, hmax, Int.ofNat_le, Int.ofNat_le, Int.ofNat_le, Int.ofNat_le]
  exact mem_block_iff (Nat.two_pow_pos _) _ _ _

/-- the interval contains every id whose timestamp lies between the second-truncated endpoints -/
theorem range_contains {nb : BitVec 8} (hl : LayoutOk nb) (nal : Bool) (epoch b e id : BitVec 64)
    (hb : ((b * 1000#64) - epoch).toNat < 2 ^ tsWidth nb) (he : ((e * 1000#64) - epoch).toNat < 2 ^ tsWidth nb)
    (hid : 0 ≤ id.toInt)
    (h : ((b * 1000#64) - epoch).toInt ≤ (idFields id nb nal).1.toInt ∧ (idFields id nb nal).1.toInt ≤ ((e * 1000#64) - epoch).toInt) :
    (timeBetweenID nb epoch b e).1.toInt ≤ id.toInt ∧ id.toInt ≤ (timeBetweenID nb epoch b e).2.toInt :=
  (range_exact hl nal epoch b e id hb he hid).2 h

/-- … and no id whose timestamp lies before the first endpoint's second or after the last endpoint's second -/
theorem range_excludes {nb : BitVec 8} (hl : LayoutOk nb) (nal : Bool) (epoch b e id : BitVec 64)
    (hb : ((b * 1000#64) - epoch).toNat < 2 ^ tsWidth nb) (he : ((e * 1000#64) - epoch).toNat < 2 ^ tsWidth nb)
    (hid : 0 ≤ id.toInt)
    (h : (idFields id nb nal).1.toInt < ((b * 1000#64) - epoch).toInt ∨ ((e * 1000#64) - epoch).toInt < (idFields id nb nal).1.toInt) :
    id.toInt < (timeBetweenID nb epoch b e).1.toInt ∨ (timeBetweenID nb epoch b e).2.toInt < id.toInt := by
  have := range_exact hl nal epoch b e id hb he hid
  omega

/-- both endpoints of the computed interval are themselves non-negative ids, and the interval is non-empty whenever
    the first endpoint's second is not after the last one's: `0 ≤ min ≤ max` (so `range_exact` applies to them) -/
theorem range_endpoints_ordered {nb : BitVec 8} (hl : LayoutOk nb) (epoch b e : BitVec 64)
    (hb : ((b * 1000#64) - epoch).toNat < 2 ^ tsWidth nb) (he : ((e * 1000#64) - epoch).toNat < 2 ^ tsWidth nb)
    (hbe : ((b * 1000#64) - epoch).toNat ≤ ((e * 1000#64) - epoch).toNat) :
    0 ≤ (timeBetweenID nb epoch b e).1.toInt ∧
      (timeBetweenID nb epoch b e).1.toInt ≤ (timeBetweenID nb epoch b e).2.toInt := by
  obtain ⟨⟨hmin, hminlt⟩, hmax, hmaxlt⟩ := timeBetweenID_toNat hl epoch b e hb he
  rw [toInt_eq_toNat_of_lt hminlt, toInt_eq_toNat_of_lt hmaxlt, hmin, hmax]
  have := Nat.mul_le_mul_right (2 ^ tsShift nb) hbe
  omega

/-- **the interval is tight**: its lower end is the id with timestamp `bOff` and every remaining bit clear, its upper
    end the id with timestamp `eOff` and every remaining bit set — both are attained, the interval cannot be narrowed -/
theorem range_endpoints_fields {nb : BitVec 8} (hl : LayoutOk nb) (nal : Bool) (epoch b e : BitVec 64)
    (hb : ((b * 1000#64) - epoch).toNat < 2 ^ tsWidth nb) (he : ((e * 1000#64) - epoch).toNat < 2 ^ tsWidth nb) :
    (idFields (timeBetweenID nb epoch b e).1 nb nal).1.toInt = ((b * 1000#64) - epoch).toInt ∧
      (idFields (timeBetweenID nb epoch b e).2 nb nal).1.toInt = ((e * 1000#64) - epoch).toInt ∧
      (timeBetweenID nb epoch b e).1.toNat % 2 ^ tsShift nb = 0 ∧
      (timeBetweenID nb epoch b e).2.toNat % 2 ^ tsShift nb = 2 ^ tsShift nb - 1 := by
  obtain ⟨⟨hmin, hminlt⟩, hmax, hmaxlt⟩ := timeBetweenID_toNat hl epoch b e hb he
  have hp := Nat.two_pow_pos (tsShift nb)
  have hq : ∀ m, (m * 2 ^ tsShift nb + (2 ^ tsShift nb - 1)) / 2 ^ tsShift nb = m := fun m => by
    rw [Nat.mul_comm, Nat.mul_add_div hp, Nat.div_eq_of_lt (by omega), Nat.add_zero]
  have hr : ∀ m, (m * 2 ^ tsShift nb + (2 ^ tsShift nb - 1)) % 2 ^ tsShift nb = 2 ^ tsShift nb - 1 := fun m => by
    rw [Nat.mul_comm, Nat.mul_add_mod, Nat.mod_eq_of_lt (by omega)]
  rw [ts_toInt hl nal hminlt, ts_toInt hl nal hmaxlt, (time_toInt hb).1, (time_toInt he).1, hmin, hmax,
    Nat.mul_div_cancel _ hp, hq, Nat.mul_mod_left, hr]
  exact ⟨rfl, rfl, rfl, rfl⟩

/-- **monotone in the time interval**: widening the time interval (earlier first second, later last second) widens the
    id interval — no id is lost by asking for more time -/
theorem range_monotone {nb : BitVec 8} (hl : LayoutOk nb) (nal : Bool) (epoch b e b' e' id : BitVec 64)
    (hb : ((b * 1000#64) - epoch).toNat < 2 ^ tsWidth nb) (he : ((e * 1000#64) - epoch).toNat < 2 ^ tsWidth nb)
    (hb' : ((b' * 1000#64) - epoch).toNat < 2 ^ tsWidth nb) (he' : ((e' * 1000#64) - epoch).toNat < 2 ^ tsWidth nb)
    (hbb : ((b' * 1000#64) - epoch).toInt ≤ ((b * 1000#64) - epoch).toInt)
    (hee : ((e * 1000#64) - epoch).toInt ≤ ((e' * 1000#64) - epoch).toInt)
    (hid : 0 ≤ id.toInt)
    (h : (timeBetweenID nb epoch b e).1.toInt ≤ id.toInt ∧ id.toInt ≤ (timeBetweenID nb epoch b e).2.toInt) :
    (timeBetweenID nb epoch b' e').1.toInt ≤ id.toInt ∧ id.toInt ≤ (timeBetweenID nb epoch b' e').2.toInt := by
  have h1 := (range_exact hl nal epoch b e id hb he hid).1 h
  exact (range_exact hl nal epoch b' e' id hb' he' hid).2 ⟨by omega, by omega⟩

/-- **intervals compose**: an id lies in the id intervals of two time intervals iff it lies in the id interval of
    their intersection (first second = the later of the two first seconds, last second = the earlier of the two last) -/
theorem range_inter {nb : BitVec 8} (hl : LayoutOk nb) (nal : Bool) (epoch b e b' e' id : BitVec 64)
    (hb : ((b * 1000#64) - epoch).toNat < 2 ^ tsWidth nb) (he : ((e * 1000#64) - epoch).toNat < 2 ^ tsWidth nb)
    (hb' : ((b' * 1000#64) - epoch).toNat < 2 ^ tsWidth nb) (he' : ((e' * 1000#64) - epoch).toNat < 2 ^ tsWidth nb)
    (hbb : ((b * 1000#64) - epoch).toInt ≤ ((b' * 1000#64) - epoch).toInt)
    (hee : ((e * 1000#64) - epoch).toInt ≤ ((e' * 1000#64) - epoch).toInt)
    (hid : 0 ≤ id.toInt) :
    (((timeBetweenID nb epoch b e).1.toInt ≤ id.toInt ∧ id.toInt ≤ (timeBetweenID nb epoch b e).2.toInt) ∧
      ((timeBetweenID nb epoch b' e').1.toInt ≤ id.toInt ∧ id.toInt ≤ (timeBetweenID nb epoch b' e').2.toInt)) ↔
    ((timeBetweenID nb epoch b' e).1.toInt ≤ id.toInt ∧ id.toInt ≤ (timeBetweenID nb epoch b' e).2.toInt) := by
  rw [range_exact hl nal epoch b e id hb he hid, range_exact hl nal epoch b' e' id hb' he' hid,
    range_exact hl nal epoch b' e id hb' he hid]
  omega

/-- a single-instant range (`TimeIDRange`) holds exactly the ids stamped with that second's millisecond offset -/
theorem time_id_range_exact {nb : BitVec 8} (hl : LayoutOk nb) (nal : Bool) (epoch sec id : BitVec 64)
    (hs : ((sec * 1000#64) - epoch).toNat < 2 ^ tsWidth nb) (hid : 0 ≤ id.toInt) :
    ((timeIDRange nb epoch sec).1.toInt ≤ id.toInt ∧ id.toInt ≤ (timeIDRange nb epoch sec).2.toInt) ↔
      (idFields id nb nal).1.toInt = ((sec * 1000#64) - epoch).toInt := by
  rw [time_id_range_eq, range_exact hl nal epoch sec sec id hs hs hid]
  omega

/-- non-vacuity: default layout (10 node bits), epoch 2021-01-01 (ms), the range of 2021-01-01 00:00:10 UTC … :20 -/
example :
    ((1609459210#64 * 1000#64) - 1609459200000#64).toNat < 2 ^ tsWidth 10#8 ∧
    (timeBetweenID 10#8 1609459200000#64 1609459210#64 1609459220#64) = (41943040000#64, 83890274303#64) := by decide

/-- **round trip through the date form**: for the millisecond accessor, over any calendar that is lawful on a domain
    `D` of instants (`ofCivil ∘ toCivil = id`, year ≤ 9999, two/three-digit fields), every non-negative id whose
    instant lies in `D` has a 24-character date form that converts back to the identical id.
    (Seven digits suffice for the low part because it is < 2^22 < 10^7 — proved, `rest_toInt`.) -/
theorem cn_roundtrip {c : Cfg} (hc : Proved c) (cal : Calendar) (D : Int → Prop) (law : cal.Lawful D)
    {nb : BitVec 8} (hl : LayoutOk nb) (epoch id : BitVec 64) (hid : 0 ≤ id.toInt) (hD : D (cnMs nb epoch id).toInt) :
    fromChStyle c cal nb epoch (cnStyle cal nb epoch id) = some id :=
  (cn_roundtrip_aux hc cal D law hl epoch id hid hD).2

theorem cn_length {c : Cfg} (hc : Proved c) (cal : Calendar) (D : Int → Prop) (law : cal.Lawful D)
    {nb : BitVec 8} (hl : LayoutOk nb) (epoch id : BitVec 64) (hid : 0 ≤ id.toInt) (hD : D (cnMs nb epoch id).toInt) :
    (cnStyle cal nb epoch id).length = 24 :=
  (cn_roundtrip_aux hc cal D law hl epoch id hid hD).1

/-- the instant of a non-negative id under an epoch from 2000-01-01 on (and before the year 6429) lies in the calendar's
    domain 2000-01-01 … 9999-12-31 -/
theorem cnMs_inCalendar {nb : BitVec 8} (hl : LayoutOk nb) (epoch id : BitVec 64) (hid : 0 ≤ id.toInt)
    (he0 : 946684800000 ≤ epoch.toInt) (he1 : epoch.toInt ≤ 2 ^ 47) : InCalendar (cnMs nb epoch id).toInt := by
  have hid' := toNat_lt_of_toInt_nonneg hid
  have e : BitVec.sshiftRight id (nb + 12#8).toNat = (idFields id nb false).1 := rfl
  have hr := (idFields_ranges hl false hid').1
  have hts := (time_toInt hr).1
  have hW := (layout_pow hl).1
  unfold cnMs InCalendar
  rw [e, BitVec.toInt_add, Int.bmod_eq_of_le (by omega) (by omega)]
  omega

/-- **round trip through the date form, concrete calendar**: with the millisecond accessor, for the calendar the oracle
    runs (`shanghai`: Asia/Shanghai as the fixed offset +08:00, proleptic Gregorian — proved lawful in
    `Nv/Proofs/C07Calendar.lean`), every layout, every epoch from 2000-01-01 on and every non-negative id:
    the date form has 24 characters and converts back to the identical id -/
theorem cn_roundtrip_shanghai {c : Cfg} (hc : Proved c) {nb : BitVec 8} (hl : LayoutOk nb) (epoch id : BitVec 64)
    (hid : 0 ≤ id.toInt) (he0 : 946684800000 ≤ epoch.toInt) (he1 : epoch.toInt ≤ 2 ^ 47) :
    (cnStyle shanghai nb epoch id).length = 24 ∧
    fromChStyle c shanghai nb epoch (cnStyle shanghai nb epoch id) = some id :=
  cn_roundtrip_aux hc shanghai InCalendar shanghai_lawful hl epoch id hid (cnMs_inCalendar hl epoch id hid he0 he1)

/-- distinct ids have distinct date forms (a batch of date forms identifies its ids; pure functions of the id, so this
    holds whatever else is formatted in between and from however many goroutines) -/
theorem cn_injective_shanghai {c : Cfg} (hc : Proved c) {nb : BitVec 8} (hl : LayoutOk nb) (epoch a b : BitVec 64)
    (ha : 0 ≤ a.toInt) (hb : 0 ≤ b.toInt) (he0 : 946684800000 ≤ epoch.toInt) (he1 : epoch.toInt ≤ 2 ^ 47)
    (h : cnStyle shanghai nb epoch a = cnStyle shanghai nb epoch b) : a = b := by
  have ra := (cn_roundtrip_shanghai hc hl epoch a ha he0 he1).2
  have rb := (cn_roundtrip_shanghai hc hl epoch b hb he0 he1).2
  rw [h, rb] at ra
  exact (Option.some.inj ra).symm

/-- **limit of the 24-character form**: past 9999-12-31 the year needs five digits. "All epochs from year 2000 on" has no
    upper end, and with an epoch of 10000-01-01T00:00:00Z the very first id is dated in the year 10000: its date form has 25
    characters and `FromChStyle` rejects it. The domain of `cn_roundtrip_shanghai` (`InCalendar`; epoch ≤ 2^47 ms ≈ year 6429,
    so that epoch + 2^43 ms stays before the year 10000) is therefore a real restriction. It is not reported as a violation:
    the clause speaks of "the 24-character date form", which does not exist for such an id. -/
theorem witness_year_10000 :
    (cnStyle shanghai 8#8 253402300800000#64 0#64).length = 25 ∧
    fromChStyle ⟨.unixMilli⟩ shanghai 8#8 253402300800000#64 (cnStyle shanghai 8#8 253402300800000#64 0#64) = none ∧
    ¬ InCalendar (cnMs 8#8 253402300800000#64 0#64).toInt := by decide

/-- non-vacuity of `cn_roundtrip`'s hypothesis: the instance and its domain -/
example : shanghai.Lawful InCalendar := shanghai_lawful
example : InCalendar 946684800000 ∧ InCalendar 253402271999999 ∧ ¬ InCalendar 253402272000000 := by decide

/-! ### non-vacuity -/

example : LayoutOk 8#8 ∧ 0 ≤ (9008925330102025984#64).toInt ∧
    idFields 9008925330102025984#64 8#8 false = (8591580705739#64, 255#64, 3840#64) := by decide
/-- an interval of ten seconds in 2023 under the default epoch, Node1024 -/
example : ((1700000000#64 * 1000#64) - 1609430400000#64).toNat < 2 ^ tsWidth 10#8 ∧
    timeBetweenID 10#8 1609430400000#64 1700000000#64 1700000010#64 = (379876435558400000#64, 379876477505634303#64) := by decide

/-- the instance `shanghai` satisfies the round-trip law at the edges the property names: 2000-01-01 (first epoch),
    a leap day, the last millisecond of 2262-04-11 UTC, 2299-12-31, 9999-12-31 -/
example : ∀ t ∈ [946684800000, 1709164800123, 9223372036854, 10413791999999, 253402271999999],
    (let c := shanghai.toCivil t; shanghai.ofCivil c.year c.month c.day c.hour c.minute c.second c.milli) = t := by decide
example : shanghai.toCivil 1709164800123 = ⟨2024, 2, 29, 8, 0, 0, 123⟩ := by decide

/-! ### the accessor `UnixNano()/MsDivNs`: negation by witness (defect F05) -/

/-- `UnixNano()/MsDivNs` in `FromChStyle`: an id stamped 2293 (Node256 layout, inside the 43-bit width) does not
    survive the date form -/
theorem witness_unixNano_roundtrip :
    fromChStyle ⟨.unixNano⟩ shanghai 8#8 1609430400000#64 (cnStyle shanghai 8#8 1609430400000#64 9008925330102025984#64)
      = some 8112856289978089216#64 := by decide

/-- with the millisecond accessor the same id comes back -/
example : fromChStyle ⟨.unixMilli⟩ shanghai 8#8 1609430400000#64 (cnStyle shanghai 8#8 1609430400000#64 9008925330102025984#64)
      = some 9008925330102025984#64 := by decide

end Nv.C07
