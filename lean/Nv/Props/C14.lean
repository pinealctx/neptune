import Nv.Proofs.C14Exec
import Nv.Proofs.Int64
namespace Nv.C14

/-- the repaired kernel is in range for every hash and every positive lane count -/
theorem slot_in_range_remFirst : SlotOk slotRemFirst := by
  intro i s hs
  unfold slotRemFirst
  simp only []
  have hb := srem_bounds i s hs
  have hn := neg_toInt_of_srem_neg i s hs
  split
  · rename_i hneg
    have hlt : (i.srem s).toInt < 0 := by simpa [BitVec.slt_iff_toInt_lt] using hneg
    omega
  · rename_i hnn
    have hge : 0 ≤ (i.srem s).toInt := by simpa [BitVec.slt_iff_toInt_lt] using hnn
    omega

/-- today's kernel: the minimum integer on 509 lanes is mapped to −151 -/
theorem witness_slotAbsFirst_minInt : (slotAbsFirst (BitVec.intMin 64) 509#64).toInt = -151 := by decide

theorem not_slot_in_range_absFirst : ¬ SlotOk slotAbsFirst := by
  intro h
  have := (h (BitVec.intMin 64) 509#64 (by decide)).1
  rw [witness_slotAbsFirst_minInt] at this
  omega


/-! ### one lane: every reachable state, i.e. every schedule of callers, consumer, callee returns,
cancellations and Stop (line, runner, pchan are one lane; a MultiLine is an array of them, below) -/

section lane
variable (cfg : Cfg) (k : Kind) (cap idx : Nat) (hg : RunGuarded cfg k) (l : Lane)
  (hr : (laneLTS cfg k cap idx).Reach l)
include hg hr

omit hg in
theorem lane_static : l.kind = k ∧ l.idx = idx ∧ l.cap = cap := by
  refine LTS.inv_of_step (laneLTS cfg k cap idx) (fun l => l.kind = k ∧ l.idx = idx ∧ l.cap = cap) ⟨rfl, rfl, rfl⟩
    (fun s a s' ih hstep => ?_) l hr
  have := (step_sound s' hstep).static
  exact ⟨this.1.trans ih.1, this.2.1.trans ih.2.1, this.2.2.trans ih.2.2⟩

/-- `lane_start_order`: the calls started on a lane are a subsequence of the calls accepted on it, in
acceptance order (ids are issued in acceptance order, so: strictly increasing) -/
theorem lane_start_order :
    (startIds l.log).Sublist l.accepted ∧ l.accepted.Pairwise (· < ·) ∧ (startIds l.log).Pairwise (· < ·) := by
  have h := (inv_reach hg hr).2.1
  have hsub : (startIds l.log).Sublist l.accepted := by
    rw [h.acc_split]; exact h.starts_sub.trans (List.sublist_append_left _ _)
  exact ⟨hsub, h.acc_sorted, h.acc_sorted.sublist hsub⟩

theorem lane_at_most_once : (startIds l.log).Nodup :=
  (lane_start_order cfg k cap idx hg l hr).2.2.imp Nat.ne_of_lt

/-- `lane_serial`: on a lane, start and end events alternate — a call starts only while none runs, the
call that ends is the one that runs — and the consumer's state is what the log says -/
theorem lane_serial : runState (runEvents l.log) = some (consRunning l.cons) :=
  (inv_reach hg hr).2.1.run_state

/-- the callee of a call returns at most once, and only after it was started -/
theorem lane_end_once : finIds l.log ++ (consRunning l.cons).toList = startIds l.log ∧ (finIds l.log).Nodup := by
  have h := (inv_reach hg hr).2.1.fin_once
  have hn := lane_at_most_once cfg k cap idx hg l hr
  rw [← h] at hn
  exact ⟨h, (List.nodup_append.1 hn).1⟩

/-- where an answer comes from, in full: its own call (and a callee returns one value), or a rejection — and a
rejected call was not accepted, unless it is ProcChan's stop channel that answered `closed` -/
theorem lane_ret_origin (id : Nat) (r : Res) (h : Ev.ret id r ∈ l.log) :
    (isCalleeRes r = true ∧ Ev.fin id r ∈ l.log ∧ ∀ r', Ev.fin id r' ∈ l.log → r' = r) ∨
    (r = .ctx ∧ Cancelled l.calls id) ∨
    (r = .closed ∧ l.stopped = true ∧ (id ∉ l.accepted ∨ k = .pchan)) ∨ (r = .full ∧ id ∉ l.accepted) := by
  obtain ⟨hk, _, hR⟩ := inv_reach hg hr
  rcases (hR.ret id r h).2 with (⟨a, b⟩ | h2) | h2
  · exact .inl ⟨a, b, fun r' hr' => fin_unique (lane_end_once cfg k cap idx hg l hr).2 hr' b⟩
  · exact .inr (.inl h2)
  · exact .inr (.inr (hk ▸ h2))

/-- `lane_result_routing`: what `AsyncCall` of call id returned is the value its own callee returned
(and a callee returns one value), or its own context's error (its context was cancelled), or a
rejection (`closed` only after Stop, `full`) — never another call's result -/
theorem lane_result_routing (id : Nat) (r : Res) (h : Ev.ret id r ∈ l.log) :
    ((isCalleeRes r = true ∧ Ev.fin id r ∈ l.log ∧ ∀ r', Ev.fin id r' ∈ l.log → r' = r) ∨
     (r = .ctx ∧ Cancelled l.calls id) ∨ (r = .closed ∧ l.stopped = true) ∨ r = .full) :=
  (lane_ret_origin cfg k cap idx hg l hr id r h).imp_right
    (Or.imp_right (Or.imp (fun w => ⟨w.1, w.2.1⟩) And.left))

theorem lane_index_passed (id ln : Nat) (h : Ev.start id ln ∈ l.log) : ln = idx := by
  rw [(inv_reach hg hr).2.1.idx_ok id ln h]
  exact (lane_static cfg k cap idx l hr).2.1

/-- `stop_drains` (line, multi-line, runner queue): a consumer that has exited has taken every accepted
call; for line / multi-line every accepted call was started exactly once, in order -/
theorem stop_drains (hk : k ≠ .pchan) (he : l.cons = .exited) :
    l.queue = [] ∧ l.popped = l.accepted ∧ ((k = .line ∨ k = .mline) → startIds l.log = l.accepted) := by
  obtain ⟨hkind, h, _⟩ := inv_reach hg hr
  have hq : l.queue = [] := (h.exited_drained he).2 (hkind ▸ hk)
  have hp : l.popped = l.accepted := by rw [h.acc_split, hq, List.append_nil]
  exact ⟨hq, hp, fun hkk => hp ▸ h.starts_eq (hkind ▸ hkk)⟩

/-- before the consumer exits, for line / multi-line: the started calls followed by the queued ones are
exactly the accepted ones (nothing is lost, reordered or duplicated at any moment) -/
theorem lane_nothing_lost (hkk : k = .line ∨ k = .mline) : startIds l.log ++ l.queue = l.accepted := by
  obtain ⟨hkind, h, _⟩ := inv_reach hg hr
  rw [h.starts_eq (hkind ▸ hkk), h.acc_split]

end lane

/-- the guard of `Step.accept` fails in a stopped lane, for the configurations in `Proved` -/
theorem not_accept_stopped {cfg : Cfg} {l : Lane} (hc : Proved cfg) (hst : l.stopped = true) :
    ¬ (l.stopped = false ∨ (l.kind = .pchan ∧ cfg.pchanAccept ≠ .stopFirst)) :=
  fun hw => hw.elim (fun e => by rw [hst] at e; cases e) fun e => e.2 hc.1

/-- `stop_rejects_new`: in a stopped lane no submission is accepted (queue and accepted list unchanged, the
caller is told `closed`) — for every kind, for the configurations in `Proved` -/
theorem stop_rejects_new (cfg : Cfg) (hc : Proved cfg) (l l' : Lane) (id : Nat) (enq : Bool)
    (hst : l.stopped = true) (hs : l.step cfg (.submit id enq) = some l') :
    l'.accepted = l.accepted ∧ l'.queue = l.queue ∧ l'.log = l.log ++ [.ret id .closed] := by
  cases step_sound l' hs with
  | accept _ _ _ hw => exact (not_accept_stopped hc hst hw).elim
  | reject _ _ r _ why =>
    -- `full` is answered only by an open lane
    rcases why with ⟨_, e, _⟩ | ⟨rfl, _⟩
    · rw [hst] at e; cases e
    · exact ⟨rfl, rfl, rfl⟩

/-- today's accept path of `ProcChan` (`racyThreeWaySelect`): a stopped ProcChan whose consumer is still
busy takes a new call into its channel, and the consumer then executes it — after `Stop` returned -/
theorem witness_pchan_accepts_after_stop :
    (laneLTS ⟨.racyThreeWaySelect, .once⟩ .pchan 2 0).run (Lane.init .pchan 2 0)
      [.run, .submit 0 true, .pop true, .stop, .recv 0 2, .submit 1 true, .finish 0 (.ok 1), .pop true] =
    some { kind := .pchan, cap := 2, idx := 0, stopped := true, queue := [], started := true, cons := .running 1, cons2 := none,
           calls := [⟨0, false, false, some (.ok 1)⟩, ⟨1, false, true, none⟩], next := 2,
           log := [.start 0 0, .ret 0 .closed, .fin 0 (.ok 1), .start 1 0], accepted := [0, 1], popped := [0, 1] } := by
  decide

theorem not_stop_rejects_new_racy :
    ¬ (∀ (l l' : Lane) (id : Nat) (enq : Bool), l.stopped = true →
        l.step ⟨.racyThreeWaySelect, .once⟩ (.submit id enq) = some l' → l'.accepted = l.accepted) := by
  intro h
  have := h { Lane.init .pchan 2 0 with stopped := true } _ 0 true rfl rfl
  simp [Lane.accept, Lane.init] at this

/-- the repaired accept path on the same schedule: the call is turned away -/
example : (laneLTS ⟨.stopFirst, .once⟩ .pchan 2 0).run (Lane.init .pchan 2 0)
      [.run, .submit 0 true, .pop true, .stop, .recv 0 2, .submit 1 true] =
    some { kind := .pchan, cap := 2, idx := 0, stopped := true, queue := [], started := true, cons := .running 0, cons2 := none,
           calls := [⟨0, false, false, none⟩, ⟨1, false, false, none⟩], next := 2,
           log := [.start 0 0, .ret 0 .closed, .ret 1 .closed], accepted := [0], popped := [0] } := by
  decide

/-- `lane_terminates`, part 1: every iteration of the consumer loop strictly decreases `remaining = backlog + 1`
(0 when exited), so once the lane is stopped (part 3: nothing adds to it) at most backlog + 1 iterations are left -/
theorem lane_terminates_decreases (cfg : Cfg) (l l' : Lane) (take : Bool)
    (hs : l.step cfg (.pop take) = some l') : l'.remaining < l.remaining := by
  cases step_sound l' hs with
  | exit _ hc => simp [Lane.remaining, Lane.doExit, hc]
  | skip _ _ _ hc hq | start _ _ _ hc hq => simp [Lane.remaining, hc, hq]

/-- part 2: a stopped lane's idle consumer is never parked — its next iteration is enabled -/
theorem lane_terminates_not_stuck (cfg : Cfg) (l : Lane) (hst : l.stopped = true) (hrun : l.started = true)
    (hc : l.cons = .idle) : ∃ l', l.step cfg (.pop true) = some l' := by
  simp only [Lane.step, hc, hrun]
  cases hq : l.queue with
  | nil => simp [hst]
  | cons c rest => simp

/-- part 3: nothing else adds work to a stopped lane (for the configurations in `Proved`) -/
theorem lane_terminates_no_new_work (cfg : Cfg) (hcfg : Proved cfg) (l l' : Lane) (a : LAct)
    (hst : l.stopped = true) (h2 : l.cons2 = none) (hs : l.step cfg a = some l') :
    l'.remaining ≤ l.remaining ∧ l'.stopped = true := by
  cases step_sound l' hs with
  | accept _ _ _ hw => exact (not_accept_stopped hcfg hst hw).elim
  | exit | skip | start => exact ⟨Nat.le_of_lt (lane_terminates_decreases cfg l _ _ hs), hst⟩
  | finish _ _ hc => exact ⟨by simp [Lane.remaining, hc], hst⟩
  | reject | recv | cancel | run | rerun => exact ⟨Nat.le_refl _, hst⟩
  | stop => exact ⟨Nat.le_refl _, rfl⟩
  | run2 _ hne => exact absurd hcfg.2 hne
  | finish2 _ _ h | exit2 h | take2 _ _ h => rw [h2] at h; cases h

/-- every outcome of `settleLane` (what the correspondence compares the real code with) is a reachable
state: the compared runs are paths of the transition system the theorems quantify over -/
theorem settle_reach (cfg : Cfg) (k : Kind) (cap idx : Nat) : ∀ (n : Nat) (l : Lane),
    (laneLTS cfg k cap idx).Reach l → ∀ l' ∈ settleLane cfg n l, (laneLTS cfg k cap idx).Reach l'
  | 0, l, hr => List.forall_mem_singleton.2 hr
  | n + 1, l, hr => by
    -- every branch is the closure of a successor of `l`, or else `[l]`, `[]` or another such branch
    have next : ∀ (a : LAct) (d : List Lane), (∀ l' ∈ d, (laneLTS cfg k cap idx).Reach l') →
        ∀ l' ∈ (match l.step cfg a with | some l1 => settleLane cfg n l1 | none => d),
          (laneLTS cfg k cap idx).Reach l' := by
      intro a d hd
      cases h1 : l.step cfg a with
      | none => exact hd
      | some l1 => exact settle_reach cfg k cap idx n l1 (reach_step hr h1)
    have self : ∀ l' ∈ [l], (laneLTS cfg k cap idx).Reach l' := List.forall_mem_singleton.2 hr
    have none : ∀ l' ∈ ([] : List Lane), (laneLTS cfg k cap idx).Reach l' := fun _ h => absurd h List.not_mem_nil
    rw [settleLane]
    cases firstRecv l l.calls with
    | some p => exact next (.recv p.1 p.2) [l] self
    | none =>
      cases l.ambiguous with
      | true => exact List.forall_mem_append.2 ⟨next (.pop true) [] none, next (.pop false) [] none⟩
      | false => exact next (.pop true) _ (next .pop2 [l] self)

/-- every lane of a reachable executor state is a reachable state of the one-lane machine with that index:
all lane theorems above hold for every lane of a `MultiLine`, under every schedule -/
theorem exec_lanes_reach (cfg : Cfg) (slot : Slot) (k : Kind) (nlanes cap : Nat) (x : Exec)
    (hr : (execLTS cfg slot k nlanes cap).Reach x) :
    x.kind = k ∧ x.nlanes = nlanes ∧ ∀ i l, x.lanes[i]? = some l → (laneLTS cfg k cap i).Reach l :=
  have h := xinv_reach hr
  ⟨h.kind_eq, h.nlanes_eq, fun i l hl => (h.lanes i l hl).1⟩

/-- for an in-range kernel every hash — negative ones and the minimum integer included — has a lane below the
lane count (where a call with that hash then runs: `exec_start_lane_of_hash` below) -/
theorem slot_lane_exists (slot : Slot) (hs : SlotOk slot) (n : Nat) (hn : 0 < n) (hb : n < 2^63) (hash : BitVec 64) :
    ∃ i, laneOf slot .mline n hash = some i ∧ i < n := by
  have hi := toInt_ofNat_small n hb
  have := hs hash (BitVec.ofNat 64 n) (by rw [hi]; omega)
  rw [hi] at this
  refine ⟨(slot hash (BitVec.ofNat 64 n)).toInt.toNat, ?_, by omega⟩
  simp only [laneOf, beq_self_eq_true, if_true]
  rw [if_pos this]

theorem exec_index_passed (cfg : Cfg) (slot : Slot) (k : Kind) (nlanes cap : Nat) (hg : RunGuarded cfg k) (x : Exec)
    (hr : (execLTS cfg slot k nlanes cap).Reach x) (i : Nat) (l : Lane) (hl : x.lanes[i]? = some l)
    (id ln : Nat) (h : Ev.start id ln ∈ l.log) : ln = i :=
  lane_index_passed cfg k cap i hg l ((exec_lanes_reach cfg slot k nlanes cap x hr).2.2 i l hl) id ln h

/-- today's kernel: the minimum integer has no lane on 509 lanes (`qs[-151]` panics) -/
theorem witness_laneOf_minInt : laneOf slotAbsFirst .mline 509 (BitVec.intMin 64) = none := by decide
example : laneOf slotRemFirst .mline 509 (BitVec.intMin 64) = some 151 := by decide


/-- an unguarded `MultiLine.Run` called twice: two consumers on one lane start two calls with no end in between —
the run discipline is broken (`runState = none`) -/
theorem witness_mline_run_twice_overlap :
    ((laneLTS ⟨.stopFirst, .unguarded⟩ .mline 0 0).run (Lane.init .mline 0 0)
      [.run, .run, .submit 0 true, .submit 1 true, .pop true, .pop2]).map
        (fun l => (l.log, runState (runEvents l.log))) = some ([.start 0 0, .start 1 0], none) := by decide

theorem not_lane_serial_unguarded :
    ¬ (∀ l, (laneLTS ⟨.stopFirst, .unguarded⟩ .mline 0 0).Reach l → (runState (runEvents l.log)).isSome = true) := by
  intro h
  obtain ⟨l, hl, e⟩ := Option.map_eq_some_iff.1 witness_mline_run_twice_overlap
  have := h l (LTS.reach_of_run _ _ _ _ LTS.Reach.init hl)
  rw [(Prod.mk.inj e).2] at this
  cases this

/-- with the guard a second `Run` changes nothing -/
example : (laneLTS ⟨.stopFirst, .once⟩ .mline 0 0).run (Lane.init .mline 0 0) [.run, .run] =
    (laneLTS ⟨.stopFirst, .once⟩ .mline 0 0).run (Lane.init .mline 0 0) [.run] := by decide

/-- `lane_result_routing` for accepted calls: the caller of a call that was ACCEPTED gets the value its own callee
returned, or its own context's error, or — ProcChan only — `closed` once the lane is stopped; never `full`,
never `closed` from a queue, never another call's value -/
theorem lane_result_routing_accepted (cfg : Cfg) (k : Kind) (cap idx : Nat) (hg : RunGuarded cfg k) (l : Lane)
    (hr : (laneLTS cfg k cap idx).Reach l) (id : Nat) (r : Res) (hacc : id ∈ l.accepted) (h : Ev.ret id r ∈ l.log) :
    (isCalleeRes r = true ∧ Ev.fin id r ∈ l.log ∧ ∀ r', Ev.fin id r' ∈ l.log → r' = r) ∨
    (r = .ctx ∧ Cancelled l.calls id) ∨ (r = .closed ∧ l.stopped = true ∧ k = .pchan) := by
  rcases lane_ret_origin cfg k cap idx hg l hr id r h with h1 | h1 | ⟨h1, h2, h3⟩ | ⟨_, h3⟩
  · exact .inl h1
  · exact .inr (.inl h1)
  · exact .inr (.inr ⟨h1, h2, h3.resolve_left fun hn => hn hacc⟩)
  · exact absurd hacc h3

theorem start_mem_accepted (cfg : Cfg) (k : Kind) (cap idx : Nat) (hg : RunGuarded cfg k) (l : Lane)
    (hr : (laneLTS cfg k cap idx).Reach l) (id ln : Nat) (h : Ev.start id ln ∈ l.log) : id ∈ l.accepted :=
  (lane_start_order cfg k cap idx hg l hr).1.subset (mem_startIds h)

/-- `slot_stable`: a call submitted with hash h starts — if it starts — in lane
`slot(h, lanes)` and is handed exactly that index, under every schedule -/
theorem exec_start_lane_of_hash (cfg : Cfg) (slot : Slot) (k : Kind) (nlanes cap : Nat) (hg : RunGuarded cfg k)
    (x : Exec) (hr : (execLTS cfg slot k nlanes cap).Reach x) (i : Nat) (l : Lane) (hl : x.lanes[i]? = some l)
    (id ln : Nat) (hs : Ev.start id ln ∈ l.log) (h : BitVec 64) (hh : (id, h) ∈ x.hashes) :
    laneOf slot k nlanes h = some i ∧ ln = i := by
  have hx := xinv_reach hr
  obtain ⟨hl1, hl2⟩ := hx.lanes i l hl
  obtain ⟨h', hm, hlane⟩ := hl2 id (start_mem_accepted cfg k cap i hg l hl1 id ln hs)
  rw [hx.hash_fun id h h' hh hm]
  exact ⟨hlane, lane_index_passed cfg k cap i hg l hl1 id ln hs⟩

theorem exec_equal_hash_same_lane (cfg : Cfg) (slot : Slot) (k : Kind) (nlanes cap : Nat) (hg : RunGuarded cfg k)
    (x : Exec) (hr : (execLTS cfg slot k nlanes cap).Reach x) (i j : Nat) (li lj : Lane)
    (hi : x.lanes[i]? = some li) (hj : x.lanes[j]? = some lj) (a b la lb : Nat) (h : BitVec 64)
    (ha : (a, h) ∈ x.hashes) (hb : (b, h) ∈ x.hashes)
    (hsa : Ev.start a la ∈ li.log) (hsb : Ev.start b lb ∈ lj.log) : i = j ∧ la = lb := by
  have h1 := exec_start_lane_of_hash cfg slot k nlanes cap hg x hr i li hi a la hsa h ha
  have h2 := exec_start_lane_of_hash cfg slot k nlanes cap hg x hr j lj hj b lb hsb h hb
  have : i = j := Option.some.inj (h1.1.symm.trans h2.1)
  exact ⟨this, by rw [h1.2, h2.2, this]⟩

/-- at most once across ALL lanes: a call starts in at most one lane (and there at most once: `lane_at_most_once`) -/
theorem exec_at_most_once (cfg : Cfg) (slot : Slot) (k : Kind) (nlanes cap : Nat) (hg : RunGuarded cfg k)
    (x : Exec) (hr : (execLTS cfg slot k nlanes cap).Reach x) (i j : Nat) (li lj : Lane)
    (hi : x.lanes[i]? = some li) (hj : x.lanes[j]? = some lj) (id la lb : Nat)
    (hsa : Ev.start id la ∈ li.log) (hsb : Ev.start id lb ∈ lj.log) :
    i = j ∧ (startIds li.log).Nodup := by
  have hx := xinv_reach hr
  obtain ⟨hri, hai⟩ := hx.lanes i li hi
  obtain ⟨hrj, haj⟩ := hx.lanes j lj hj
  obtain ⟨h1, hm1, hl1⟩ := hai id (start_mem_accepted cfg k cap i hg li hri id la hsa)
  obtain ⟨h2, hm2, hl2⟩ := haj id (start_mem_accepted cfg k cap j hg lj hrj id lb hsb)
  rw [hx.hash_fun id h1 h2 hm1 hm2] at hl1
  exact ⟨Option.some.inj (hl1.symm.trans hl2), lane_at_most_once cfg k cap i hg li hri⟩

/-! #### Stop, composed: every run of the consumer side from a stopped lane is short, and where it can go no
further the lane has exited having executed every accepted call exactly once, in order -/

def consumerAct : LAct → Bool
  | .pop _ => true
  | .finish _ r => isCalleeRes r
  | _ => false

def Lane.work (l : Lane) : Nat := 2 * l.remaining + (match l.cons with | .running _ => 1 | _ => 0)

/-- nothing is left for the consumer side -/
def Lane.final (cfg : Cfg) (l : Lane) : Prop :=
  l.step cfg (.pop true) = none ∧ ∀ id, l.step cfg (.finish id (.ok 0)) = none

theorem consumer_step (cfg : Cfg) (l l' : Lane) (a : LAct) (hst : l.stopped = true) (h2 : l.cons2 = none)
    (ha : consumerAct a = true) (hs : l.step cfg a = some l') :
    l'.work < l.work ∧ l'.stopped = true ∧ l'.accepted = l.accepted ∧ l'.started = l.started := by
  cases step_sound l' hs with
  | exit _ hc => exact ⟨by simp [Lane.work, Lane.remaining, Lane.doExit, hc], hst, rfl, rfl⟩
  | skip _ _ _ hc hq => exact ⟨by simp [Lane.work, Lane.remaining, hc, hq], hst, rfl, rfl⟩
  | start _ _ _ hc hq => exact ⟨by simp [Lane.work, Lane.remaining, hc, hq]; omega, hst, rfl, rfl⟩
  | finish _ _ hc => exact ⟨by simp [Lane.work, Lane.remaining, hc], hst, rfl, rfl⟩
  | finish2 _ _ h => rw [h2] at h; cases h
  | _ => cases ha

theorem consumer_run (cfg : Cfg) (k : Kind) (cap idx : Nat) (hg : RunGuarded cfg k) :
    ∀ (as : List LAct) (l l' : Lane), (laneLTS cfg k cap idx).Reach l → l.stopped = true →
      (∀ a ∈ as, consumerAct a = true) → (laneLTS cfg k cap idx).run l as = some l' →
      as.length + l'.work ≤ l.work ∧ l'.stopped = true ∧ l'.accepted = l.accepted ∧ l'.started = l.started
  | [], l, l', _, hst, _, hrun => by
    cases hrun; exact ⟨Nat.le_of_eq (Nat.zero_add _), hst, rfl, rfl⟩
  | a :: as, l, l', hr, hst, hall, hrun => by
    rw [LTS.run] at hrun
    cases h1 : (laneLTS cfg k cap idx).step l a with
    | none => rw [h1] at hrun; cases hrun
    | some l1 =>
      rw [h1] at hrun
      have hstep := consumer_step cfg l l1 a hst (inv_reach hg hr).2.1.cons2_none (hall a List.mem_cons_self) h1
      have ih := consumer_run cfg k cap idx hg as l1 l' (reach_step hr h1) hstep.2.1
        (fun b hb => hall b (List.mem_cons_of_mem a hb)) hrun
      exact ⟨by rw [List.length_cons]; omega, ih.2.1, ih.2.2.1.trans hstep.2.2.1, ih.2.2.2.trans hstep.2.2.2⟩

/-- `stop_completes`: from a reachable, started, stopped lane (line / multi-line / runner queue), every run of
consumer iterations and callee returns has at most `2·(backlog+1)+1` steps, and when it can go no further the
consumer has exited, the queue is empty, nothing was accepted meanwhile, every accepted call was taken — and for
line / multi-line started exactly once, in acceptance order. -/
theorem stop_completes (cfg : Cfg) (k : Kind) (cap idx : Nat) (hg : RunGuarded cfg k) (hk : k ≠ .pchan)
    (l l' : Lane) (hr : (laneLTS cfg k cap idx).Reach l) (hst : l.stopped = true) (hrun : l.started = true)
    (as : List LAct) (hall : ∀ a ∈ as, consumerAct a = true) (h : (laneLTS cfg k cap idx).run l as = some l') :
    as.length ≤ l.work ∧
    (l'.final cfg → l'.cons = .exited ∧ l'.queue = [] ∧ l'.accepted = l.accepted ∧ l'.popped = l'.accepted ∧
      ((k = .line ∨ k = .mline) → startIds l'.log = l'.accepted ∧ (startIds l'.log).Pairwise (· < ·))) := by
  have hc := consumer_run cfg k cap idx hg as l l' hr hst hall h
  have hr' := LTS.reach_of_run _ as l l' hr h
  refine ⟨by omega, fun hfin => ?_⟩
  have hex : l'.cons = .exited := by
    cases hcons : l'.cons with
    | exited => rfl
    | idle =>
      obtain ⟨l2, h2⟩ := lane_terminates_not_stuck cfg l' hc.2.1 (by rw [hc.2.2.2]; exact hrun) hcons
      rw [hfin.1] at h2; cases h2
    | running c =>
      have := hfin.2 c
      simp [Lane.step, hcons, isCalleeRes] at this
  have hd := stop_drains cfg k cap idx hg l' hr' hk hex
  refine ⟨hex, hd.1, hc.2.2.1, hd.2.1, fun hkk => ⟨hd.2.2 hkk, ?_⟩⟩
  exact (lane_start_order cfg k cap idx hg l' hr').2.2

/-- `bounded_lane_accepts_below_capacity`: a line, multi-line lane or runner that is not stopped accepts a call whenever its
queue HOLDS fewer calls than its bound (or is unbounded) — the call the consumer is executing has left the queue and does not
count; so `full` is answered only when `cap` calls are waiting -/
theorem bounded_lane_accepts_below_capacity (cfg : Cfg) (l : Lane) (id : Nat) (enq : Bool) (hk : l.kind ≠ .pchan)
    (hid : l.next ≤ id) (hs : l.stopped = false) (hc : l.cap = 0 ∨ l.queue.length < l.cap) :
    l.step cfg (.submit id enq) = some (l.accept id) := by
  have h3 : ¬ (0 < l.cap ∧ l.cap ≤ l.queue.length) := by omega
  rw [Lane.step, if_neg (Nat.not_lt.2 hid), if_neg (by simpa using hk), if_neg (by simp [hs]), if_neg (by simpa using h3)]

/-- and conversely `full` from such a lane means exactly that: `cap` calls are waiting -/
theorem full_only_at_capacity (cfg : Cfg) (l : Lane) (id : Nat) (enq : Bool) (hk : l.kind ≠ .pchan)
    (h : l.step cfg (.submit id enq) = some (l.reject id .full)) : 0 < l.cap ∧ l.cap ≤ l.queue.length := by
  generalize hl' : l.reject id .full = l' at h
  have hlog := congrArg Lane.log hl'
  cases step_sound l' h with
  | accept => simp [Lane.reject, Lane.accept] at hlog
  | reject _ _ r _ why =>
    rcases why with ⟨_, _, hc⟩ | ⟨rfl, _⟩
    · exact hc.resolve_left hk
    · simp [Lane.reject] at hlog

end Nv.C14
