import Nv.Model.C02
import Nv.Proofs.C02Dl
/-!
C02 — property theorems for `syncx/keylock` (model: `Nv.Model.C02`, invariant: `Nv.Proofs.C02Inv`).

Every theorem quantifies over all configurations `c` with `Proved c`, every shard count `n`, every routing
function `sh` with `sh k < n` (single lockers: `n = 1`, `sh = fun _ => 0`), and every reachable state of the
transition system, i.e. every interleaving of Lock/RLock/Locks/RLocks/Unlock/RUnlock/Unlocks/RUnlocks by any
number of threads over any keys, with any admission order among waiting writers and readers.
A `Tid` is the owner identity of one outstanding acquisition (see the model header).
-/
namespace Nv.C02

variable {c : Cfg} {n : Nat} {sh : Key → Nat} {s : State}

/-- **exclusion**: a key write-locked by `t1` is held by nobody else, in any mode -/
theorem kl_excl (hc : Proved c) (hsh : ∀ k, sh k < n) (hr : (lts c n sh).Reach s)
    {t1 t2 : Tid} {k : Key} {o1 o2 : ObjId} {m2 : Mode}
    (h1 : (k, o1, Mode.w) ∈ (s.th t1).held) (h2 : (k, o2, m2) ∈ (s.th t2).held) :
    t1 = t2 ∧ o1 = o2 ∧ m2 = Mode.w := by
  have hI := inv_reach hc n sh hsh s hr
  have e1 := hI.refTab t1 k o1 .w (mem_refs_of_held h1)
  have e2 := hI.refTab t2 k o2 m2 (mem_refs_of_held h2)
  rw [e1] at e2; cases e2
  have hw : (s.objs o1).writer = some t1 := ((hI.link t1 o1).hold .w).2 ⟨k, h1⟩
  cases m2 with
  | w =>
    have hw2 : (s.objs o1).writer = some t2 := ((hI.link t2 o1).hold .w).2 ⟨k, h2⟩
    rw [hw] at hw2; cases hw2; exact ⟨rfl, rfl, rfl⟩
  | r =>
    have hr2 : t2 ∈ (s.objs o1).readers := ((hI.link t2 o1).hold .r).2 ⟨k, h2⟩
    rw [((hI.obj o1).wOk t1 hw).2.1] at hr2; cases hr2

/-- read locks are shared only among readers: if some thread read-holds `k`, every holder of `k` is a reader -/
theorem kl_readers_only_with_readers (hc : Proved c) (hsh : ∀ k, sh k < n) (hr : (lts c n sh).Reach s)
    {t1 t2 : Tid} {k : Key} {o1 o2 : ObjId} {m2 : Mode}
    (h1 : (k, o1, Mode.r) ∈ (s.th t1).held) (h2 : (k, o2, m2) ∈ (s.th t2).held) : m2 = Mode.r := by
  cases m2 with
  | r => rfl
  | w => exact absurd (kl_excl hc hsh hr h2 h1).2.2 (by decide)

/-- a thread holds a key at most once -/
theorem kl_held_once (hc : Proved c) (hsh : ∀ k, sh k < n) (hr : (lts c n sh).Reach s) (t : Tid) :
    ((s.th t).held.map (·.1)).Nodup := by
  have := ((inv_reach hc n sh hsh s hr).thr t).keysNd
  simp only [allKeys, refs, List.map_append] at this
  rw [List.append_assoc] at this
  exact (List.nodup_append.1 this).1

/-- **same object**: while a thread is registered on `k` (waiting, about to lock, or holding) the map entry of `k`
is the object it registered on: the entry is neither freed nor replaced (the count is raised before blocking) -/
theorem kl_same_object (hc : Proved c) (hsh : ∀ k, sh k < n) (hr : (lts c n sh).Reach s)
    {t : Tid} {k : Key} {o : ObjId} {m : Mode} (h : (k, o, m) ∈ refs (s.th t)) : s.table k = some o :=
  (inv_reach hc n sh hsh s hr).refTab t k o m h

/-! #### routing

The transition system takes the routing function `sh` as a parameter: the shard of a key is a function of the key alone
(of its bytes and the locker's shard count), the same at every step of every history and independent of anything else
the process does. That is what lets the model keep ONE table keyed by the key; `routedTable` is the per-shard view. -/

/-- the table of shard `i` as the code sees it: the entries of the keys routed to `i` -/
def routedTable (sh : Key → Nat) (s : State) (i : Nat) (k : Key) : Option ObjId := if sh k = i then s.table k else none

/-- **a held key's shard never changes**: the entry a thread registered on is found in the shard the routing function
names — by the lock, by every later lock of another thread and by the unlock — and in no other shard -/
theorem kl_route_stable (hc : Proved c) (hsh : ∀ k, sh k < n) (hr : (lts c n sh).Reach s)
    {t : Tid} {k : Key} {o : ObjId} {m : Mode} (h : (k, o, m) ∈ refs (s.th t)) :
    routedTable sh s (sh k) k = some o ∧ ∀ i, i ≠ sh k → routedTable sh s i k = none := by
  refine ⟨?_, ?_⟩
  · simp [routedTable, kl_same_object hc hsh hr h]
  · intro i hi; simp [routedTable, Ne.symm hi]

/-- … so a lookup that routed the same key differently (a routing that depends on history, on other containers, on a
lookup memo) misses the entry: the unlock would meet a nil map entry and a second writer would get in -/
theorem kl_reroute_misses_entry (hc : Proved c) (hsh : ∀ k, sh k < n) (hr : (lts c n sh).Reach s)
    {t : Tid} {k : Key} {o : ObjId} {m : Mode} (h : (k, o, m) ∈ refs (s.th t)) (sh' : Key → Nat) (hne : sh' k ≠ sh k) :
    routedTable sh s (sh' k) k = none :=
  (kl_route_stable hc hsh hr h).2 (sh' k) hne

/-- different keys never share an object (so a step on one key reads and writes no state of another key) -/
theorem kl_key_objects_distinct (hc : Proved c) (hsh : ∀ k, sh k < n) (hr : (lts c n sh).Reach s)
    {k1 k2 : Key} {o : ObjId} (h1 : s.table k1 = some o) (h2 : s.table k2 = some o) : k1 = k2 :=
  (inv_reach hc n sh hsh s hr).tInj k1 k2 o h1 h2

/-- the reference counts are exactly the registered threads (waiters and holders), per mode -/
theorem kl_counts (hc : Proved c) (hsh : ∀ k, sh k < n) (hr : (lts c n sh).Reach s) (o : ObjId) :
    (s.objs o).wc = ((s.objs o).regW.length : Int) ∧ (s.objs o).rc = ((s.objs o).regR.length : Int) ∧
    (s.objs o).regW.Nodup ∧ (s.objs o).regR.Nodup ∧
    (∀ t, t ∈ (s.objs o).regW ↔ ∃ k, (k, o, Mode.w) ∈ refs (s.th t)) ∧
    (∀ t, t ∈ (s.objs o).regR ↔ ∃ k, (k, o, Mode.r) ∈ refs (s.th t)) := by
  have hI := inv_reach hc n sh hsh s hr
  exact ⟨(hI.obj o).cnt .w, (hI.obj o).cnt .r, (hI.obj o).regNd .w, (hI.obj o).regNd .r,
    fun t => (hI.link t o).reg .w, fun t => (hI.link t o).reg .r⟩

/-- per key: an entry exists only while somebody is registered on that key -/
theorem kl_entry_has_registrant (hc : Proved c) (hsh : ∀ k, sh k < n) (hr : (lts c n sh).Reach s)
    {k : Key} {o : ObjId} (h : s.table k = some o) : ∃ t m, (k, o, m) ∈ refs (s.th t) := by
  have hI := inv_reach hc n sh hsh s hr
  obtain ⟨m, hm⟩ := hI.tabLive k o h
  obtain ⟨t, ht⟩ := List.exists_mem_of_ne_nil _ hm
  obtain ⟨k', hk'⟩ := ((hI.link t o).reg m).1 ht
  have := hI.tInj k' k o (hI.refTab t k' o m hk') h
  subst this; exact ⟨t, m, hk'⟩

/-- **reclaim**: when no thread holds or awaits anything, the locker retains no per-key state -/
theorem kl_no_leak (hc : Proved c) (hsh : ∀ k, sh k < n) (hr : (lts c n sh).Reach s)
    (hidle : ∀ t, refs (s.th t) = []) (k : Key) : s.table k = none := by
  cases h : s.table k with
  | none => rfl
  | some o =>
    obtain ⟨t, m, ht⟩ := kl_entry_has_registrant hc hsh hr h
    rw [hidle t] at ht; cases ht

/-- no unlock path ever meets a missing map entry or an RWMutex that the caller does not hold -/
theorem kl_no_fault (hc : Proved c) (hsh : ∀ k, sh k < n) (hr : (lts c n sh).Reach s) : s.fault = false :=
  (inv_reach hc n sh hsh s hr).noFault

/-- **all held**: when Locks/RLocks is about to return, every listed key is held in the requested mode, at once -/
theorem kl_all_held (hc : Proved c) (hsh : ∀ k, sh k < n) (hr : (lts c n sh).Reach s)
    {t : Tid} {m : Mode} {all : List Key} (hph : (s.th t).phase = .acq m all []) :
    ∀ k ∈ all, holdsIn (s.th t) m k :=
  fun k hk => (((inv_reach hc n sh hsh s hr).thr t).acqAll hph k hk).resolve_left List.not_mem_nil

/-- a call's ghost key list is the list it was called with, so `kl_all_held` speaks about the caller's keys -/
theorem kl_call_records_keys (t : Tid) (m : Mode) (keys : List Key) {s' : State}
    (h : step c n sh s (.call t m keys) = some s') : ∃ gs, (s'.th t).phase = .reg m keys gs [] := by
  cases (Step.of_step h).2 with
  | call => exact ⟨groups c n sh keys, by rw [setTh_th_same]⟩

/-- **key independence**: a thread locking key `k` is not asleep when no other thread is registered on `k` — for a
reader: when no other thread is registered on `k` as a *writer* — whatever the state of every other key, the table and
all other threads. (Registered = holds `k`, waits for it, or has announced it in a multi-key call: the conservative
reading of "somebody else uses k".) -/
theorem kl_independent (hc : Proved c) (hsh : ∀ k, sh k < n) (hr : (lts c n sh).Reach s)
    {t : Tid} {m : Mode} {all : List Key} {k : Key} {o : ObjId} {rest : List (Key × ObjId)}
    (hph : (s.th t).phase = .acq m all ((k, o) :: rest))
    (hfree : ∀ u, u ≠ t → ∀ o' m', (k, o', m') ∈ refs (s.th u) → m = .r ∧ m' = .r) :
    ¬ blockedT s t := by
  have hI := inv_reach hc n sh hsh s hr
  rintro ⟨m1, a1, k1, o1, r1, e1, hb⟩
  rw [hph] at e1; cases e1
  have htk : s.table k = some o := hI.refTab t k o m (head_mem_refs hph)
  -- any other thread registered on the object is registered on `k`: a reader beside a reader
  have key : ∀ u k' m', (k', o, m') ∈ refs (s.th u) → u ≠ t → m = .r ∧ m' = .r := by
    intro u k' m' h hu
    have : k' = k := hI.tInj k' k o (hI.refTab u k' o m' h) htk
    subst this; exact hfree u hu o m' h
  rcases blocked_cases hI hph hb with ⟨hm, hrd⟩ | ⟨hm, htok⟩ | ⟨u, hu, hown⟩
  · obtain ⟨u, hu⟩ := List.exists_mem_of_ne_nil _ hrd
    obtain ⟨k', hk'⟩ := ((hI.link u o).hold .r).1 hu
    by_cases e : u = t
    · subst e; exact hI.not_held_of_todo hph k' .r hk'
    · exact nomatch hm.symm.trans (key u k' .r (mem_refs_of_held hk') e).1
  · obtain ⟨p, _, k', _, hp, _⟩ := token_sleeper hI htok
    have hpt : p ≠ t := fun e => by subst e; subst hm; rw [hph] at hp; cases hp
    exact nomatch hm.symm.trans (key p k' .r (head_mem_refs hp) hpt).1
  · rcases (hI.link u o).own hown with hw | ⟨_, k', _, hph'⟩
    · obtain ⟨k', hk'⟩ := ((hI.link u o).hold .w).1 hw
      exact nomatch (key u k' .w (mem_refs_of_held hk') hu).2
    · exact nomatch (key u k' .w (head_mem_refs hph') hu).2

/-! The next three statements are *definitional* (true by unfolding the model, for every configuration): they record how
the model is built — the blocking step reads only the object of the key being locked, and the model has no step that
waits inside a table-mutex section — and are tied to the source only through the shape facts (`rwLocker.Lock/RLock`
comes after `d.locker.Unlock()` in every lock path; the unlock paths take no blocking call). The property-level
independence statement is `kl_independent` above. -/

/-- (definitional) whether the blocking step of `t` is enabled depends only on the object of the key `t` is locking -/
theorem kl_lock_enabled_local (s1 s2 : State) (t : Tid) (h : s1.th t = s2.th t)
    (hobj : ∀ m all k o rest, (s1.th t).phase = .acq m all ((k, o) :: rest) → s1.objs o = s2.objs o) :
    (stepLock c s1 t).isSome = (stepLock c s2 t).isSome := by
  unfold stepLock
  rw [← h]
  cases hph : (s1.th t).phase with
  | idle => rfl
  | reg => rfl
  | rel => rfl
  | acq m all todo =>
    cases todo with
    | nil => rfl
    | cons p rest =>
      obtain ⟨k, o⟩ := p
      simp only
      rw [← hobj m all k o rest hph]
      cases tryLock m t (s1.objs o) <;> rfl

/-- (definitional) the sections under a table mutex (registration and unlock loops) are always enabled -/
theorem kl_table_sections_never_block (t : Tid) :
    (∀ m all gs acc, (s.th t).phase = .reg m all gs acc → (stepReg c s t).isSome) ∧
    (∀ m gs, (s.th t).phase = .rel m gs → (stepRel c s t).isSome) :=
  ⟨fun _ _ _ _ => stepReg_isSome, fun _ _ => stepRel_isSome⟩

/-- (definitional) an object whose inner mutex `rw.w` is free never blocks a caller that is not already asleep on it -/
theorem kl_free_object_admits (m : Mode) (t : Tid) (w : Wrap) (h1 : w.wOwner = none) (h4 : t ∉ w.pendR) :
    ∃ w1, tryLock m t w = .wait w1 ∨ tryLock m t w = .enter w1 := by
  cases m
  · simp [tryLock, tryR, h1, h4]
  · simp [tryLock, tryW, h1]

/-- **group order**: every multi-key call touches its keys in non-decreasing comparator rank of the shard index,
whatever the list order; within one shard it keeps the caller's order; and it touches exactly the listed keys -/
theorem group_order_consistent (c : Cfg) (hsh : ∀ k, sh k < n) (keys : List Key) :
    (acqOrder c n sh keys).Pairwise (fun a b => srank c n (sh a) ≤ srank c n (sh b)) ∧
    (∀ i, (acqOrder c n sh keys).filter (fun k => sh k = i) = keys.filter (fun k => sh k = i)) ∧
    (∀ k, k ∈ acqOrder c n sh keys ↔ k ∈ keys) := by
  refine ⟨pairwise_acqOrder c n sh keys (fun i => List.pairwise_of_forall_mem_list fun a ha b hb => ?_)
    fun _ _ _ _ h => Nat.le_of_lt h, fun i => ?_, fun k => ?_⟩
  · simp only [List.mem_filter, decide_eq_true_eq] at ha hb
    rw [ha.2, hb.2]; exact Nat.le_refl _
  · unfold acqOrder
    rw [flatten_groups]
    have key : ∀ (is : List Nat), is.Nodup →
        (is.flatMap (fun j => keys.filter (fun k => sh k = j))).filter (fun k => sh k = i) =
          if i ∈ is then keys.filter (fun k => sh k = i) else [] := by
      intro is
      induction is with
      | nil => simp
      | cons j is ih =>
        intro hnd
        rw [List.nodup_cons] at hnd
        simp only [List.flatMap_cons, List.filter_append, List.filter_filter, ih hnd.2, List.mem_cons]
        by_cases hij : i = j
        · subst hij
          simp [hnd.1]
        · have : (keys.filter (fun k => decide (sh k = i) && decide (sh k = j))) = [] := by
            rw [List.filter_eq_nil_iff]
            intro a _
            simp only [Bool.and_eq_true, decide_eq_true_eq, not_and]
            intro h1 h2; exact hij (h1.symm.trans h2)
          rw [this]; simp [hij]
    rw [key _ (nodup_shardOrder c n)]
    split
    · rfl
    · next h =>
      rw [mem_shardOrder] at h
      symm; rw [List.filter_eq_nil_iff]
      intro a _
      simp only [decide_eq_true_eq]
      intro e; exact h (e ▸ hsh a)
  · exact (mem_groups_flatten c n sh keys k).trans (and_iff_left (hsh k))

/-! ### deadlock freedom

Callers are *disciplined* for a rank function when every call's keys ascend in rank in the order the locker takes
them (`acqOrder`) and lie above everything the caller already holds (`okAct`). `group_order_rank` shows that
duplicate-free lists sorted by one global key order `G` are disciplined for the rank `(shard index, G)` — for all
four lockers, whatever the shard count and routing. Progress is stated as "no stuck state": whenever some call is
outstanding, a step other than a new call is enabled — an outstanding call can proceed, or a thread outside any
call holds a lock and can start unlocking it. That enabled steps are eventually taken (fair scheduling; holders
eventually unlock) is the assumption of the property's liveness reading. -/

/-- states reachable when every call is disciplined for `rank` -/
inductive ReachOrd (c : Cfg) (n : Nat) (sh : Key → Nat) (rank : Key → Nat) : State → Prop
  | init : ReachOrd c n sh rank State.init
  | step {s a s'} : ReachOrd c n sh rank s → okAct c n sh rank s a → step c n sh s a = some s' → ReachOrd c n sh rank s'

theorem reachOrd_reach {rank : Key → Nat} (h : ReachOrd c n sh rank s) : (lts c n sh).Reach s := by
  induction h with
  | init => exact LTS.Reach.init
  | step _ _ hs ih => exact LTS.Reach.step ih hs

theorem reachOrd_ordered {rank : Key → Nat} (h : ReachOrd c n sh rank s) : Ordered rank s := by
  induction h with
  | init => exact ordered_init rank
  | step _ hok hs ih => exact ordered_step ih hok hs

/-- `t` sleeps on an object that `u` holds, and `u` is itself asleep: an edge of the waits-for graph among sleepers -/
def waitsFor (s : State) (t u : Tid) : Prop :=
  (∃ m all k o rest k' m', (s.th t).phase = .acq m all ((k, o) :: rest) ∧ tryLock m t (s.objs o) = .blocked ∧
    (k', o, m') ∈ (s.th u).held) ∧ blockedT s u

/-- rank of the key a sleeping thread is asleep on (0 when it is not inside a blocking call) -/
def awaitedRank (rank : Key → Nat) (s : State) (t : Tid) : Nat :=
  match (s.th t).phase with
  | .acq _ _ ((k, _) :: _) => rank k
  | _ => 0

/-- along a waits-for edge the awaited rank strictly increases: the holder acquired the contested key *before* the key
it now sleeps on, and acquisition goes upwards in rank (for lists of any length: `group_order_rank`) -/
theorem kl_waits_for_rank_increases (hc : Proved c) (hsh : ∀ k, sh k < n) {rank : Key → Nat}
    (hr : ReachOrd c n sh rank s) {t u : Tid} (h : waitsFor s t u) : awaitedRank rank s t < awaitedRank rank s u := by
  have hI := inv_reach hc n sh hsh s (reachOrd_reach hr)
  have hord := reachOrd_ordered hr
  obtain ⟨⟨m, all, k, o, rest, k', m', hph, _, hheld⟩, ⟨m2, a2, k2, o2, r2, e2, _⟩⟩ := h
  have htk : s.table k = some o := hI.refTab t k o m (head_mem_refs hph)
  have hkk : k' = k := hI.tInj k' k o (hI.refTab u k' o m' (mem_refs_of_held hheld)) htk
  subst hkk
  simp only [awaitedRank, hph, e2]
  exact rank_held_lt_awaited (hord u) hheld e2

/-- **no waits-for cycle**: with disciplined callers (in particular: ascending duplicate-free lists by threads that hold
nothing, `reachFlat_reachOrd`) the waits-for graph among sleeping threads is acyclic — whatever the length of the key
lists and however many shards one call spans -/
theorem kl_no_wait_cycle (hc : Proved c) (hsh : ∀ k, sh k < n) {rank : Key → Nat}
    (hr : ReachOrd c n sh rank s) (t : Tid) : ¬ Relation.TransGen (waitsFor s) t t := by
  have mono : ∀ a b, Relation.TransGen (waitsFor s) a b → awaitedRank rank s a < awaitedRank rank s b := by
    intro a b h
    induction h with
    | single h => exact kl_waits_for_rank_increases hc hsh hr h
    | tail _ h ih => exact Nat.lt_trans ih (kl_waits_for_rank_increases hc hsh hr h)
  intro h
  exact Nat.lt_irrefl _ (mono t t h)

/-- steps that work off existing obligations (everything except starting a new Lock/RLock/Locks/RLocks call) -/
def isProgress : Act → Prop
  | .call .. => False
  | _ => True

/-- **no deadlock (core)**: if a disciplined history has put some thread to sleep inside a lock call, then some
thread is not asleep and is either inside a call (it has an enabled step) or holds a lock (it can unlock) -/
theorem kl_blocked_implies_mover (hc : Proved c) (hsh : ∀ k, sh k < n) {rank : Key → Nat}
    (hr : ReachOrd c n sh rank s) {t : Tid} (hb : blockedT s t) :
    ∃ u, ¬ blockedT s u ∧ ((s.th u).phase ≠ .idle ∨ (s.th u).held ≠ []) := by
  have hI := inv_reach hc n sh hsh s (reachOrd_reach hr)
  obtain ⟨R, hR⟩ := rank_bound rank s.next s.table hI.tRange hI.tInj
  obtain ⟨m, all, k, o, rest, hph, hbl⟩ := hb
  exact unblocked_exists hI rank (reachOrd_ordered hr) R hR (R - rank k) t hph hbl (Nat.le_refl _)

/-- **deadlock freedom**: in every state of a disciplined history in which some call is outstanding, a progress step
is enabled (any number of threads, keys and shards; any interleaving; any wake-up order). Discipline (`okAct`, for a
rank function of the caller's choosing): the keys of every call ascend in rank in the order the locker takes them and
lie above every key the caller already holds. Multi-key calls by threads that hold nothing, with lists sorted by one
global key order, are always disciplined (`kl_deadlock_free_flat`); a caller that *holds locks while acquiring more*
must follow the locker's own (shard, key) rank, which for hashed routing it cannot derive from the keys alone. -/
theorem kl_deadlock_free (hc : Proved c) (hsh : ∀ k, sh k < n) {rank : Key → Nat}
    (hr : ReachOrd c n sh rank s) (hbusy : ∃ t, (s.th t).phase ≠ .idle) :
    ∃ a s', isProgress a ∧ step c n sh s a = some s' := by
  have hI := inv_reach hc n sh hsh s (reachOrd_reach hr)
  obtain ⟨t, ht⟩ := hbusy
  have mover : ∃ u, ¬ blockedT s u ∧ ((s.th u).phase ≠ .idle ∨ (s.th u).held ≠ []) := by
    by_cases hb : blockedT s t
    · exact kl_blocked_implies_mover hc hsh hr hb
    · exact ⟨t, hb, .inl ht⟩
  obtain ⟨u, hnb, hu⟩ := mover
  by_cases hidle : (s.th u).phase = .idle
  · -- outside any call and holding something: it can start unlocking
    have hne : (s.th u).held ≠ [] := by
      rcases hu with h | h
      · exact absurd hidle h
      · exact h
    obtain ⟨e, he⟩ := List.exists_mem_of_ne_nil _ hne
    obtain ⟨k, o, m⟩ := e
    have hok : uncallOk s u m [k] := ⟨hidle, by simp, by
      intro k' hk'; simp only [List.mem_singleton] at hk'; subst hk'; exact ⟨o, he⟩⟩
    exact ⟨.uncall u m [k], setTh s u { s.th u with phase := .rel m (groups c n sh [k]) }, trivial,
      (if_neg (by rw [hI.noFault]; decide)).trans (if_pos hok)⟩
  · obtain ⟨a, s', ha, hs⟩ := can_step (c := c) (n := n) (sh := sh) hI.noFault u hidle hnb
    exact ⟨a, s', by rcases ha with rfl | rfl | rfl <;> trivial, hs⟩

theorem lex_rank_lt {B x y ga gb : Nat} (hB : ga < B) (h : x < y) : x * B + ga < y * B + gb :=
  calc x * B + ga < x * B + B := Nat.add_lt_add_left hB _
    _ = (x + 1) * B := (Nat.succ_mul x B).symm
    _ ≤ y * B := Nat.mul_le_mul_right B h
    _ ≤ y * B + gb := Nat.le_add_right _ _

/-- the rank for which sorted lists are disciplined: (comparator rank of the shard, global key order `G`) -/
def lexRank (c : Cfg) (n : Nat) (sh : Key → Nat) (G : Key → Nat) (B : Nat) (k : Key) : Nat := srank c n (sh k) * B + G k

/-- **one global key order is enough**: a duplicate-free list that is sorted by a global order `G` is taken by every
locker in ascending `(shard, G)` rank -/
theorem group_order_rank (c : Cfg) (G : Key → Nat) (B : Nat) (keys : List Key)
    (hB : ∀ k ∈ keys, G k < B) (hsorted : keys.Pairwise (fun a b => G a < G b)) :
    (acqOrder c n sh keys).Pairwise (fun a b => lexRank c n sh G B a < lexRank c n sh G B b) := by
  refine pairwise_acqOrder c n sh keys (fun i => ?_) fun a ha _ _ h => lex_rank_lt (hB a ha) h
  -- inside one shard the first component is the same and `G` ascends
  refine (hsorted.sublist List.filter_sublist).imp_of_mem fun ha hb h => ?_
  simp only [List.mem_filter, decide_eq_true_eq] at ha hb
  unfold lexRank
  rw [ha.2, hb.2]; exact Nat.add_lt_add_left h _

/-- a thread that holds nothing and calls with a duplicate-free, `G`-sorted list is disciplined for `lexRank` -/
theorem okAct_of_sorted (c : Cfg) (G : Key → Nat) (B : Nat) (t : Tid) (m : Mode) (keys : List Key)
    (hB : ∀ k ∈ keys, G k < B) (hsorted : keys.Pairwise (fun a b => G a < G b)) (hnone : (s.th t).held = []) :
    okAct c n sh (lexRank c n sh G B) s (.call t m keys) := by
  refine ⟨group_order_rank c G B keys hB hsorted, ?_⟩
  intro h hh; simp [heldKeys, hnone] at hh

/-- histories in which every Lock/RLock/Locks/RLocks call is made by a thread that holds nothing, with a duplicate-free
list sorted by one global key order `G` (`G k < B` for the keys that occur): the clause of the property text -/
inductive ReachFlat (c : Cfg) (n : Nat) (sh : Key → Nat) (G : Key → Nat) (B : Nat) : State → Prop
  | init : ReachFlat c n sh G B State.init
  | step {s a s'} : ReachFlat c n sh G B s →
      (∀ t m keys, a = .call t m keys →
        (s.th t).held = [] ∧ (∀ k ∈ keys, G k < B) ∧ keys.Pairwise (fun x y => G x < G y)) →
      step c n sh s a = some s' → ReachFlat c n sh G B s'

theorem reachFlat_reachOrd {G : Key → Nat} {B : Nat} (h : ReachFlat c n sh G B s) :
    ReachOrd c n sh (lexRank c n sh G B) s := by
  induction h with
  | init => exact ReachOrd.init
  | @step s a s' _ hcall hs ih =>
    refine ReachOrd.step ih ?_ hs
    cases a with
    | call t m keys =>
      obtain ⟨h1, h2, h3⟩ := hcall t m keys rfl
      exact okAct_of_sorted c G B t m keys h2 h3 h1
    | _ => trivial

/-- **deadlock freedom, as the property text states it**: callers that hold nothing when they call, duplicate-free lists
sorted by one global key order — on any locker (any shard count, routing, comparator direction) a progress step is
enabled whenever a call is outstanding. Callers that hold locks while acquiring more are covered by `kl_deadlock_free`
only if they follow the locker's own `(shard, key)` rank (`okAct`); see `witness_nested_single_deadlock`. -/
theorem kl_deadlock_free_flat (hc : Proved c) (hsh : ∀ k, sh k < n) {G : Key → Nat} {B : Nat}
    (hr : ReachFlat c n sh G B s) (hbusy : ∃ t, (s.th t).phase ≠ .idle) :
    ∃ a s', isProgress a ∧ step c n sh s a = some s' :=
  kl_deadlock_free hc hsh (reachFlat_reachOrd hr) hbusy

/-! ### non-vacuity and negation witnesses (concrete runs of the transition system, single locker, key 0) -/

/-- the steps of a complete single-key `Lock`/`RLock` call by `t` when it is admitted at once -/
def lockNow (t : Tid) : Mode → List Act
  | .w => [.call t .w [0], .reg t, .reg t, .reg t, .lock t, .lock t, .lock t]
  | .r => [.call t .r [0], .reg t, .reg t, .reg t, .lock t, .lock t]
/-- a call that registers and then parks -/
def lockPark (t : Tid) (m : Mode) : List Act := [.call t m [0], .reg t, .reg t, .reg t, .lock t]
def unlockNow (t : Tid) (m : Mode) : List Act := [.uncall t m [0], .rel t, .rel t, .rel t]

def cfgToday : Cfg := ⟨.bothZero, .beforeBlock, .asc⟩
def single (c : Cfg) : LTS State Act := lts c 1 (fun _ => 0)

/-- non-vacuity of the hypotheses of the theorems above: a reachable state with two readers inside, a writer that has
announced itself and waits, and a later reader blocked behind it; counts are 3 readers / 1 writer -/
example : ((single cfgToday).run State.init (lockNow 0 .r ++ lockNow 1 .r ++ lockPark 2 .w ++ lockPark 3 .r)).map
    (fun s => decide ((s.th 0).held = [(0, 0, .r)] ∧ (s.th 1).held = [(0, 0, .r)] ∧ (s.objs 0).wOwner = some 2 ∧
      (s.objs 0).pendR = [3] ∧ (s.objs 0).rc = 3 ∧ (s.objs 0).wc = 1 ∧ s.table 0 = some 0)) = some true := by decide +kernel

/-- … and after everybody has left the table is empty again (the run exists, so `kl_no_leak` is not vacuous) -/
example : ((single cfgToday).run State.init (lockNow 0 .r ++ lockPark 1 .w ++
    unlockNow 0 .r ++ [.lock 1, .lock 1] ++ unlockNow 1 .w)).map (fun s => (s.table 0, (s.th 1).held, s.fault)) =
    some (none, [], false) := by decide +kernel

/-- the run used by the witnesses: W0 holds, W1 waits, W0 unlocks, W1 gets in, W2 arrives -/
def twoWritersRun : List Act :=
  lockNow 0 .w ++ lockPark 1 .w ++ unlockNow 0 .w ++ [.lock 1, .lock 1, .lock 1] ++ lockNow 2 .w

/-- today's configuration: the third writer parks -/
theorem today_third_writer_waits : ((single cfgToday).run State.init twoWritersRun) = none := by decide +kernel

/-- `tryFree` on `readCount == 0` only: the entry is freed under the waiter and two writers hold key 0 at once -/
theorem witness_readZero_two_writers :
    ((single ⟨.readZero, .beforeBlock, .asc⟩).run State.init twoWritersRun).map (fun s => ((s.th 1).held, (s.th 2).held)) =
    some ([(0, 0, .w)], [(0, 1, .w)]) := by decide +kernel

/-- count raised only after the per-key lock was obtained: same failure -/
theorem witness_afterBlock_two_writers :
    ((single ⟨.bothZero, .afterBlock, .asc⟩).run State.init twoWritersRun).map (fun s => ((s.th 1).held, (s.th 2).held)) =
    some ([(0, 0, .w)], [(0, 1, .w)]) := by decide +kernel

/-- `tryFree` never frees: residue after the last unlock -/
theorem witness_never_leaks :
    ((single ⟨.never, .beforeBlock, .asc⟩).run State.init (lockNow 0 .w ++ unlockNow 0 .w)).map
      (fun s => (s.table 0, (s.th 0).held)) = some (some 0, []) := by decide +kernel

/-! non-vacuity of the deadlock theorem: a disciplined run (rank = key id) exists in which a thread is asleep -/

instance (c : Cfg) (n : Nat) (sh rank : Key → Nat) (s : State) (a : Act) : Decidable (okAct c n sh rank s a) := by
  cases a <;> unfold okAct <;> exact inferInstance

def runOk (c : Cfg) (n : Nat) (sh rank : Key → Nat) : State → List Act → Option State
  | s, [] => some s
  | s, a :: as =>
    if okAct c n sh rank s a then
      match step c n sh s a with
      | none => none
      | some s' => runOk c n sh rank s' as
    else none

theorem reachOrd_of_runOk {rank : Key → Nat} : ∀ (as : List Act) (s s' : State),
    ReachOrd c n sh rank s → runOk c n sh rank s as = some s' → ReachOrd c n sh rank s'
  | [], s, s', hr, h => by simp [runOk] at h; subst h; exact hr
  | a :: as, s, s', hr, h => by
    simp only [runOk] at h
    split at h
    · next hok =>
      split at h
      · cases h
      · next s1 hs1 => exact reachOrd_of_runOk as s1 s' (ReachOrd.step hr hok hs1) h
    · cases h

/-- W0 holds key 0, W1 sleeps on it:
the run is disciplined, W1 is asleep (its lock step is not enabled), and W0 can move -/
example : ((runOk cfgToday 1 (fun _ => 0) id State.init (lockNow 0 .w ++ lockPark 1 .w)).bind
    (fun s => some (decide ((stepLock cfgToday s 1).isNone ∧ (s.th 0).held = [(0, 0, .w)] ∧ (s.th 1).phase ≠ .idle)))) =
    some true := by decide +kernel

/-! nested single-key locking on a 2-shard group (key 0 ↦ shard 1, key 1 ↦ shard 0): A: Lock(0); B: Locks([0,1]) takes key 1
(shard 0) first and sleeps on key 0; A: Lock(1) sleeps on key 1. Every list is duplicate-free and ascending in key id, but
A acquires while holding and does not follow the (shard, key) rank: outside `ReachOrd`, and really stuck. -/

def sh2 : Key → Nat := fun k => if k = 0 then 1 else 0

def nestedRun : List Act :=
  [.call 0 .w [0], .reg 0, .reg 0, .reg 0, .lock 0, .lock 0, .lock 0,                 -- A: Lock(0)
   .call 1 .w [0, 1], .reg 1, .reg 1, .reg 1, .reg 1, .reg 1, .lock 1, .lock 1, .lock 1, -- B: Locks([0,1]): key 1, then asleep on key 0
   .call 0 .w [1], .reg 0, .reg 0, .reg 0, .lock 0]                                   -- A: Lock(1): asleep on key 1

/-- both outstanding calls are asleep and nobody outside a call holds anything: no progress step exists -/
theorem witness_nested_single_deadlock :
    ((lts cfgToday 2 sh2).run State.init nestedRun).map (fun s => decide (
      (stepLock cfgToday s 0).isNone ∧ (stepLock cfgToday s 1).isNone ∧
      (s.th 0).phase ≠ .idle ∧ (s.th 1).phase ≠ .idle ∧ (s.th 1).held = [(1, 1, .w)] ∧ (s.th 0).held = [(0, 0, .w)])) =
    some true := by decide +kernel

/-- the same nesting is NOT disciplined for the locker's rank: the call `A: Lock(1)` violates `okAct` -/
example : ((lts cfgToday 2 sh2).run State.init (nestedRun.take 16)).map
    (fun s => decide (okAct cfgToday 2 sh2 (lexRank cfgToday 2 sh2 id 2) s (.call 0 .w [1]))) = some false := by decide +kernel

end Nv.C02
