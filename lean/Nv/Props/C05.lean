import Nv.Proofs.C05Recent
import Nv.Proofs.C05Domain
import Nv.Proofs.C05Conc
import Nv.Proofs.C05Scan
/-!
C05 — property theorems for the TTL caches (model: `Nv.Model.C05`, history spec: `Nv.Spec.C05`).

Every statement quantifies over all histories (`ops : List Op`, including clock advances), all keys,
values, sizes, default ttls and clock readings; the configuration `c` ranges over the facts the
statement needs (`Proved c` is the conjunction of all three). For today's source (`Cfg.today`) the
three affected clauses are refuted by concrete witnesses at the end.
-/

/-!
## Index: clause of the property statement → theorem(s)

| clause of the statement | proved by |
|---|---|
| a successful Get returns the value of the latest Set of that key | `ttl_get_latest` (all histories, every cfg) |
| … only if the key has not been removed (Remove / Clear) | `ttl_get_latest` (`histStep` forgets on remove / clear) |
| … its time-to-live has not elapsed | `ttl_elapsed_history` (deadline = Set reading + ttl, from the history), `ttl_hit_iff_live`, `ttl_elapsed_misses` |
| … and it was not consumed by a remove-after-get read | `ttl_get_latest`, `ttl_consumed_then_miss` |
| and (converse) while live, recent and not removed it DOES hit | `ttl_live_recent_hits` |
| an elapsed key behaves exactly like a key never set (Get → not-found, set-if-absent succeeds) | `ttl_expired_as_absent`, `ttl_expired_set_if_absent`, `ttl_elapsed_misses` |
| at most `size` distinct keys are retrievable at any time (any size ≥ 0) | `ttl_bound`, `ttl_bound_hits` |
| a key touched more recently than `size` other distinct keys is never evicted | `ttl_recent_not_evicted`, `ttl_recent_after_touch` |
| the redis-backed cache agrees with the in-memory one (positive ttls, keep-ttl on live keys, off deadlines, below the size bound) | `ttl_mem_rds_agree`, `ttl_mem_rds_agree_keys` (size clause on the history), `ttl_mem_rds_step`; redis corners: `rds_corner_cases`; Clear: `ttl_rds_clear_all_pages` |
| concurrent callers racing on one key: remove-after-get succeeds for at most one | `ttl_consume_once` (any call sequence without a Set of k), `ttl_consume_once_concurrent` / `_rds` (interleavings; assumption `AtomicCalls`, discharged for the regenerated facts by `tie_atomic_calls`) |
| quantifier: any keys, any size ≥ 0, default ttl ≤ 0 or > 0, clock advances | all of the above quantify over `Key`, `Val`, `size`, `dttl`, `.tick`; `ttl_other_key_untouched` (keys matter by identity only); cancelled contexts: `rds_cancelled_changes_nothing` |

Only monitor-checked / assumed (no theorem): that the Go methods ARE the model's steps (correspondence + facts);
redis itself (the `Rds` model and the fake are hand-written); atomicity of a call (`AtomicCalls`: lock facts, GETDEL);
racing callers of kinds other than remove-after-get (class `stress`, monitors `C05:concurrency:*`); value aliasing and
ttl beyond the int64 / time.Duration range are not claimed.
-/
namespace Nv.C05

/-- the in-memory cache started empty at clock reading `clock` (ms) -/
def MSys.start (clock size : Nat) (dttl : Int) : MSys := ⟨clock, Mem.new size dttl⟩

/-- Along every history, every successful Get returns the value of the latest successful Set of its key, and
    none if the key was since removed, cleared, consumed by a remove-after-get read or seen absent
    (`HistOk`, `Nv.Spec.C05`). Holds for every configuration, also today's. -/
theorem ttl_get_latest (c : Cfg) (clock size : Nat) (dttl : Int) (ops : List Op) :
    HistOk (fun _ => none) (events c (MSys.start clock size dttl) ops) :=
  histOk_run ops _ _ (wf_new size dttl) (fun _ _ hn => nomatch hn)

/-- … and only while its time-to-live has not elapsed: a Get hits exactly when the index holds a node of the key
    whose deadline is not behind the clock; an elapsed node gives not-found. -/
theorem ttl_hit_iff_live (m : Mem) (now : Int) (k : Key) (o : GetOpt) (v : Val) :
    (m.get now k o).2 = .value v ↔ ∃ n, m.lookup k = some n ∧ expired now n.dl = false ∧ n.val = v :=
  get_value_iff

theorem ttl_elapsed_misses (m : Mem) (now : Int) (k : Key) (o : GetOpt) (n : Node)
    (hl : m.lookup k = some n) (he : expired now n.dl = true) : (m.get now k o).2 = .notFound := by
  rw [get_expired o hl he]

/-- the deadline a (non keep-ttl) Set stores is `now + ttl`, or never for `ttl ≤ 0` -/
theorem ttl_set_stores (c : Cfg) (m : Mem) (hs : 1 ≤ m.size) (now : Int) (k : Key) (v : Val) (t : Option Int)
    (mne : Bool) (h : (m.set c now k v ⟨t, mne, false⟩).2 = .ok) :
    (m.set c now k v ⟨t, mne, false⟩).1.lookup k = some ⟨k, v, deadline now (t.getD m.dttl)⟩ :=
  (set_ok_lookup rfl h).resolve_right (fun ⟨h0, _⟩ => Nat.ne_of_gt hs h0)

/-- For the repaired `set()`: in *any* state, every call addressing a key whose time-to-live has elapsed gives
    the same result and the same next state as on the cache from which that key was removed. -/
theorem ttl_expired_as_absent (c : Cfg) (hc : c.setExpiry = .purge) (m : Mem) (now : Int) (k : Key) (n : Node)
    (hl : m.lookup k = some n) (he : expired now n.dl = true) (op : Op) (hop : opKey op = some k) :
    m.step c now op = (m.removeKey k).step c now op := by
  cases op with
  | set k' v o =>
    cases Option.some.inj hop
    rw [Mem.step, Mem.step, Mem.set, Mem.set, preSet_expired hc hl he,
      preSet_live c (fun n hn => by rw [lookup_removeKey_self] at hn; cases hn)]
  | get k' o =>
    cases Option.some.inj hop
    rw [Mem.step, Mem.step, get_expired o hl he, get_absent o (lookup_removeKey_self m k)]
  | remove k' =>
    cases Option.some.inj hop
    rw [Mem.step, Mem.step, removeKey_idem]
  | clear => cases hop
  | tick _ => cases hop

/-- in particular set-if-absent succeeds on it, the new value is then retrievable (size ≥ 1), and a keep-ttl Set
    gives it a fresh deadline -/
theorem ttl_expired_set_if_absent (c : Cfg) (hc : c.setExpiry = .purge) (m : Mem) (hs : 1 ≤ m.size) (now : Int)
    (k : Key) (n : Node) (hl : m.lookup k = some n) (he : expired now n.dl = true) (v : Val) (t : Option Int)
    (keep : Bool) :
    (m.set c now k v ⟨t, true, keep⟩).2 = .ok ∧
    (m.set c now k v ⟨t, true, keep⟩).1.lookup k = some ⟨k, v, deadline now (t.getD m.dttl)⟩ ∧
    ((m.set c now k v ⟨t, true, keep⟩).1.get now k ⟨false, none⟩).2 = .value v := by
  have hset : m.set c now k v ⟨t, true, keep⟩ =
      ((m.removeKey k).insertNew c ⟨k, v, deadline now (t.getD m.dttl)⟩, .ok) := by
    rw [Mem.set, preSet_expired hc hl he, setCore_absent c now v _ (lookup_removeKey_self m k)]; rfl
  have hlk := (lookup_insertNew_self c (m.removeKey k) ⟨k, v, deadline now (t.getD m.dttl)⟩).resolve_right
    (fun ⟨h0, _⟩ => Nat.ne_of_gt hs h0)
  rw [hset]
  exact ⟨rfl, hlk, get_value_iff.2 ⟨_, hlk, expired_deadline now _, rfl⟩⟩

/-- after a successful remove-after-get read the key is gone -/
theorem ttl_consumed_then_miss (m : Mem) (now now' : Int) (k : Key) (u : Option Int) (o : GetOpt) :
    ((m.get now k ⟨true, u⟩).1.get now' k o).2 = .notFound := by
  exact get_notFound_iff.2 (Or.inl (get_remove_absent m now k rfl))

/-- Concurrent callers: each public call is one critical section (lock facts), so every schedule of racing calls
    is a sequence of calls. In every sequence that contains no Set of `k` — any number of remove-after-get
    readers of `k`, mixed with any calls on other keys, Removes, Clears and clock advances — at most one
    remove-after-get read of `k` succeeds. -/
theorem ttl_consume_once (c : Cfg) (s : MSys) (hwf : WF s.mem) (k : Key) (ops : List Op)
    (hops : ∀ op ∈ ops, setsKey k op = false) : consumes k (events c s ops) ≤ 1 :=
  Nat.le_trans (consumes_le ops s hwf hops) (by split <;> decide)

/-- Concurrent callers, explicitly. ASSUMPTION `AtomicCalls` (named in `Nv.Spec.C05`; holds for the regenerated facts:
    `tie_atomic_calls`): every public call is one critical section, so an execution of racing callers is an
    `Interleaving` of their calls. Then: for ANY number of callers, each issuing any number of remove-after-get reads
    of `k` (with or without update-ttl), and EVERY interleaving `sched` of them, started in a state where `k` is live
    (e.g. right after one successful Set, `ttl_set_stores`): exactly the first read in schedule order returns the
    value, every other read misses — exactly one success. -/
theorem ttl_consume_once_concurrent (f : Facts) (_atomic : AtomicCalls f) (c : Cfg) (s : MSys) (k : Key) (n : Node)
    (hl : s.mem.lookup k = some n) (he : expired (secOf s.clock) n.dl = false) (progs : List (List Op))
    (hprogs : ∀ p ∈ progs, ∀ op ∈ p, ∃ u, op = .get k ⟨true, u⟩) (sched : List Op)
    (hs : Interleaving progs sched) (hne : sched ≠ []) :
    outs (MSys.step c) s sched = .value n.val :: List.replicate (sched.length - 1) .notFound := by
  have hall : ∀ op ∈ sched, ∃ u, op = .get k ⟨true, u⟩ := by
    intro op hop
    obtain ⟨p, hp, hin⟩ := interleaving_mem hs op hop
    exact hprogs p hp op hin
  exact consume_race s hl he hall hne

/-- The same on the redis-backed cache, relative to GETDEL being atomic (`AtomicCalls.rdsConsumeIsGetDel` + redis'
    atomic command execution): racing consuming reads without update-ttl are single GETDEL commands; in every
    interleaving exactly the first one returns the value. (With update-ttl the read is GETDEL followed by EXPIRE, two
    commands: not covered here; the EXPIRE then finds nothing.) -/
theorem ttl_consume_once_concurrent_rds (f : Facts) (_atomic : AtomicCalls f) (c : Cfg) (r : Rds) (nowMs : Int) (k : Key)
    (e : REntry) (hl : rLive nowMs k r.store = some e) (progs : List (List Op))
    (hprogs : ∀ p ∈ progs, ∀ op ∈ p, op = .get k ⟨true, none⟩) (sched : List Op)
    (hs : Interleaving progs sched) (hne : sched ≠ []) :
    outs (fun r op => r.step c nowMs op) r sched = .value e.val :: List.replicate (sched.length - 1) .notFound := by
  have hall : ∀ op ∈ sched, op = .get k ⟨true, none⟩ := by
    intro op hop
    obtain ⟨p, hp, hin⟩ := interleaving_mem hs op hop
    exact hprogs p hp op hin
  exact rds_consume_race r hl hall hne

/-- non-vacuity: three callers (2 + 1 + 1 reads) and one of their interleavings -/
example : Interleaving [[.get 1 ⟨true, none⟩, .get 1 ⟨true, none⟩], [.get 1 ⟨true, none⟩], [.get 1 ⟨true, some 5⟩]]
    [.get 1 ⟨true, none⟩, .get 1 ⟨true, some 5⟩, .get 1 ⟨true, none⟩, .get 1 ⟨true, none⟩] :=
  .step 1 (by decide) rfl (.step 2 (by decide) rfl (.step 0 (by decide) rfl (.step 0 (by decide) rfl
    (.done (by decide)))))

example : AtomicCalls Facts.expected := ⟨rfl, rfl⟩

theorem ttl_reachable_wf (c : Cfg) (clock size : Nat) (dttl : Int) (ops : List Op) :
    WF (final (MSys.step c) (MSys.start clock size dttl) ops).mem :=
  msys_mem_inv c WF (fun _ now op h => wf_step h now op) ops _ (wf_new size dttl)

theorem ttl_reachable_bounded (c : Cfg) (hc : c.indexOrder = .beforeEvict) (clock size : Nat) (dttl : Int)
    (ops : List Op) : Bounded (final (MSys.step c) (MSys.start clock size dttl) ops).mem :=
  msys_mem_inv c Bounded (fun _ now op h => bounded_step hc h now op) ops _ (bounded_new size dttl)

/-- With the index entry written before the eviction: after every history, for every `size ≥ 0`, at most `size`
    keys are retrievable at any clock reading. -/
theorem ttl_bound (c : Cfg) (hc : c.indexOrder = .beforeEvict) (clock size : Nat) (dttl : Int) (ops : List Op)
    (now : Int) : ((final (MSys.step c) (MSys.start clock size dttl) ops).mem.retrievable now).length ≤ size := by
  have hsz := msys_size c ops (MSys.start clock size dttl)
  exact Nat.le_trans (retrievable_length_le (ttl_reachable_bounded c hc clock size dttl ops) now) (Nat.le_of_eq hsz)

/-- the same, stated on results: any list of distinct keys that all hit at one instant has length ≤ size -/
theorem ttl_bound_hits (c : Cfg) (hc : c.indexOrder = .beforeEvict) (clock size : Nat) (dttl : Int) (ops : List Op)
    (now : Int) (ks : List Key) (hnd : ks.Nodup)
    (hhit : ∀ k ∈ ks, ∃ v, ((final (MSys.step c) (MSys.start clock size dttl) ops).mem.get now k ⟨false, none⟩).2 = .value v) :
    ks.length ≤ size := by
  have hsz := msys_size c ops (MSys.start clock size dttl)
  have h1 := hnd.length_le_of_subset (fun k hk => by
    obtain ⟨v, hv⟩ := hhit k hk
    obtain ⟨n, hn, _⟩ := get_value_iff.1 hv
    exact mem_indexed_iff.2 ⟨n, hn⟩)
  have h2 := indexed_length_le (ttl_reachable_bounded c hc clock size dttl ops)
  have h3 : (final (MSys.step c) (MSys.start clock size dttl) ops).mem.size = size := hsz
  omega

/-- For every configuration, every start state and every history `pre ++ [Set k v] ++ mid ++ [Get k]`: if the Set
    succeeded at clock reading `t` (seconds) without keep-ttl and with effective ttl `d > 0` (its own or the default),
    and no call of `mid` is a Set of `k` or an update-ttl Get of `k` (anything else is allowed: plain / consuming Gets
    of `k`, Removes, Clears, any calls on other keys, clock advances), then the final Get of `k` at reading `r`
      * misses when `r > t + d`, and
      * when `r ≤ t + d` returns exactly `v`, unless `k` left the index meanwhile (removed / consumed / evicted).
    The deadline is `t + d` computed from the history; nothing is assumed about a stored node. -/
theorem ttl_elapsed_history (c : Cfg) (clock size : Nat) (dttl : Int) (pre mid : List Op) (k : Key) (v : Val)
    (o : SetOpt) (g : GetOpt) (hkeep : o.keepTTL = false) (hd : 0 < o.ttl.getD dttl)
    (hmid : ∀ op ∈ mid, writesTtl k op = false) :
    let s1 := final (MSys.step c) (MSys.start clock size dttl) pre
    let r2 := MSys.step c s1 (.set k v o)
    let s3 := final (MSys.step c) r2.1 mid
    r2.2 = .ok →
    (secOf s1.clock + o.ttl.getD dttl < secOf s3.clock → (MSys.step c s3 (.get k g)).2 = .notFound) ∧
    (secOf s3.clock ≤ secOf s1.clock + o.ttl.getD dttl →
      (MSys.step c s3 (.get k g)).2 = .value v ∨
      ((MSys.step c s3 (.get k g)).2 = .notFound ∧ s3.mem.lookup k = none)) := by
  intro s1 r2 s3 hok
  have hdt : s1.mem.dttl = dttl := msys_dttl c pre (MSys.start clock size dttl)
  have h := elapsed_history s1 (ttl_reachable_wf c clock size dttl pre) mid k v o g hkeep (hdt ▸ hd) hmid hok
  rw [hdt] at h
  exact h

/-- With the index written before the eviction, in any well-formed bounded state (every reachable one is), for a node
    `x` on the recency list whose predecessors all have keys in `S`: after ANY call sequence that contains no Clear and
    no call addressing `x`'s key — Sets (new and existing keys, evictions included), Gets of every kind, Removes,
    clock advances, elapsed keys being purged — `x` is still indexed, unchanged, provided the number of DISTINCT keys
    in `S` together with those addressed by the sequence (`touchedBy`) is below `size`. -/
theorem ttl_recent_not_evicted (c : Cfg) (hc : c.indexOrder = .beforeEvict) (s : MSys) (hwf : WF s.mem)
    (hb : Bounded s.mem) (x : Node) (S : List Key) (hx : Ahead s.mem x S) (ops : List Op)
    (hops : ∀ op ∈ ops, opKey op ≠ some x.key ∧ op ≠ .clear) (hcard : (touchedBy S ops).length < s.mem.size) :
    (final (MSys.step c) s ops).mem.lookup x.key = some x :=
  recent_kept hc s hwf hb hx ops hops hcard

/-- the property's wording: a key that was just touched (its node is the head of the list — what a hit, an overwrite
    and an insert produce, `ttl_touch_moves_to_front`, `ttl_evicts_only_tail`) survives as long as fewer than `size`
    distinct other keys are touched -/
theorem ttl_recent_after_touch (c : Cfg) (hc : c.indexOrder = .beforeEvict) (s : MSys) (hwf : WF s.mem)
    (hb : Bounded s.mem) (x : Node) (rest : List Node) (hhead : s.mem.live = x :: rest) (ops : List Op)
    (hops : ∀ op ∈ ops, opKey op ≠ some x.key ∧ op ≠ .clear) (hcard : (touchedBy [] ops).length < s.mem.size) :
    (final (MSys.step c) s ops).mem.lookup x.key = some x :=
  ttl_recent_not_evicted c hc s hwf hb x [] ⟨[], rest, by simpa using hhead, by simp⟩ ops hops hcard

/-- End to end, on histories only: after a successful Set of `k` (no keep-ttl, effective ttl `d > 0`, size ≥ 1) at
    reading `t`, if the calls that follow never address `k`, contain no Clear and address fewer than `size` distinct
    keys, then a Get of `k` at any reading `r ≤ t + d` HITS and returns the value that was set. -/
theorem ttl_live_recent_hits (c : Cfg) (hc : c.indexOrder = .beforeEvict) (clock size : Nat) (hs : 1 ≤ size)
    (dttl : Int) (pre mid : List Op) (k : Key) (v : Val) (o : SetOpt) (g : GetOpt) (hkeep : o.keepTTL = false)
    (hd : 0 < o.ttl.getD dttl) (hmid : ∀ op ∈ mid, opKey op ≠ some k ∧ op ≠ .clear)
    (hcard : (touchedBy [] mid).length < size) :
    let s1 := final (MSys.step c) (MSys.start clock size dttl) pre
    let r2 := MSys.step c s1 (.set k v o)
    let s3 := final (MSys.step c) r2.1 mid
    r2.2 = .ok → secOf s3.clock ≤ secOf s1.clock + o.ttl.getD dttl → (MSys.step c s3 (.get k g)).2 = .value v := by
  intro s1 r2 s3 hok hle
  have hsz : s1.mem.size = size := msys_size c pre (MSys.start clock size dttl)
  have hdt : s1.mem.dttl = dttl := msys_dttl c pre (MSys.start clock size dttl)
  exact live_recent_hits hc s1 (ttl_reachable_wf c clock size dttl pre) (ttl_reachable_bounded c hc clock size dttl pre)
    (hsz ▸ hs) mid k v o g hkeep (hdt ▸ hd) hmid (hsz ▸ hcard) hok (hdt ▸ hle)

/-- the one-call version with positions: it bounds how far a node can move back per call -/
theorem ttl_recent_step_position (c : Cfg) (hc : c.indexOrder = .beforeEvict) (m : Mem) (hb : Bounded m)
    (x : Node) (i : Nat) (h : At m x i) (hi : i + 1 < m.size) (now : Int) (op : Op)
    (hop : opKey op ≠ some x.key) (hcl : op ≠ .clear) : At (m.step c now op).1 x (i + 1) := by
  obtain ⟨pre, post, hl, hlen⟩ := h
  cases hk : opKey op with
  | none =>
    cases op with
    | clear => exact absurd rfl hcl
    | tick _ => exact ⟨pre, post, hl, by omega⟩
    | _ => cases hk
  | some k =>
    have hle := eraseKey_length_le k pre
    obtain ⟨pre', post', hl', -, hlen'⟩ :=
      split_step hc hb hl now hk (fun e => hop (by rw [hk, e])) (by omega)
    exact ⟨pre', post', hl', by omega⟩

/-- a Set of a new key pushes it to the front and drops exactly the tail of the recency list, only when full -/
theorem ttl_evicts_only_tail (c : Cfg) (hc : c.indexOrder = .beforeEvict) (m : Mem) (n : Node) :
    (m.live.length < m.size ∧ (m.insertNew c n).live = n :: m.live) ∨
    (m.size ≤ m.live.length ∧ (m.insertNew c n).live = (n :: m.live).dropLast) :=
  insertNew_live hc m n

/-- a hit or an overwrite moves the key's node to the head of the recency list -/
theorem ttl_touch_moves_to_front (m : Mem) (n x : Node) (h : findKey n.key m.live = some x) :
    (m.touch n).live = n :: eraseKey n.key m.live :=
  touch_head h

/-- non-vacuity of `ttl_recent_step_position`: k2 sits behind one node in a cache of size 3 -/
example : let m : Mem := ⟨3, 0, [⟨1, 5, none⟩, ⟨2, 6, none⟩], []⟩
    Bounded m ∧ At m ⟨2, 6, none⟩ 1 ∧ 1 + 1 < m.size :=
  ⟨⟨rfl, by decide⟩, ⟨[⟨1, 5, none⟩], [], rfl, by decide⟩, by decide⟩

/-- non-vacuity of `ttl_recent_not_evicted`: size 3, k1 at the head; three calls touching two distinct other keys
    (one of them twice, one insert evicting nothing) leave k1 indexed; a third distinct key would evict it -/
example : let s : MSys := ⟨1000, ⟨3, 0, [⟨1, 5, none⟩, ⟨2, 6, none⟩], []⟩⟩
    let ops : List Op := [.set 3 7 ⟨none, false, false⟩, .get 2 ⟨false, none⟩, .set 3 8 ⟨none, false, false⟩]
    (touchedBy [] ops).length = 2 ∧ (final (MSys.step Cfg.fixed) s ops).mem.lookup 1 = some ⟨1, 5, none⟩ ∧
    (final (MSys.step Cfg.fixed) s (ops ++ [.set 4 9 ⟨none, false, false⟩])).mem.lookup 1 = none := by decide

/-- non-vacuity of `ttl_elapsed_history`: Set at reading 1700000000 with ttl 3, a keep-free noise history, then Gets at
    readings t+3 (hit) and t+4 (miss) -/
example : outs (MSys.step Cfg.fixed) (MSys.start 1700000000500 2 0)
    [.set 1 5 ⟨some 3, false, false⟩, .get 1 ⟨false, none⟩, .set 2 6 ⟨none, false, false⟩, .tick 3499,
     .get 1 ⟨false, none⟩, .tick 1, .get 1 ⟨false, none⟩] =
    [.ok, .value 5, .ok, .ok, .value 5, .ok, .notFound] := by decide

/-- For the repaired sources (`Proved c`: ttl converted with `* time.Second`, `set()` purges an elapsed entry, index
    written before the eviction): for every size, every default ttl, every starting clock (ms; the in-memory cache
    reads whole seconds, redis milliseconds, whatever the sub-second phase) and every history inside the comparison
    domain of the property — `Admissible`: positive ttls, keep-ttl (without must-not-exist) on live keys only, no call
    on a key at a clock reading equal to its deadline, no Set that would evict — both caches return the same
    hit/miss, value and already-exists result for every call. -/
theorem ttl_mem_rds_agree (c : Cfg) (hc : Proved c) (clock size : Nat) (dttl : Int) (ops : List Op)
    (hadm : Admissible c (Sys.new clock size dttl) ops) :
    ∀ o ∈ outs (Sys.step c) (Sys.new clock size dttl) ops, o.1 = o.2 :=
  agree_run hc ops _ (rel_new clock size dttl) hadm

/-- the simulation behind it: one admissible call keeps the two stores related and gives equal results -/
theorem ttl_mem_rds_step (c : Cfg) (hc : Proved c) (s : Sys) (hR : Rel s) (op : Op) (ha : admOp s op) :
    (Sys.step c s op).2.1 = (Sys.step c s op).2.2 ∧ Rel (Sys.step c s op).1 :=
  agree_sys_step hc hR ha

/-- "below the size bound" stated on the history: if every Set of the history uses a key of a fixed duplicate-free
    list `K` with `|K| ≤ size` (so at most `size` distinct keys ever exist), the state-level room clause of `Admissible`
    holds automatically — `AdmissibleK` (positive ttl unless the Set is a keep-ttl overwrite, keep-ttl on live keys,
    no call on a key at its deadline reading, update-ttl > 0) is all that is needed. -/
theorem ttl_mem_rds_agree_keys (c : Cfg) (hc : Proved c) (clock size : Nat) (dttl : Int) (K : List Key) (hK : K.Nodup)
    (hlen : K.length ≤ size) (ops : List Op) (hadm : AdmissibleK c K (Sys.new clock size dttl) ops) :
    ∀ o ∈ outs (Sys.step c) (Sys.new clock size dttl) ops, o.1 = o.2 :=
  ttl_mem_rds_agree c hc clock size dttl ops
    (admissibleK_imp ops _ (wf_new size dttl) (fun _ ha => nomatch ha) hlen hadm)

/-- the redis corner cases the simulation relies on, by the `Rds` model: KEEPTTL on a live key keeps its expiry (none
    stays none); KEEPTTL on an absent / expired key stores it without expiry; a plain SET drops the ttl, SET EX
    replaces it; SET NX succeeds on an expired key; GETDEL on an expired key returns nil and removes it; after a
    GETDEL every later GETDEL / GET returns nil; EXPIRE on an absent key replies 0, a non-positive EXPIRE deletes. -/
theorem rds_corner_cases (now now' : Int) (k : Key) (v : Val) (st : List REntry) :
    (∀ e, rLive now k st = some e → rSet now k v .keepttl false st = (⟨k, v, e.exp⟩ :: rErase k st, .ok)) ∧
    (rLive now k st = none → rSet now k v .keepttl false st = (⟨k, v, none⟩ :: rErase k st, .ok)) ∧
    (rSet now k v .plain false st = (⟨k, v, none⟩ :: rErase k st, .ok)) ∧
    (∀ n, 0 < n → rSet now k v (.ex n) false st = (⟨k, v, some (now + n * 1000)⟩ :: rErase k st, .ok)) ∧
    (∀ n, 0 < n → rLive now k st = none →
      rSet now k v (.ex n) true st = (⟨k, v, some (now + n * 1000)⟩ :: rErase k st, .ok)) ∧
    (∀ e, rFind k st = some e → rExpired now e.exp = true → rGetDel now k st = (rErase k st, .nil)) ∧
    ((rGetDel now' k (rGetDel now k st).1).2 = .nil ∧ (rGet now' k (rGetDel now k st).1).2 = .nil) ∧
    (∀ s, rLive now k st = none → rExpire now k s st = (rErase k st, .int 0)) ∧
    (∀ e s, rLive now k st = some e → s ≤ 0 → rExpire now k s st = (rErase k st, .int 1)) :=
  ⟨fun _ h => rSet_keepttl_live h, rSet_keepttl_absent, rSet_plain_drops_ttl now k v st,
   fun _ hn => rSet_ex v hn (fun h => nomatch h), fun _ hn h => rSet_ex v hn (fun _ => h),
   fun _ hf he => rGetDel_expired hf he, rGetDel_then_nil now now' k st,
   fun s h => rExpire_absent h s, fun _ _ h hs => rExpire_nonpos_deletes h hs⟩

/-- non-vacuity of `ttl_mem_rds_agree_keys`: keys {1,2}, size 2, a keep-ttl overwrite with a non-positive ttl option -/
example : AdmissibleK Cfg.fixed [1, 2] (Sys.new 1700000000500 2 5)
    [.set 1 5 ⟨some 3, false, false⟩, .set 2 6 ⟨none, true, false⟩, .set 1 7 ⟨some (-4), false, true⟩,
     .get 1 ⟨false, some 2⟩, .remove 2, .get 2 ⟨false, none⟩] := admissibleKB_sound _ _ (by decide)

/-- Keys only matter by identity (long keys with common prefixes, the empty key, keys full of glob characters are just
    keys): a call addressing another key can never put anything under `k` — if `k` is indexed afterwards it was indexed
    before with the very same node (value and deadline). In particular a key that was never set is never served. -/
theorem ttl_other_key_untouched (c : Cfg) (m : Mem) (hwf : WF m) (now : Int) (op : Op) (k : Key) (n : Node)
    (hop : opKey op ≠ some k) (h : (m.step c now op).1.lookup k = some n) : m.lookup k = some n :=
  lookup_step_other hwf hop h

/-- A call issued with an already cancelled context (`Sys.stepCancelled`): the redis-backed cache changes nothing and
    Set / Get / Remove answer with the error (so a Remove that returned nil was carried out); the in-memory cache
    ignores the context and behaves exactly as for a live one. -/
theorem rds_cancelled_changes_nothing (c : Cfg) (s : Sys) (op : Op) :
    (Sys.stepCancelled c s op).1.rds = s.rds ∧
    (Sys.stepCancelled c s op).1.mem = (Sys.step c s op).1.mem ∧
    (Sys.stepCancelled c s op).2.1 = (Sys.step c s op).2.1 ∧
    (∀ k v o, op = .set k v o → (Sys.stepCancelled c s op).2.2 = .err) ∧
    (∀ k o, op = .get k o → (Sys.stepCancelled c s op).2.2 = .err) ∧
    (∀ k, op = .remove k → (Sys.stepCancelled c s op).2.2 = .err) := by
  refine ⟨?_, ?_, ?_, ?_, ?_, ?_⟩
  · cases op <;> rfl
  · cases op <;> rfl
  · cases op <;> rfl
  · rintro k v o rfl; rfl
  · rintro k o rfl; rfl
  · rintro k rfl; rfl

/-- For every paging of the key space (any page sizes, short and empty pages included) in which each stored key
    appears on some page — what redis guarantees for an iteration followed until the cursor is 0 — deleting the
    keys of every page leaves the store empty, i.e. `Clear` is `Rds.step .clear` of the model. -/
theorem ttl_rds_clear_all_pages (pages : List (List Key)) (st : List REntry)
    (hcov : ∀ e ∈ st, ∃ pg ∈ pages, e.key ∈ pg) : clearPages pages st = [] :=
  clearPages_covering pages st hcov

/-- non-vacuity, and the counter-example for a Clear that consumes only the first page (cursor dropped):
    12 keys in pages of 10 and 2 (with an empty page in between) — all pages: nothing left; first page: 2 survive -/
theorem witness_clear_first_page_only :
    let st : List REntry := (List.range 12).map (fun k => ⟨k, k + 1, none⟩)
    let pages : List (List Key) := [List.range 10, [], [10, 11]]
    clearPages pages st = [] ∧ (clearFirstPage pages st).map (·.key) = [10, 11] := by decide

/-! ### non-vacuity -/

/-- an admissible history with hits, an elapsed key, set-if-absent, keep-ttl, update-ttl and a consuming read -/
example : Admissible Cfg.fixed (Sys.new 1700000000500 2 5)
    [.set 1 5 ⟨some 3, false, false⟩, .tick 1700, .get 1 ⟨false, none⟩, .set 1 6 ⟨none, false, true⟩, .tick 3000,
     .get 1 ⟨false, none⟩, .set 1 7 ⟨some 2, true, false⟩, .get 1 ⟨false, some 4⟩, .tick 3000, .get 1 ⟨true, none⟩,
     .get 1 ⟨false, none⟩] := admissibleB_sound _ _ (by decide)

example : outs (Sys.step Cfg.fixed) (Sys.new 1700000000500 2 5)
    [.set 1 5 ⟨some 3, false, false⟩, .tick 1700, .get 1 ⟨false, none⟩, .set 1 6 ⟨none, false, true⟩, .tick 3000,
     .get 1 ⟨false, none⟩, .set 1 7 ⟨some 2, true, false⟩, .get 1 ⟨false, some 4⟩, .tick 3000, .get 1 ⟨true, none⟩,
     .get 1 ⟨false, none⟩] =
    [(.ok, .ok), (.ok, .ok), (.value 5, .value 5), (.ok, .ok), (.ok, .ok), (.notFound, .notFound), (.ok, .ok),
     (.value 7, .value 7), (.ok, .ok), (.value 7, .value 7), (.notFound, .notFound)] := by decide

example : Proved Cfg.fixed := by decide
example : ¬ Proved Cfg.today := by decide

/-- a state with an elapsed key (hypotheses of `ttl_expired_as_absent` / `ttl_expired_set_if_absent`) -/
example : let m : Mem := ⟨2, 0, [⟨1, 5, some 103⟩], []⟩
    m.lookup 1 = some ⟨1, 5, some 103⟩ ∧ expired 104 (some 103) = true ∧ 1 ≤ m.size := by decide

/-- a history in which a Get hits, a remove-after-get read consumes, and a later Get misses -/
example : outs (MSys.step Cfg.fixed) (MSys.start 100000 2 0)
    [.set 1 5 ⟨some 3, false, false⟩, .get 1 ⟨false, none⟩, .get 1 ⟨true, none⟩, .get 1 ⟨false, none⟩] =
    [.ok, .value 5, .value 5, .notFound] := by decide

/-- `ttl_consume_once` hypotheses: five racing readers of a live key, exactly one wins -/
example : consumes 1 (events Cfg.fixed ⟨100000, ⟨2, 0, [⟨1, 5, none⟩], []⟩⟩ (List.replicate 5 (.get 1 ⟨true, none⟩))) = 1 := by
  decide

/-! ### today's source: the affected clauses fail (concrete witnesses, replayed on the real code by the monitors) -/

/-- F02: Set; the ttl elapses; Set with must-not-exist reports already-exists. -/
theorem witness_set_ignores_expiry :
    outs (MSys.step Cfg.today) (MSys.start 1700000000000 2 0)
      [.set 1 5 ⟨some 3, false, false⟩, .tick 4000, .set 1 6 ⟨none, true, false⟩, .get 1 ⟨false, none⟩] =
      [.ok, .ok, .exists_, .notFound] := by decide

/-- F02': keep-ttl on an elapsed key stores the value under the dead deadline: it is never readable. -/
theorem witness_keep_ttl_on_elapsed :
    outs (MSys.step Cfg.today) (MSys.start 1700000000000 2 0)
      [.set 1 5 ⟨some 3, false, false⟩, .tick 4000, .set 1 6 ⟨none, false, true⟩, .get 1 ⟨false, none⟩] =
      [.ok, .ok, .ok, .notFound] := by decide

theorem not_expired_as_absent_today :
    ¬ (∀ (m : Mem) (now : Int) (k : Key) (n : Node), m.lookup k = some n → expired now n.dl = true →
        ∀ op, opKey op = some k → m.step Cfg.today now op = (m.removeKey k).step Cfg.today now op) := by
  intro h
  have := h ⟨2, 0, [⟨1, 5, some 103⟩], []⟩ 104 1 ⟨1, 5, some 103⟩ (by decide) (by decide)
    (.set 1 6 ⟨none, true, false⟩) (by decide)
  revert this; decide

/-- F03: size 0 — every key that was set is retrievable. -/
theorem witness_size_zero :
    outs (MSys.step Cfg.today) (MSys.start 1700000000000 0 0)
      [.set 1 5 ⟨none, false, false⟩, .set 2 6 ⟨none, false, false⟩, .get 1 ⟨false, none⟩, .get 2 ⟨false, none⟩] =
      [.ok, .ok, .value 5, .value 6] := by decide

theorem not_bound_today :
    ¬ (∀ (clock size : Nat) (dttl : Int) (ops : List Op) (now : Int),
        ((final (MSys.step Cfg.today) (MSys.start clock size dttl) ops).mem.retrievable now).length ≤ size) := by
  intro h
  have := h 0 0 0 [.set 1 5 ⟨none, false, false⟩] 0
  revert this; decide

/-- F04: `time.Duration(ttl)` is nanoseconds — a key set with ttl 60 s is gone on redis two seconds later
    (`SET … PX 1`), while the in-memory cache still serves it; the history is admissible. -/
theorem witness_rds_ttl_unit :
    outs (Sys.step Cfg.today) (Sys.new 1700000000000 2 60)
      [.set 1 5 ⟨none, false, false⟩, .tick 2000, .get 1 ⟨false, none⟩] =
      [(.ok, .ok), (.ok, .ok), (.value 5, .notFound)] ∧
    admissibleB Cfg.today (Sys.new 1700000000000 2 60)
      [.set 1 5 ⟨none, false, false⟩, .tick 2000, .get 1 ⟨false, none⟩] = true := by decide

theorem not_agree_today :
    ¬ (∀ (clock size : Nat) (dttl : Int) (ops : List Op), Admissible Cfg.today (Sys.new clock size dttl) ops →
        ∀ o ∈ outs (Sys.step Cfg.today) (Sys.new clock size dttl) ops, o.1 = o.2) := by
  intro h
  have := h 1700000000000 2 60 [.set 1 5 ⟨none, false, false⟩, .tick 2000, .get 1 ⟨false, none⟩]
    (admissibleB_sound _ _ witness_rds_ttl_unit.2) (.value 5, .notFound) (by rw [witness_rds_ttl_unit.1]; simp)
  cases this

/-- the command go-redis sends for ttl = 60 today, and after the repair -/
theorem witness_rds_command :
    goSetExpiry (durOf Cfg.today 60) = .px 1 ∧ goSetExpiry (durOf Cfg.fixed 60) = .ex 60 ∧
    formatSec (durOf Cfg.today 60) = 1 ∧ formatSec (durOf Cfg.fixed 60) = 60 := by decide

end Nv.C05
