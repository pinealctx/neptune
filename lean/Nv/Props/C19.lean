import Nv.Model.C19
import Nv.Proofs.C19
import Nv.Proofs.C19Hist
/-!
C19 — property theorems for `vcode` and `genNonceStr` (model: `Nv.Model.C19`).

INDEX — the clauses of properties.jsonl#C19.statement and the theorems that prove them (all in this file unless noted):
 1. "After a verification code has been sent to (area code, phone), verifying the same pair with that code and the returned hash
    succeeds while the code is within its lifetime and the attempt limit"
      → `vc_send_then_verify` (exact: ok IFF verify time − send time ≤ TTL, else timeout), `vc_send_then_verify_iff`,
        `vc_send_then_verify_few_others`, `vc_send_then_verify_now`; key level / every cfg: `vc_send_then_verify_key`.
 2. "and verification fails for any other code, hash, phone, or after the lifetime"
      → other code / hash / missing entry: `vc_wrong_rejected`; other phone or area code (all strings): `vc_other_pair_rejected`,
        `vc_other_key_rejected`, `vc_nothing_sent_not_exist` (+ `mkKey_lenPrefix_inj`, `key_eq_iff_pair` in Proofs);
        after the lifetime: `vc_expired_rejected`, `vc_expired_timeout`.
 3. "once more than the configured number of attempts were made against one sent code even the right code is rejected"
      → `vc_attempts_bounded` (every history), `vc_limit_rejects_right_code`, `vc_attempts_exhausted`.
 4. "and a new send resets the attempts" → `vc_send_resets_attempts` (with `vc_send_then_verify_now`).
 5. "Generated codes have the configured length" → `vc_code_length` (mock), `vc_code_length_real` (real sender), `genNonce_length`.
 6. "and every character of the configured alphabet can occur" → `nonce_alphabet_surjective`, `nonce_alphabet_surjective'`,
      `reachable_iff`, `genNonce_mem` — existence of a random source only.
 7. "sends closer together than the minimum interval … are refused"
      → `vc_too_frequent_iff` (one step), `vc_first_send_not_too_frequent`, `vc_send_limits_min_interval` (exact: refused IFF
        time − previous accepted send < MinInterval), `vc_send_limits_min_interval_key`; concurrent callers: `vc_resend_refused_any_interleaving`
        (in every sequential interleaving of one caller's re-sends with other callers' operations on other pairs, every re-send inside the interval is refused), `resends_refused`.
 2'. other phone / area code with the cache filled far beyond capacity: `bulk_spec` (closed form of n sends to distinct pairs = model run), `bulk_keys`.
 8. "or beyond the per-window count limit, are refused" → `vc_send_limits_count` (≤ MaxCount+1 per window, ghost window from outputs and
      clock), `vc_count_limit_iff`, `vc_window_refresh`.
 Quantifier "lifetimes and intervals": exact millisecond arithmetic for every duration and every non-decreasing clock history.
 NOT proved, only monitored or assumed: `random.MD5UUID()` returns a fresh value (monitor `C19:MD5UUID:hash-repeated`); `rand.Intn(n)`
 can return every value below n, in particular n−1 (monitor on `sample` lines); the real clock is monotonic (the harness uses a fake
 clock through the proposed hook, else only ±∞ durations); calls are sequential (vcode has no lock — concurrency is not modelled);
 strings are BYTE strings as in Go (`Str` = one `Char` < 256 per byte; no ASCII assumption: `len`, slicing, `%s` and the model all work on bytes); `cache.LRUCache` behaves as
 modelled (exercised with CacheSize 0–4, 8, 16, 17, 64 filled beyond capacity, and 70 000 entries against the closed form `bulk_spec`); int counters do not overflow.

Histories are arbitrary lists of timed `Op`s run with `Nv.final (step c pr)` (each operation carries the clock reading at which it
happens; readings never decrease: `advance`); states are arbitrary unless a hypothesis says otherwise.  Theorems stated on cache keys
(`Op.key c`) hold for *every* configuration; `key_eq_iff_pair` (Proofs) turns a key into the (area, phone) pair for `Proved c` — for
ALL strings (`mkKey_lenPrefix_inj`).  `Proved c` = both key formats length-prefixed, nonce bound = length, comparisons `<` (minimum
interval), `>` (window), `>` (lifetime).  The cache is a bounded LRU: where a theorem needs an entry to survive, it says so with the
decidable hypothesis `noEvict`, which `noEvict_of_few_others` discharges from "fewer operations on other keys than the capacity".
The observers the statements use (`noEvict`, `verifiesOf`, `okSince`, `sendOutsTo`, `winGhost`, `WF`, `Interleave`, `keysDesc`, …) and
the inductions over histories behind the theorems (`track`, `entry_after_send`, `okSince_le`, `winGhost_inv`, `bulk_state`, …) are in
`Nv.Proofs.C19Hist`; the lemmas about one operation in `Nv.Proofs.C19`.
-/
namespace Nv.C19

/-- today's source; `cfgDash` and `cfgOld` are two earlier states of it, on which the witnesses at the end run -/
def cfgFixed : Cfg := ⟨.lenPrefix, .lenPrefix, .len, .lt, .gt, .gt⟩
def cfgDash : Cfg := ⟨.dashJoin, .dashJoin, .len, .lt, .gt, .gt⟩
def cfgOld : Cfg := ⟨.dashJoin, .plain, .lenMinus1, .lt, .gt, .gt⟩

theorem Proved.eq_cfgFixed {c : Cfg} (hc : Proved c) : c = cfgFixed := by
  obtain ⟨sf, vf, nb, mi, wi, tt⟩ := c
  obtain ⟨rfl, rfl, rfl, rfl, rfl, rfl⟩ := hc
  rfl

/-- key level, every configuration whose two key formats agree: a send accepted at clock reading `s.now` (capacity ≥ 1), then any
    timed history that does not send to that key again, does not evict it and makes fewer than `MaxVerifyCount` attempts against
    it, then the clock is read at `t`: the sent code with the returned hash is answered by the lifetime comparison alone —
    `timeout` iff (time of the verify − time of the send) `>` TTL as the source compares, `ok` otherwise -/
theorem vc_send_then_verify_key (c : Cfg) (pr : Params) (hfmt : c.sendKeyFmt = c.verifyKeyFmt)
    (hcap : 0 < pr.cap) (s : State) (a p : Str) (h : Nat)
    (hacc : (send c pr s a p).2.accepted = some h) (ops : List Op)
    (hns : ∀ o ∈ ops, o.isSend = true → o.key c ≠ mkKey c.sendKeyFmt a p)
    (hev : noEvict c pr (mkKey c.sendKeyFmt a p) (send c pr s a p).1 ops = true)
    (hn : (verifiesOf c (mkKey c.sendKeyFmt a p) ops : Int) < pr.maxVerify) (t : Nat) :
    (verify c pr (advance t (final (step c pr) (send c pr s a p).1 ops)) a p (genCode pr p h) h).2 =
      if c.ttlCmp.holds (((advance t (final (step c pr) (send c pr s a p).1 ops)).now : Int) - s.now) pr.ttl
      then .timeout else .ok := by
  obtain ⟨cnt, ct, hl⟩ := entry_after_send hcap hacc hns hev
  rw [verify, ← hfmt, verifyK_some (s := advance t _) hl]
  exact checkVerify_right c pr _ _ hn

/-- **vc_send_then_verify** (pair level, `Proved c`, ALL strings, all clock histories): a code sent to (a, p) at clock reading
    `s.now`, verified with the returned hash at reading `t'` after any timed history that neither sends to (a, p) again, nor evicts
    its entry, nor uses up its attempts, succeeds IFF `t' − s.now ≤ TTL`; otherwise the answer is `timeout` -/
theorem vc_send_then_verify (c : Cfg) (hc : Proved c) (pr : Params) (hcap : 0 < pr.cap)
    (s : State) (a p : Str) (h : Nat) (hacc : (send c pr s a p).2.accepted = some h)
    (ops : List Op) (hns : ∀ o ∈ ops, o.isSend = true → o.pair ≠ (a, p))
    (hev : noEvict c pr (mkKey .lenPrefix a p) (send c pr s a p).1 ops = true)
    (hn : (verifiesOfPair a p ops : Int) < pr.maxVerify) (t : Nat) :
    (verify c pr (advance t (final (step c pr) (send c pr s a p).1 ops)) a p (genCode pr p h) h).2 =
      if ((advance t (final (step c pr) (send c pr s a p).1 ops)).now : Int) - s.now > pr.ttl then .timeout else .ok := by
  have hn' := verifiesOf_eq_pair c hc a p ops ▸ hn
  have hns' := no_send_to_key c hc a p ops hns
  obtain rfl := hc.eq_cfgFixed
  rw [vc_send_then_verify_key cfgFixed pr rfl hcap s a p h hacc ops hns' hev hn' t]
  simp [GtCmp.holds, cfgFixed]

theorem vc_send_then_verify_iff (c : Cfg) (hc : Proved c) (pr : Params) (hcap : 0 < pr.cap)
    (s : State) (a p : Str) (h : Nat) (hacc : (send c pr s a p).2.accepted = some h)
    (ops : List Op) (hns : ∀ o ∈ ops, o.isSend = true → o.pair ≠ (a, p))
    (hev : noEvict c pr (mkKey .lenPrefix a p) (send c pr s a p).1 ops = true)
    (hn : (verifiesOfPair a p ops : Int) < pr.maxVerify) (t : Nat) :
    (verify c pr (advance t (final (step c pr) (send c pr s a p).1 ops)) a p (genCode pr p h) h).2 = .ok ↔
      ((advance t (final (step c pr) (send c pr s a p).1 ops)).now : Int) - s.now ≤ pr.ttl := by
  rw [vc_send_then_verify c hc pr hcap s a p h hacc ops hns hev hn t]
  split
  · rename_i hgt
    exact ⟨nofun, fun hle => absurd hgt (Int.not_lt.2 hle)⟩
  · rename_i hgt
    exact ⟨fun _ => Int.not_lt.1 hgt, fun _ => rfl⟩

/-- the same with the syntactic no-eviction condition: fewer operations on other pairs than the capacity -/
theorem vc_send_then_verify_few_others (c : Cfg) (hc : Proved c) (pr : Params)
    (s : State) (a p : Str) (h : Nat) (hacc : (send c pr s a p).2.accepted = some h)
    (ops : List Op) (hns : ∀ o ∈ ops, o.isSend = true → o.pair ≠ (a, p))
    (hfew : othersOfPair a p ops < pr.cap) (hn : (verifiesOfPair a p ops : Int) < pr.maxVerify) (t : Nat) :
    (verify c pr (advance t (final (step c pr) (send c pr s a p).1 ops)) a p (genCode pr p h) h).2 = .ok ↔
      ((advance t (final (step c pr) (send c pr s a p).1 ops)).now : Int) - s.now ≤ pr.ttl := by
  rw [← othersOf_eq_pair c hc a p ops] at hfew
  apply vc_send_then_verify_iff c hc pr (Nat.zero_lt_of_lt hfew) s a p h hacc ops hns _ hn
  obtain rfl := hc.eq_cfgFixed
  exact noEvict_after_send hacc ops hfew

/-- immediately after the send (the empty history), clock read at `t`: needs only `MaxVerifyCount ≥ 1` and `CacheSize ≥ 1` -/
theorem vc_send_then_verify_now (c : Cfg) (hc : Proved c) (pr : Params)
    (hcap : 0 < pr.cap) (hmax : 1 ≤ pr.maxVerify) (s : State) (a p : Str) (h : Nat)
    (hacc : (send c pr s a p).2.accepted = some h) (t : Nat) :
    (verify c pr (advance t (send c pr s a p).1) a p (genCode pr p h) h).2 = .ok ↔
      ((max s.now t : Nat) : Int) - s.now ≤ pr.ttl := by
  have := vc_send_then_verify_iff c hc pr hcap s a p h hacc [] nofun rfl (Int.lt_of_lt_of_le Int.zero_lt_one hmax) t
  rwa [final_nil, advance_now, send_now] at this

/-- **vc_wrong_rejected** (every state, every clock reading, every configuration): `ok` is returned only if the key is bound to
    exactly this code and this hash, the lifetime comparison (now − setTime against TTL, as the source compares) does not hold and
    this attempt is within the limit — so any other code, any other hash, a missing entry, an expired lifetime or an exhausted
    counter are all rejected -/
theorem vc_wrong_rejected (c : Cfg) (pr : Params) (s : State) (a p : Str) (code : Code) (hash : Nat)
    (hok : (verify c pr s a p code hash).2 = .ok) :
    ∃ e, lookup (mkKey c.verifyKeyFmt a p) s.cache = some e ∧ e.code = code ∧ e.hash = hash ∧
      c.ttlCmp.holds ((s.now : Int) - e.setTime) pr.ttl = false ∧ e.verifyCount + 1 ≤ pr.maxVerify := by
  unfold verify at hok
  cases hl : lookup (mkKey c.verifyKeyFmt a p) s.cache with
  | none => rw [verifyK_none hl] at hok; cases hok
  | some e =>
    rw [verifyK_some hl] at hok
    have := checkVerify_ok_iff.1 hok
    exact ⟨e, rfl, this.2.1, this.2.2.1, this.2.2.2, this.1⟩

/-- **vc_expired_rejected**: once the lifetime comparison holds for the entry of the key (`Proved c`: now − setTime > TTL), no
    code and no hash verifies, whatever the attempt counter -/
theorem vc_expired_rejected (c : Cfg) (pr : Params) (s : State) (a p : Str) (e : Entry)
    (hl : lookup (mkKey c.verifyKeyFmt a p) s.cache = some e)
    (hx : c.ttlCmp.holds ((s.now : Int) - e.setTime) pr.ttl = true)
    (code : Code) (hash : Nat) : (verify c pr s a p code hash).2 ≠ .ok := by
  intro h
  obtain ⟨e', hl', _, _, h4, _⟩ := vc_wrong_rejected c pr s a p code hash h
  rw [hl] at hl'; cases hl'
  rw [hx] at h4; cases h4

/-- … and with the right code, the right hash and attempts left the answer is exactly `timeout` -/
theorem vc_expired_timeout (c : Cfg) (pr : Params) (s : State) (a p : Str) (e : Entry)
    (hl : lookup (mkKey c.verifyKeyFmt a p) s.cache = some e)
    (hx : c.ttlCmp.holds ((s.now : Int) - e.setTime) pr.ttl = true) (hn : e.verifyCount + 1 ≤ pr.maxVerify) :
    (verify c pr s a p e.code e.hash).2 = .timeout := by
  rw [verify, verifyK_some hl]
  exact (checkVerify_right c pr s.now { e with verifyCount := e.verifyCount + 1 } hn).trans (if_pos hx)

theorem wf_reachable (c : Cfg) (pr : Params) (ops : List Op) : WF (final (step c pr) State.init ops) :=
  final_inv (step c pr) WF (fun _ => True) (fun s i h _ => wf_step c pr s i h) ops _ wf_init (fun _ _ => trivial)

/-- **vc_wrong_rejected, other pair** (key level, every configuration, every capacity): the hash returned by an accepted send is,
    after any history whatsoever, never accepted for an operation that addresses another key -/
theorem vc_other_key_rejected (c : Cfg) (pr : Params) (s : State) (hs : WF s) (a p : Str) (h : Nat)
    (hacc : (send c pr s a p).2.accepted = some h) (ops : List Op) (a' p' : Str) (code : Code)
    (hne : mkKey c.verifyKeyFmt a' p' ≠ mkKey c.sendKeyFmt a p) :
    (verify c pr (final (step c pr) (send c pr s a p).1 ops) a' p' code h).2 ≠ .ok := by
  -- the new hash exceeds every stored one, and only the key sent to gets it
  have h0 : WF (send c pr s a p).1 ∧ OnlyAt h (mkKey c.sendKeyFmt a p) (send c pr s a p).1 := by
    obtain ⟨rfl, cnt, ct, hs'⟩ := send_accepted hacc
    rw [hs']
    refine ⟨fun k e hl => ?_, Nat.le_refl _, fun k e hk hl => ?_⟩
    · rcases lookup_setLRU_cases hl with ⟨_, he⟩ | ⟨_, hl'⟩
      · rw [he]; exact Nat.le_refl _
      · exact Nat.le_succ_of_le (hs k e hl')
    · rcases lookup_setLRU_cases hl with ⟨hk', _⟩ | ⟨_, hl'⟩
      · exact absurd hk' hk
      · exact Nat.ne_of_lt (Nat.lt_succ_of_le (hs k e hl'))
  have hfin := final_inv (step c pr) (fun s => WF s ∧ OnlyAt h (mkKey c.sendKeyFmt a p) s) (fun _ => True)
    (fun s i hi _ => onlyAt_step c pr h _ s i hi) ops _ h0 (fun _ _ => trivial)
  intro hok
  obtain ⟨e, hl, _, hh, _, _⟩ := vc_wrong_rejected c pr _ a' p' code h hok
  exact hfin.2.2 _ e hne hl hh

/-- pair level, ALL strings: a hash sent to (a, p) never verifies any other pair -/
theorem vc_other_pair_rejected (c : Cfg) (hc : Proved c) (pr : Params) (s : State) (hs : WF s) (a p : Str) (h : Nat)
    (hacc : (send c pr s a p).2.accepted = some h) (ops : List Op) (a' p' : Str) (code : Code)
    (hne : (a', p') ≠ (a, p)) :
    (verify c pr (final (step c pr) (send c pr s a p).1 ops) a' p' code h).2 ≠ .ok := by
  apply vc_other_key_rejected c pr s hs a p h hacc ops a' p' code
  rw [hc.1, hc.2.1]
  intro hk
  have := mkKey_lenPrefix_inj a' a p' p hk
  exact hne (by rw [this.1, this.2])

/-- an absent key stays absent through any history that does not send to it, so that a verify of it answers `notExist` (`verifyK_none`) -/
theorem vc_nothing_sent_not_exist (c : Cfg) (pr : Params) (k : Str) : ∀ (ops : List Op) (s : State),
    lookup k s.cache = none → (∀ o ∈ ops, o.isSend = true → o.key c ≠ k) →
    lookup k (final (step c pr) s ops).cache = none := by
  intro ops
  induction ops with
  | nil => exact fun _ h _ => h
  | cons o os ih =>
    intro s h hns
    refine ih _ ?_ (fun o' h => hns o' (List.mem_cons_of_mem _ h))
    by_cases hk : o.key c = k
    · subst hk
      rcases step_cases c pr s o with ⟨hs, _⟩ | ⟨_, _, _, hsend, _⟩ | ⟨e, _, _, hl, _⟩
      · rw [hs]; exact h
      · exact absurd rfl (hns o List.mem_cons_self hsend)
      · rw [h] at hl; cases hl
    · exact step_lookup_other_none c pr s o k hk h

/-- **vc_attempts_bounded**, every configuration, every capacity and every history from the empty cache: at any time the
    number of successful verifies against a key since the last accepted send to it is at most `max MaxVerifyCount 0`
    (eviction only deletes the entry; it never lets the count continue) -/
theorem vc_attempts_bounded (c : Cfg) (pr : Params) (k : Str) (ops : List Op) :
    okSince c pr k State.init ops 0 ≤ pr.maxVerify.toNat :=
  okSince_le c pr k ops State.init 0 nofun (Nat.zero_le _)

/-- once the attempt counter has reached the limit every further verify — right code and hash included — is refused -/
theorem vc_limit_rejects_right_code (c : Cfg) (pr : Params) (s : State) (key : Str) (e : Entry)
    (hl : lookup key s.cache = some e) (hfull : pr.maxVerify ≤ e.verifyCount) (code : Code) (hash : Nat) :
    (verifyK c pr s key code hash).2 = .retryLimit := by
  rw [verifyK_some hl]
  exact if_pos (Int.lt_add_one_iff.2 hfull)

/-- **vc_send_resets_attempts**: an accepted send leaves the key with zero attempts and a lifetime starting now, whatever the counter was before
    (so by `vc_send_then_verify_now` the new code verifies even if the old one was exhausted) -/
theorem vc_send_resets_attempts (c : Cfg) (pr : Params) (hcap : 0 < pr.cap) (s : State) (a p : Str) (h : Nat)
    (hacc : (send c pr s a p).2.accepted = some h) :
    ∃ cnt ct, lookup (mkKey c.sendKeyFmt a p) (send c pr s a p).1.cache = some ⟨cnt, 0, genCode pr p h, h, s.now, ct⟩ := by
  obtain ⟨_, cnt, ct, hs⟩ := send_accepted hacc
  exact ⟨cnt + 1, ct, by rw [hs]; exact lookup_setLRU_self hcap⟩

/-- after an accepted send and `MaxVerifyCount` or more attempts (any codes, any hashes, any interleaving with other keys
    that does not evict the entry), even the right code with the right hash is refused with `retryLimit` -/
theorem vc_attempts_exhausted (c : Cfg) (pr : Params) (hfmt : c.sendKeyFmt = c.verifyKeyFmt) (hcap : 0 < pr.cap)
    (s : State) (a p : Str) (h : Nat) (hacc : (send c pr s a p).2.accepted = some h) (ops : List Op)
    (hns : ∀ o ∈ ops, o.isSend = true → o.key c ≠ mkKey c.sendKeyFmt a p)
    (hev : noEvict c pr (mkKey c.sendKeyFmt a p) (send c pr s a p).1 ops = true)
    (hn : pr.maxVerify ≤ (verifiesOf c (mkKey c.sendKeyFmt a p) ops : Int)) (t : Nat) :
    (verify c pr (advance t (final (step c pr) (send c pr s a p).1 ops)) a p (genCode pr p h) h).2 = .retryLimit := by
  obtain ⟨cnt, ct, hl⟩ := entry_after_send hcap hacc hns hev
  rw [verify, ← hfmt]
  exact vc_limit_rejects_right_code c pr (advance t _) _ _ hl hn _ _

/-- **one send, minimum interval** (every configuration, every state): a send to a key whose entry was set at `e.setTime` is
    refused as too frequent IFF the comparison of `now − e.setTime` with MinInterval holds (`Proved c`: `<`) -/
theorem vc_too_frequent_iff (c : Cfg) (pr : Params) (s : State) (key ph : Str) (e : Entry)
    (hl : lookup key s.cache = some e) :
    (sendK c pr s key ph).2 = .tooFreq ↔ c.minIntervalCmp.holds ((s.now : Int) - e.setTime) pr.minInterval = true := by
  rw [sendK_tooFreq_iff, hl, tooSoon]

/-- the first send to a key (zero `setTime`) is never too frequent -/
theorem vc_first_send_not_too_frequent (c : Cfg) (pr : Params) (s : State) (key ph : Str)
    (hl : lookup key s.cache = none) : (sendK c pr s key ph).2 ≠ .tooFreq := by
  rw [Ne, sendK_tooFreq_iff, hl]
  nofun

/-- key level, every configuration: a send accepted at clock reading `s.now`, any timed history without another send to the key
    and without eviction, then a send at reading `t'`: it is refused as too frequent IFF the comparison of `t' − s.now` with
    MinInterval holds -/
theorem vc_send_limits_min_interval_key (c : Cfg) (pr : Params) (hcap : 0 < pr.cap) (s : State) (a p : Str) (h : Nat)
    (hacc : (send c pr s a p).2.accepted = some h) (ops : List Op)
    (hns : ∀ o ∈ ops, o.isSend = true → o.key c ≠ mkKey c.sendKeyFmt a p)
    (hev : noEvict c pr (mkKey c.sendKeyFmt a p) (send c pr s a p).1 ops = true) (t : Nat) :
    (send c pr (advance t (final (step c pr) (send c pr s a p).1 ops)) a p).2 = .tooFreq ↔
      c.minIntervalCmp.holds (((advance t (final (step c pr) (send c pr s a p).1 ops)).now : Int) - s.now) pr.minInterval = true := by
  obtain ⟨cnt, ct, hl⟩ := entry_after_send hcap hacc hns hev
  exact vc_too_frequent_iff c pr (advance t _) _ _ _ hl

/-- **vc_send_limits (minimum interval)**, pair level, `Proved c`, all strings, all clock histories: after a send to (a, p)
    accepted at reading `s.now`, a send to the same pair at reading `t'` is refused as too frequent IFF `t' − s.now < MinInterval` -/
theorem vc_send_limits_min_interval (c : Cfg) (hc : Proved c) (pr : Params) (hcap : 0 < pr.cap) (s : State) (a p : Str) (h : Nat)
    (hacc : (send c pr s a p).2.accepted = some h) (ops : List Op)
    (hns : ∀ o ∈ ops, o.isSend = true → o.pair ≠ (a, p))
    (hev : noEvict c pr (mkKey .lenPrefix a p) (send c pr s a p).1 ops = true) (t : Nat) :
    (send c pr (advance t (final (step c pr) (send c pr s a p).1 ops)) a p).2 = .tooFreq ↔
      ((advance t (final (step c pr) (send c pr s a p).1 ops)).now : Int) - s.now < pr.minInterval := by
  have hns' := no_send_to_key c hc a p ops hns
  obtain rfl := hc.eq_cfgFixed
  rw [vc_send_limits_min_interval_key cfgFixed pr hcap s a p h hacc ops hns' hev t]
  exact decide_eq_true_iff

/-- while the entry of `k` (set at reading `T`) is not evicted and every clock reading stays inside the minimum interval, every send to `k`
    is refused as too frequent — whatever else happens in between -/
theorem resends_refused (c : Cfg) (pr : Params) (k : Str) (T : Nat) (ops : List Op) : ∀ (s : State),
    (∃ e, lookup k s.cache = some e ∧ e.setTime = T) →
    c.minIntervalCmp.holds ((s.now : Int) - T) pr.minInterval = true →
    (∀ o ∈ ops, c.minIntervalCmp.holds ((o.time : Int) - T) pr.minInterval = true) →
    noEvict c pr k s ops = true → ∀ x ∈ sendOutsTo c pr k s ops, x = .tooFreq := by
  induction ops with
  | nil => exact fun _ _ _ _ _ _ => nofun
  | cons o os ih =>
    intro s ⟨e, hl, hT⟩ hnow htimes hev x hx
    obtain ⟨hp, hev'⟩ := (noEvict_cons c pr k s o os).1 hev
    -- the reading of this operation is `s.now` or `o.time`, both inside the interval
    have hnow' : c.minIntervalCmp.holds (((max s.now o.time : Nat) : Int) - T) pr.minInterval = true := by
      rcases Nat.le_total s.now o.time with h | h
      · rw [Nat.max_eq_right h]; exact htimes o List.mem_cons_self
      · rw [Nat.max_eq_left h]; exact hnow
    rw [sendOutsTo, List.mem_append] at hx
    rcases hx with hx | hx
    · obtain ⟨hk, hout⟩ := mem_sendOut c pr k s o x hx
      subst hk
      exact step_tooFreq c pr s o e x hl (hT ▸ hnow') hout
    · -- the rest: the entry is still there, with the same `setTime`
      refine ih _ ?_ (by rw [step_now]; exact hnow') (fun o' h => htimes o' (List.mem_cons_of_mem _ h)) hev' x hx
      by_cases hk : o.key c = k
      · subst hk
        rcases step_cases c pr s o with ⟨hs, _⟩ | ⟨cnt, ct, _, _, _, hchk, _⟩ | ⟨e0, _, _, hl0, _, hs⟩
        · exact ⟨e, by rw [hs]; exact hl, hT⟩
        · rw [hl] at hchk
          have := (checkSend_ok hchk).1
          rw [tooSoon, hT, hnow'] at this
          cases this
        · rw [hl] at hl0
          cases hl0
          exact ⟨{ e with verifyCount := e.verifyCount + 1 }, by rw [hs]; exact lookup_touch_self _ _ _, hT⟩
      · exact ⟨e, by rw [step_lookup_kept c pr s o k hk hp]; exact hl, hT⟩

theorem Interleave.mem {α : Type} {as bs cs : List α} (h : Interleave as bs cs) : ∀ x ∈ cs, x ∈ as ∨ x ∈ bs := by
  induction h with
  | nil => exact fun _ h => Or.inl h
  | left _ ih =>
    intro x hx
    rcases List.mem_cons.1 hx with hx | hx
    · exact Or.inl (hx ▸ List.mem_cons_self)
    · exact (ih x hx).imp_left (List.mem_cons_of_mem _)
  | right _ ih =>
    intro x hx
    rcases List.mem_cons.1 hx with hx | hx
    · exact Or.inr (hx ▸ List.mem_cons_self)
    · exact (ih x hx).imp_right (List.mem_cons_of_mem _)

/-- **vc_resend_refused_any_interleaving** (`Proved c`, all strings): a code is sent to (a, p) and accepted at clock reading `s.now`, with
    MinInterval > 0. One caller then re-sends to (a, p) any number of times while other callers do anything at all (sends and verifies on
    other pairs, verifies of this pair; further sends to this pair are refused like the re-sends) — fewer than CacheSize operations, every clock reading still inside the minimum interval (e.g. all at the same reading).
    In EVERY sequential interleaving `merged` of the two operation lists, every one of the re-sends is refused as too frequent.
    (This is what a run with truly parallel callers must linearise to; the harness's `race` line checks it on one instance.) -/
theorem vc_resend_refused_any_interleaving (c : Cfg) (hc : Proved c) (pr : Params)
    (s : State) (a p : Str) (h : Nat) (hacc : (send c pr s a p).2.accepted = some h)
    (resends others merged : List Op) (hm : Interleave resends others merged)
    (hres : ∀ o ∈ resends, ∃ t, o = .send t a p)
    (hfew : others.length < pr.cap)
    (htime : ∀ o ∈ merged, ((o.time : Int) - s.now < pr.minInterval)) (hmin : 0 < pr.minInterval) :
    ∀ x ∈ sendOutsTo c pr (mkKey .lenPrefix a p) (send c pr s a p).1 merged, x = .tooFreq := by
  obtain rfl := hc.eq_cfgFixed
  obtain ⟨cnt, ct, hl⟩ := vc_send_resets_attempts cfgFixed pr (Nat.zero_lt_of_lt hfew) s a p h hacc
  have hkeys : ∀ o ∈ resends, o.key cfgFixed = mkKey .lenPrefix a p := by
    intro o ho
    obtain ⟨t, rfl⟩ := hres o ho
    rfl
  apply resends_refused cfgFixed pr (mkKey .lenPrefix a p) s.now merged (send cfgFixed pr s a p).1 ⟨_, hl, rfl⟩
  · rw [send_now, Int.sub_self]
    exact decide_eq_true hmin
  · exact fun o ho => decide_eq_true (htime o ho)
  · exact noEvict_after_send hacc merged
      (Nat.lt_of_le_of_lt (othersOf_interleave cfgFixed _ hm hkeys) hfew)

/-- **vc_send_limits (count per window)**, every configuration, all clock histories from the empty cache without eviction of the key
    (capacity ≥ 1): at any time the number of accepted sends in the current window of a key — windows starting at an accepted send,
    a new one when (time − window start) `>` CounterDuration as the source compares — is at most `max (MaxCount + 1) 1`
    (the bound the code implements, `sendCount > MaxCount`; see the observation in docs/C19.md) -/
theorem vc_send_limits_count (c : Cfg) (pr : Params) (hcap : 0 < pr.cap) (k : Str) (ops : List Op)
    (hev : noEvict c pr k State.init ops = true) :
    ghostBound pr (winGhost c pr k State.init ops none) :=
  winGhost_inv c pr hcap k ops State.init none rfl hev

/-- one send, count limit: not too frequent, window not over ⇒ refused with `countLimit` IFF the counter already exceeds MaxCount -/
theorem vc_count_limit_iff (c : Cfg) (pr : Params) (s : State) (key ph : Str) (e : Entry)
    (hl : lookup key s.cache = some e)
    (hmin : c.minIntervalCmp.holds ((s.now : Int) - e.setTime) pr.minInterval = false)
    (hwin : c.windowCmp.holds ((s.now : Int) - e.counterTime) pr.window = false) :
    (sendK c pr s key ph).2 = .countLimit ↔ e.sendCount > pr.maxCount := by
  have hmin' : tooSoon c pr s.now (lookup key s.cache) = false := by rw [hl]; exact hmin
  have hwin' : c.windowCmp.holds (winElapsed s.now (lookup key s.cache)) pr.window = false := by rw [hl]; exact hwin
  by_cases h : e.sendCount > pr.maxCount
  · rw [sendK_error ph (checkSend_limit c pr _ _ hmin' hwin' (by rw [hl]; exact h))]
    exact ⟨fun _ => h, fun _ => rfl⟩
  · refine ⟨fun h' => ?_, fun h' => absurd h' h⟩
    rcases sendK_ok_result ph (checkSend_pass c pr _ _ hmin' hwin' (by rw [hl]; exact Int.not_lt.1 h))
      with h1 | h1 <;> rw [h'] at h1 <;> cases h1

/-- one send, window over: (time − window start) compares `>` CounterDuration ⇒ the send is not refused by the count limit and, if
    accepted, starts a new window now with count 1 -/
theorem vc_window_refresh (c : Cfg) (pr : Params) (hcap : 0 < pr.cap) (s : State) (key ph : Str) (e : Entry)
    (hl : lookup key s.cache = some e)
    (hmin : c.minIntervalCmp.holds ((s.now : Int) - e.setTime) pr.minInterval = false)
    (hwin : c.windowCmp.holds ((s.now : Int) - e.counterTime) pr.window = true) :
    (sendK c pr s key ph).2 ≠ .countLimit ∧
    ∀ h, (sendK c pr s key ph).2.accepted = some h →
      lookup key (sendK c pr s key ph).1.cache = some ⟨1, 0, genCode pr ph h, h, s.now, s.now⟩ := by
  have hchk : checkSend c pr s.now (lookup key s.cache) = .ok (0, s.now) :=
    checkSend_refresh c pr _ _ (by rw [hl]; exact hmin) (by rw [hl]; exact hwin)
  constructor
  · intro h'
    rcases sendK_ok_result ph hchk with h1 | h1 <;> rw [h'] at h1 <;> cases h1
  · intro h hh
    rcases sendK_cases c pr s key ph with ⟨h1, _⟩ | ⟨cnt, ct, h1, h2, h3⟩ <;> rw [h1] at hh <;> cases hh
    rw [hchk] at h3
    cases h3
    rw [h2]
    exact lookup_setLRU_self hcap

/-- **vc_code_length** (mock mode, configured length ≥ 0): the code has exactly `CodeLen` characters -/
theorem vc_code_length (pr : Params) (hm : pr.mock = true) (hlen : 0 ≤ pr.codeLen) (phone : Str) (k : Nat) :
    ∃ t, genCode pr phone k = .lit t ∧ (t.length : Int) = pr.codeLen :=
  ⟨mockCode phone pr.codeLen.toNat, by rw [genCode, if_pos hm], by rw [mockCode_length]; exact Int.toNat_of_nonneg hlen⟩

theorem genNonce_length {b : NonceBound} {base : Str} {len : Nat} {vals : List Nat} {out : Str}
    (h : genNonce b base len vals = some out) : out.length = len := by
  by_cases hlen : len = 0
  · rw [genNonce, if_pos hlen] at h
    cases h
    exact hlen.symm
  · rw [genNonce_pos b base len vals hlen] at h
    split at h
    · cases h
    · cases h; exact nonceLoop_length _ _ _ _

theorem genNonce_some (b : NonceBound) (base : Str) (len : Nat) (vals : List Nat) (hpos : 0 < boundOf b base.length) :
    ∃ out, genNonce b base len vals = some out := by
  by_cases hlen : len = 0
  · exact ⟨[], by rw [genNonce, if_pos hlen]⟩
  · exact ⟨_, by rw [genNonce_pos b base len vals hlen, if_neg (Int.not_le.2 hpos)]⟩

theorem genNonce_mem {b : NonceBound} {base : Str} {len : Nat} {vals : List Nat} {out : Str}
    (h : genNonce b base len vals = some out) : ∀ x ∈ out, x ∈ reachable b base ∧ x ∈ base := by
  by_cases hlen : len = 0
  · rw [genNonce, if_pos hlen] at h
    cases h
    exact nofun
  · rw [genNonce_pos b base len vals hlen] at h
    by_cases hpos : boundOf b base.length ≤ 0
    · rw [if_pos hpos] at h
      cases h
    · rw [if_neg hpos] at h
      cases h
      intro x hx
      have := nonceLoop_mem base (boundOf b base.length).toNat (Int.lt_toNat.2 (Int.not_le.1 hpos))
        (Int.toNat_le.2 (boundOf_le b _)) x len vals hx
      exact ⟨this, List.mem_of_mem_take this⟩

/-- **vc_code_length** (real-sender mode, configured length ≥ 0, `Proved c`): whatever the random source returns, the
    code generated at send `k` is `genNonce .len "0123456789" CodeLen (rnd k)`: it exists (no panic), has exactly `CodeLen`
    characters, all of them decimal digits -/
theorem vc_code_length_real (c : Cfg) (hc : Proved c) (pr : Params) (hm : pr.mock = false) (hlen : 0 ≤ pr.codeLen)
    (rnd : Nat → List Nat) (phone : Str) (k : Nat) :
    ∃ t, (genCode pr phone k).text c.nonceBound pr rnd = some t ∧ (t.length : Int) = pr.codeLen ∧ ∀ x ∈ t, x ∈ digits := by
  rw [hc.2.2.1, genCode, if_neg (by rw [hm]; nofun)]
  by_cases h0 : pr.codeLen ≤ 0
  · rw [if_pos h0]
    exact ⟨[], rfl, Int.le_antisymm hlen h0, nofun⟩
  · rw [if_neg h0]
    obtain ⟨out, ho⟩ := genNonce_some .len digits pr.codeLen.toNat (rnd k) (Int.natCast_pos.2 (by decide))
    refine ⟨out, ho, ?_, fun x hx => (genNonce_mem ho x hx).2⟩
    rw [genNonce_length ho, Int.toNat_of_nonneg hlen]

/-- the characters the oracle prints for a `sample` line are exactly those some random source can produce -/
theorem reachable_iff (b : NonceBound) (base : Str) (x : Char) (hpos : 0 < boundOf b base.length) :
    x ∈ reachable b base ↔ ∃ v, genNonce b base 1 [v] = some [x] := by
  constructor
  · intro h
    obtain ⟨i, hi, hx⟩ := List.mem_take_iff_getElem.1 h
    refine ⟨i, ?_⟩
    rw [genNonce_one b base i hpos, Nat.mod_eq_of_lt (Nat.lt_of_lt_of_le hi (Nat.min_le_left _ _)),
      getD_of_lt base i (Nat.lt_of_lt_of_le hi (Nat.min_le_right _ _)), hx]
  · rintro ⟨v, hv⟩
    exact (genNonce_mem hv x List.mem_cons_self).1

/-- **nonce_alphabet_surjective** (`nonceBound = len`): for every position of the alphabet there is a random source that makes
    `genNonceStr` return exactly that character -/
theorem nonce_alphabet_surjective (base : Str) (i : Nat) (hi : i < base.length) :
    genNonce .len base 1 [i] = some [base[i]] := by
  rw [genNonce_one .len base i (Int.natCast_pos.2 (Nat.zero_lt_of_lt hi)), ← getD_of_lt base i hi]
  exact congrArg (fun j => some [base.getD j ' ']) (Nat.mod_eq_of_lt hi)

theorem nonce_alphabet_surjective' (c : Cfg) (hc : Proved c) (base : Str) (x : Char) (hx : x ∈ base) :
    ∃ vals, genNonce c.nonceBound base 1 vals = some [x] := by
  obtain ⟨i, hi, rfl⟩ := List.getElem_of_mem hx
  exact ⟨[i], by rw [hc.2.2.1]; exact nonce_alphabet_surjective base i hi⟩

/-- with the bound `fn(bSize - 1)` the last character of a duplicate-free alphabet is never produced -/
theorem nonce_lenMinus1_never_last (base : Str) (hnd : base.Nodup) (len : Nat) (vals : List Nat) (out : Str)
    (h : genNonce .lenMinus1 base len vals = some out) (x : Char) (hlast : base.getLast? = some x) : x ∉ out := by
  intro hx
  -- the alphabet is `ys ++ [x]`, and the characters below the bound are exactly `ys`
  obtain ⟨ys, rfl⟩ := List.getLast?_eq_some_iff.1 hlast
  have hr := (genNonce_mem h x hx).1
  have : reachable .lenMinus1 (ys ++ [x]) = ys := by
    rw [reachable, boundOf, List.length_append, List.length_singleton]
    show List.take ((ys.length : Int) + 1 - 1).toNat _ = _
    rw [Int.add_sub_cancel]
    exact List.take_left' rfl
  rw [this] at hr
  exact (List.nodup_append.1 hnd).2.2 x hr x List.mem_cons_self rfl

theorem not_mem_of_lookup_none : ∀ (c : Cache) (k : Str), lookup k c = none → k ∉ keysOf c :=
  fun c k => (lookup_eq_none_iff k c).1

/-- **after n sends to distinct generated pairs the cache holds exactly the `cap` most recent ones, most recent first** -/
theorem bulk_keys (c : Cfg) (hc : Proved c) (cap : Nat) : ∀ (cnt m : Nat) (s : State),
    keysOf s.cache = (keysDesc c m).take cap → s.nsent = m →
    keysOf (final (step c (bulkParams cap)) s (bulkSends m cnt)).cache = (keysDesc c (m + cnt)).take cap ∧
      (final (step c (bulkParams cap)) s (bulkSends m cnt)).nsent = m + cnt :=
  fun cnt m s hk hn => ⟨(bulk_state c hc cap cnt m s hk hn).1, (bulk_state c hc cap cnt m s hk hn).2.1⟩

/-- **bulk_spec**: for a proved configuration the closed form the oracle prints for a `bulk <cap> <n> <k>` line IS the result of running the
    model — n sends to distinct generated pairs from the empty cache, then pair k verified with its code and hash, then re-sent: pair k is still
    cached (verify ok, re-send too frequent) iff k < n and fewer than `cap` sends followed it; otherwise it is gone (not exist, re-send accepted) -/
theorem bulk_spec (c : Cfg) (hc : Proved c) (cap n k : Nat) : bulkRun c cap n k = bulkClosed cap n k := by
  obtain rfl := hc.eq_cfgFixed
  simp only [bulkRun, bulkClosed]
  obtain ⟨hkeys, hsent, hnow, hent⟩ := bulk_state cfgFixed hc cap n 0 State.init List.take_nil.symm rfl
  rw [Nat.zero_add] at hkeys hsent
  generalize final (step cfgFixed (bulkParams cap)) State.init (bulkSends 0 n) = S at hkeys hsent hnow hent ⊢
  have hmem : (k < n ∧ n - 1 - k < cap) ↔ bulkKey cfgFixed k ∈ keysOf S.cache := by
    rw [hkeys, mem_take_keysDesc cfgFixed hc]
    omega
  cases hl : lookup (bulkKey cfgFixed k) S.cache with
  | none =>
    rw [if_neg (fun hs => (lookup_eq_none_iff _ _).1 hl (hmem.1 hs)),
      verify, verifyK_none (key := mkKey cfgFixed.verifyKeyFmt bulkArea (bulkPhone k)) hl,
      (bulk_send_fresh cfgFixed cap S k hl).1, hsent]
  | some e =>
    -- pair k is still cached: the verify finds the entry of its send, one attempt, age 0; the re-send finds it set at the same reading
    have he : e = ⟨1, 0, genCode (bulkParams cap) (bulkPhone k) (k + 1), k + 1, 0, 0⟩ :=
      (hent k e hl).resolve_right (fun h => nomatch h)
    rw [if_pos (hmem.2 (Decidable.of_not_not fun h => nomatch hl.symm.trans ((lookup_eq_none_iff _ _).2 h))), verify,
      verifyK_some (key := mkKey cfgFixed.verifyKeyFmt bulkArea (bulkPhone k)) hl, send,
      (vc_too_frequent_iff cfgFixed (bulkParams cap) _ _ (bulkPhone k) _ (lookup_touch_self _ _ _)).2 (by rw [hnow, he]; rfl),
      checkVerify_ok_iff.2 ⟨by rw [he]; exact (show (0 : Int) + 1 ≤ 3 by decide), by rw [he], by rw [he], by rw [hnow, he]; rfl⟩]

/-! ### non-vacuity: concrete non-trivial instances of the hypotheses

The runs of the model below are evaluated by the kernel alone (`decide +kernel`): the elaborator's own evaluation of such a run
is several times slower and adds nothing. -/

/-- CacheSize 1000, real sender, 6 digits, MaxCount 1, MaxVerifyCount 2, TTL 300 000 ms, MinInterval 0, window 10^9 ms -/
def prStd : Params := ⟨1000, false, 6, 1, 2, 300000, 0, 1000000000, false⟩
def prMock : Params := ⟨1000, true, 2, 1, 2, 300000, 0, 1000000000, false⟩
/-- TTL 5 ms, MinInterval 3 ms, window 10 ms, MaxCount 1 -/
def prTimed : Params := ⟨1000, false, 6, 1, 5, 5, 3, 10, false⟩

example : Proved cfgFixed := by decide
example : ¬ Proved cfgDash := by decide
example : ¬ Proved cfgOld := by decide

example : mkKey .lenPrefix ['1','-','2'] ['3'] = ['3',':','1','-','2','3'] ∧
    mkKey .lenPrefix ['1'] ['2','-','3'] = ['1',':','1','2','-','3'] ∧ mkKey .lenPrefix [] [] = ['0',':'] := by decide +kernel
example : dec 1234567890123 = "1234567890123".toList := by decide +kernel

/-- byte strings: "é" is the two bytes C3 A9. The pairs ("é","5") and ("\xc3","\xa95") are distinct and get distinct keys (a length prefix
    counting characters instead of bytes would give both `1:é5`); `mkKey_lenPrefix_inj` / `vc_other_pair_rejected` cover them like any strings -/
def bC3 : Char := Char.ofNat 0xC3
def bA9 : Char := Char.ofNat 0xA9
example : mkKey .lenPrefix [bC3, bA9] ['5'] = ['2', ':', bC3, bA9, '5'] ∧ mkKey .lenPrefix [bC3] [bA9, '5'] = ['1', ':', bC3, bA9, '5'] ∧
    mkKey .lenPrefix [bC3, bA9] ['5'] ≠ mkKey .lenPrefix [bC3] [bA9, '5'] := by decide +kernel
example : (outs (step cfgFixed { prMock with codeLen := 1 }) State.init
    [.send 0 [bC3, bA9] ['5'], .verify 0 [bC3] [bA9, '5'] (.lit ['5']) 1, .verify 0 [bC3, bA9] ['5'] (.lit ['5']) 1]) =
    [.send (.ok 1), .verify .notExist, .verify .ok] := by decide +kernel
/-- a mock code is the last CodeLen BYTES of the phone: it may start inside a multi-byte character -/
example : mockCode ['7', bC3, bA9] 1 = [bA9] ∧ mockCode [bC3, bA9] 3 = ['0', bC3, bA9] := by decide +kernel

/-- `bulk_spec` instances (run on the model by `decide`): capacity 3, 5 sends — pairs 2, 3, 4 survive, pairs 0 and 1 are gone -/
example : bulkRun cfgFixed 3 5 2 = (.ok, .tooFreq) ∧ bulkRun cfgFixed 3 5 1 = (.notExist, .ok 6) ∧ bulkRun cfgFixed 3 5 7 = (.notExist, .ok 6) := by decide +kernel
example : bulkClosed 100000 70000 0 = (.ok, .tooFreq) ∧ bulkClosed 65536 70000 0 = (.notExist, .ok 70001) := by decide +kernel

/-- `vc_send_then_verify`: after a send to ("1-2","3"), a wrong guess, and traffic on ("1","2-3") — the pair that shares the
    dashed key — the code still verifies and the other pair is refused; hypotheses hold (one attempt < 2, 2 others < 1000) -/
example : (outs (step cfgFixed prStd) State.init
    [.send 0 ['1','-','2'] ['3'], .verify 10 ['1','-','2'] ['3'] (.lit ['x']) 1, .send 20 ['1'] ['2','-','3'],
     .verify 30 ['1'] ['2','-','3'] (.sym 1) 1, .verify 300000 ['1','-','2'] ['3'] (.sym 1) 1]) =
    [.send (.ok 1), .verify .notMatch, .send (.ok 2), .verify .notMatch, .verify .ok] := by decide +kernel

example : noEvict cfgFixed prStd (mkKey .lenPrefix ['1','-','2'] ['3'])
    (send cfgFixed prStd State.init ['1','-','2'] ['3']).1
    [.verify 10 ['1','-','2'] ['3'] (.lit ['x']) 1, .send 20 ['1'] ['2','-','3'], .verify 30 ['1'] ['2','-','3'] (.sym 1) 1] = true := by
  decide +kernel

/-- the lifetime boundary (TTL 5 ms, sent at 100): verified at 104 and at 105 ⇒ ok, at 106 ⇒ timeout; a reading that goes back is ignored -/
example : (outs (step cfgFixed prTimed) State.init
    [.send 100 ['1'] ['2'], .verify 104 ['1'] ['2'] (.sym 1) 1, .verify 105 ['1'] ['2'] (.sym 1) 1,
     .verify 106 ['1'] ['2'] (.sym 1) 1, .verify 50 ['1'] ['2'] (.sym 1) 1]) =
    [.send (.ok 1), .verify .ok, .verify .ok, .verify .timeout, .verify .timeout] := by decide +kernel

/-- the minimum-interval boundary (3 ms, sent at 100): a send at 102 is too frequent, at 103 it is accepted; the first send never is -/
example : (outs (step cfgFixed prTimed) State.init
    [.send 100 ['1'] ['2'], .send 102 ['1'] ['2'], .send 103 ['1'] ['2']]) =
    [.send (.ok 1), .send .tooFreq, .send (.ok 2)] := by decide +kernel

/-- the window boundary (10 ms, MaxCount 1, window starts at 100): sends at 100 and 104 fill it, 110 is still inside (refused),
    111 starts a new window -/
example : (outs (step cfgFixed prTimed) State.init
    [.send 100 ['1'] ['2'], .send 104 ['1'] ['2'], .send 110 ['1'] ['2'], .send 111 ['1'] ['2'], .send 115 ['1'] ['2'],
     .send 119 ['1'] ['2']]) =
    [.send (.ok 1), .send (.ok 2), .send .countLimit, .send (.ok 3), .send (.ok 4), .send .countLimit] := by decide +kernel

example : winGhost cfgFixed prTimed (mkKey .lenPrefix ['1'] ['2']) State.init
    [.send 100 ['1'] ['2'], .send 104 ['1'] ['2'], .send 110 ['1'] ['2'], .send 111 ['1'] ['2'], .send 115 ['1'] ['2']] none =
    some (111, 2) := by decide +kernel

/-- `vc_resend_refused_any_interleaving`: two interleavings of the re-sends [r, r] with another caller's [send B, verify A wrong] — both re-sends refused -/
example : sendOutsTo cfgFixed { prStd with minInterval := 1000 } (mkKey .lenPrefix ['1'] ['2']) (send cfgFixed { prStd with minInterval := 1000 } State.init ['1'] ['2']).1
    [.send 0 ['1'] ['2'], .send 0 ['1'] ['3'], .send 0 ['1'] ['2'], .verify 0 ['1'] ['2'] (.lit ['x']) 1] = [.tooFreq, .tooFreq] ∧
  sendOutsTo cfgFixed { prStd with minInterval := 1000 } (mkKey .lenPrefix ['1'] ['2']) (send cfgFixed { prStd with minInterval := 1000 } State.init ['1'] ['2']).1
    [.send 0 ['1'] ['3'], .verify 0 ['1'] ['2'] (.lit ['x']) 1, .send 0 ['1'] ['2'], .send 0 ['1'] ['2']] = [.tooFreq, .tooFreq] := by decide +kernel
example : Interleave [1, 2] [10, 20] [1, 10, 2, 20] := .left (.right (.left (.right .nil)))

/-- `vc_attempts_bounded` / `vc_attempts_exhausted`: MaxVerifyCount = 2 — two wrong guesses, then the right code is refused;
    `vc_send_resets_attempts`: a new send makes the new code verify -/
example : (outs (step cfgFixed prStd) State.init
    [.send 0 ['1'] ['2','3'], .verify 1 ['1'] ['2','3'] (.lit ['x']) 1, .verify 2 ['1'] ['2','3'] (.lit ['x']) 1,
     .verify 3 ['1'] ['2','3'] (.sym 1) 1, .send 4 ['1'] ['2','3'], .verify 5 ['1'] ['2','3'] (.sym 2) 2]) =
    [.send (.ok 1), .verify .notMatch, .verify .notMatch, .verify .retryLimit, .send (.ok 2), .verify .ok] := by decide +kernel

/-- MaxCount = 1 admits two sends per window, the third is refused -/
example : (outs (step cfgFixed prStd) State.init [.send 0 [] ['5'], .send 0 [] ['5'], .send 0 [] ['5']]) =
    [.send (.ok 1), .send (.ok 2), .send .countLimit] := by decide +kernel

/-- mock code: last two characters / left padding; a failing sender still stores the code and returns the hash;
    a negative CodeLen: empty code with the real sender, panic in mock mode -/
example : mockCode ['5','5','5','1','2'] 2 = ['1','2'] ∧ mockCode ['7'] 3 = ['0','0','7'] := by decide +kernel
example : (outs (step cfgFixed { prStd with smsFails := true }) State.init
    [.send 0 ['1'] ['2','3'], .verify 0 ['1'] ['2','3'] (.sym 1) 1]) = [.send (.smsFail 1), .verify .ok] := by decide +kernel
example : (outs (step cfgFixed { prStd with codeLen := -1 }) State.init
    [.send 0 ['1'] ['2','3'], .verify 0 ['1'] ['2','3'] (.lit []) 1]) = [.send (.ok 1), .verify .ok] := by decide +kernel
example : (outs (step cfgFixed { prMock with codeLen := -1 }) State.init [.send 0 ['1'] ['2','3']]) = [.send .panic] := by decide +kernel

example : genNonce .len ['a','b','c'] 3 [2, 5, 0] = some ['c','c','a'] := by decide +kernel
example : (Code.sym 1).text .len prStd (fun _ => [9, 19, 0, 5, 3, 7]) = some ['9','9','0','5','3','7'] := by decide +kernel
example : WF (final (step cfgFixed prStd) State.init [.send 0 ['1'] ['2','3']]) := wf_reachable _ _ _

/-- FIXED (cacheKey) — format `"%s-%s"` in both methods: ("1-2","3") and ("1","2-3") share the key `1-2-3`; the code
    sent to one pair is accepted for the other, to which nothing was sent -/
theorem witness_dashJoin_collision :
    mkKey .dashJoin ['1','-','2'] ['3'] = mkKey .dashJoin ['1'] ['2','-','3'] ∧
    (outs (step cfgDash { prMock with codeLen := 1 }) State.init
      [.send 0 ['1','-','2'] ['3'], .verify 0 ['1'] ['2','-','3'] (.lit ['3']) 1]) = [.send (.ok 1), .verify .ok] := by decide +kernel

theorem not_other_pair_rejected_dashJoin :
    ¬ (∀ (a p a' p' : Str) (code : Code), (a', p') ≠ (a, p) →
        (verify cfgDash { prMock with codeLen := 1 } (send cfgDash { prMock with codeLen := 1 } State.init a p).1 a' p' code 1).2 ≠ .ok) := by
  intro h
  exact h ['1','-','2'] ['3'] ['1'] ['2','-','3'] (.lit ['3']) (by decide +kernel) (by decide +kernel)

/-- `<=` instead of `<` in the minimum-interval test differs exactly at the boundary: a send exactly MinInterval (3 ms) after the
    previous one is refused, although it is not closer than the interval -/
theorem witness_minInterval_le :
    (outs (step { cfgFixed with minIntervalCmp := .le } prTimed) State.init [.send 100 ['1'] ['2'], .send 103 ['1'] ['2']]) =
      [.send (.ok 1), .send .tooFreq] ∧
    (outs (step cfgFixed prTimed) State.init [.send 100 ['1'] ['2'], .send 103 ['1'] ['2']]) = [.send (.ok 1), .send (.ok 2)] := by decide +kernel

/-- `>=` instead of `>` in the lifetime test: a verify exactly TTL (5 ms) after the send times out, although the lifetime is not over -/
theorem witness_ttl_ge :
    (outs (step { cfgFixed with ttlCmp := .ge } prTimed) State.init [.send 100 ['1'] ['2'], .verify 105 ['1'] ['2'] (.sym 1) 1]) =
      [.send (.ok 1), .verify .timeout] ∧
    (outs (step cfgFixed prTimed) State.init [.send 100 ['1'] ['2'], .verify 105 ['1'] ['2'] (.sym 1) 1]) =
      [.send (.ok 1), .verify .ok] := by decide +kernel

/-- `>=` instead of `>` in the window test: a send exactly CounterDuration (10 ms) after the window start opens a new window, so a
    third send is accepted where the window as coded still refuses it -/
theorem witness_window_ge :
    (outs (step { cfgFixed with windowCmp := .ge } prTimed) State.init
      [.send 100 ['1'] ['2'], .send 104 ['1'] ['2'], .send 110 ['1'] ['2']]) = [.send (.ok 1), .send (.ok 2), .send (.ok 3)] ∧
    (outs (step cfgFixed prTimed) State.init
      [.send 100 ['1'] ['2'], .send 104 ['1'] ['2'], .send 110 ['1'] ['2']]) = [.send (.ok 1), .send (.ok 2), .send .countLimit] := by decide +kernel

/-- OBSERVATION — a bounded cache forgets: with CacheSize 2, sends to two other pairs evict the entry; the sent code is then
    `notExist`, and a second send to the same pair inside the minimum interval (1000 ms) is accepted again -/
theorem witness_eviction_forgets :
    (outs (step cfgFixed { prStd with cap := 2, minInterval := 1000 }) State.init
      [.send 0 ['1'] ['1'], .send 1 ['1'] ['1'], .send 2 ['1'] ['2'], .send 3 ['1'] ['3'],
       .verify 4 ['1'] ['1'] (.sym 1) 1, .send 5 ['1'] ['1']]) =
      [.send (.ok 1), .send .tooFreq, .send (.ok 2), .send (.ok 3), .verify .notExist, .send (.ok 4)] := by decide +kernel

/-- a verify (`Get`) promotes, a refused send (`Peek`) does not -/
theorem witness_lru_order :
    (outs (step cfgFixed { prStd with cap := 2 }) State.init
      [.send 0 ['1'] ['1'], .send 0 ['1'] ['2'], .verify 0 ['1'] ['1'] (.lit ['x']) 0, .send 0 ['1'] ['3'],
       .verify 0 ['1'] ['1'] (.sym 1) 1, .verify 0 ['1'] ['2'] (.sym 2) 2]) =
      [.send (.ok 1), .send (.ok 2), .verify .notMatch, .send (.ok 3), .verify .ok, .verify .notExist] := by decide +kernel

/-- FIXED (afdf9f1) — formats `"%s-%s"` for send, `"%s%s"` for verify: the code just sent is answered `notExist` -/
theorem witness_key_mismatch :
    (outs (step cfgOld prStd) State.init [.send 0 ['8','6'] ['5','5','5'], .verify 0 ['8','6'] ['5','5','5'] (.sym 1) 1]) =
      [.send (.ok 1), .verify .notExist] := by decide +kernel

/-- were both formats `"%s%s"`, (1,23) and (12,3) would share a key: the code sent to one verifies the other -/
theorem witness_plain_plain_collision :
    (outs (step { cfgFixed with sendKeyFmt := .plain, verifyKeyFmt := .plain } prStd) State.init
      [.send 0 ['1'] ['2','3'], .verify 0 ['1','2'] ['3'] (.sym 1) 1]) = [.send (.ok 1), .verify .ok] := by decide +kernel

/-- FIXED (1eca911) — bound `fn(bSize - 1)`: whatever the source returns (here: every residue), '9' is never produced -/
theorem witness_last_char_unreachable :
    ∀ v ∈ List.range 30, genNonce .lenMinus1 "0123456789".toList 1 [v] ≠ some ['9'] := by decide +kernel

theorem witness_last_char_reachable_when_fixed :
    genNonce .len "0123456789".toList 1 [9] = some ['9'] := by decide +kernel

/-- a one-character alphabet makes `fn(bSize - 1)` panic (`Intn(0)`) -/
theorem witness_single_char_panics : genNonce .lenMinus1 ['a'] 1 [0] = none := by decide +kernel

theorem not_surjective_lenMinus1 :
    ¬ (∀ x ∈ "0123456789".toList, ∃ vals, genNonce cfgOld.nonceBound "0123456789".toList 1 vals = some [x]) := by
  intro h
  obtain ⟨vals, hv⟩ := h '9' (by decide +kernel)
  exact absurd (genNonce_mem hv '9' List.mem_cons_self).1 (by decide +kernel)

end Nv.C19
