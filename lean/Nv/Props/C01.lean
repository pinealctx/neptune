import Nv.Proofs.C01Fifo
import Nv.Proofs.C01Refine
/-!
C01 — property theorems for `syncx/semap` (model `Nv.Model.C01`, proofs `Nv.Proofs.C01*`).

Every theorem quantifies over every configuration `c` with `Proved c` (the repaired delete guard), every
`rwRatio ≥ 1`, every reachable state of the map's transition system `M c rw` — i.e. every interleaving of
acquire / release / cancel critical sections of any number of callers over any keys — and every key.
`(s k).holders` = callers inside the critical section of `k` (caller id, weight: 1 reader, rwRatio writer);
`(s k).waiters` = blocked callers, oldest first; `(s k).present` = the container has an entry for `k`.
For the guard `emptyOnly` (the source before fix 5ef8dd8) the exclusion theorem is *refuted* by concrete runs
(`witness_emptyOnly_*`).
-/
namespace Nv.C01

/-! ### exclusion -/

/-- all callers refer to the object the map holds for the key: no object is ever deleted while referenced -/
theorem sem_no_orphans (c : Cfg) (hc : Proved c) (rw : Nat) (hrw : 1 ≤ rw) (s : State)
    (hr : (M c rw).Reach s) (k : Key) : (s k).orphans = [] :=
  (reach_inv c hc rw hrw s hr k).1.orphans

/-- the tokens held for a key never exceed rwRatio -/
theorem sem_excl (c : Cfg) (hc : Proved c) (rw : Nat) (hrw : 1 ≤ rw) (s : State)
    (hr : (M c rw).Reach s) (k : Key) : wsum (s k).holders ≤ rw := by
  have h := (reach_inv c hc rw hrw s hr k).1
  rw [holders_sem h.orphans, ← h.ok.cur_eq]
  exact h.ok.cur_le

/-- the token counter of the map's object is exactly what the callers inside hold: no token is ever leaked or
    double-counted (this is the `cur` the hook reads) -/
theorem sem_tokens_exact (c : Cfg) (hc : Proved c) (rw : Nat) (hrw : 1 ≤ rw) (s : State)
    (hr : (M c rw).Reach s) (k : Key) (o : Sem) (ho : (s k).live = some o) :
    o.cur = wsum (s k).holders ∧ o.holders = (s k).holders ∧ o.waiters = (s k).waiters := by
  have h := (reach_inv c hc rw hrw s hr k).1
  have hsem : (s k).sem = o := by rw [KS.sem, ho]; rfl
  rw [holders_sem h.orphans, waiters_sem h.orphans, hsem]
  exact ⟨hsem ▸ h.ok.cur_eq, rfl, rfl⟩

/-- readers weigh 1, writers weigh rwRatio — holders and waiters alike -/
theorem sem_weights (c : Cfg) (hc : Proved c) (rw : Nat) (hrw : 1 ≤ rw) (s : State)
    (hr : (M c rw).Reach s) (k : Key) : ∀ x ∈ (s k).holders ++ (s k).waiters, x.2 = 1 ∨ x.2 = rw :=
  (reach_inv c hc rw hrw s hr k).2.1

/-- a caller id occurs at most once among the holders and waiters of a key -/
theorem sem_unique_callers (c : Cfg) (hc : Proved c) (rw : Nat) (hrw : 1 ≤ rw) (s : State)
    (hr : (M c rw).Reach s) (k : Key) : (((s k).holders ++ (s k).waiters).map (·.1)).Nodup :=
  (reach_inv c hc rw hrw s hr k).2.2

/-- **exclusion**: the callers inside a key are exactly one writer, or at most rwRatio readers -/
theorem sem_excl_rw (c : Cfg) (hc : Proved c) (rw : Nat) (hrw : 1 ≤ rw) (s : State)
    (hr : (M c rw).Reach s) (k : Key) :
    (∃ t, (s k).holders = [(t, rw)]) ∨ ((∀ h ∈ (s k).holders, h.2 = 1) ∧ (s k).holders.length ≤ rw) := by
  have h := reach_inv c hc rw hrw s hr k
  have hsum := sem_excl c hc rw hrw s hr k
  by_cases hall : ∀ h ∈ (s k).holders, h.2 = 1
  · exact Or.inr ⟨hall, wsum_all_one _ hall ▸ hsum⟩
  · -- some holder weighs rwRatio: the bound leaves no room beside it
    obtain ⟨x, hx, hx1⟩ : ∃ x ∈ (s k).holders, x.2 ≠ 1 :=
      Classical.byContradiction fun hne => hall fun x hx => Classical.byContradiction fun h1 => hne ⟨x, hx, h1⟩
    have hxw : x.2 = rw := (h.2.1 x (List.mem_append_left _ hx)).resolve_left hx1
    have hpos : ∀ y ∈ (s k).holders, 1 ≤ y.2 := holders_sem h.1.orphans ▸ h.1.ok.hpos
    obtain ⟨l1, l2, hl⟩ := List.append_of_mem hx
    rw [hl] at hpos
    rw [hl, wsum_append, wsum_cons, hxw] at hsum
    have hz : wsum l1 = 0 ∧ wsum l2 = 0 := by omega
    have h1 : l1 = [] := wsum_zero_nil l1 (fun y hy => hpos y (List.mem_append_left _ hy)) hz.1
    have h2 : l2 = [] :=
      wsum_zero_nil l2 (fun y hy => hpos y (List.mem_append_right _ (List.mem_cons_of_mem x hy))) hz.2
    exact Or.inl ⟨x.1, by rw [hl, h1, h2, ← hxw]; rfl⟩

/-! ### hand-off -/

/-- **no stuck waiter**: in every reachable state the oldest waiter does not fit. Hence after any release or
    cancel the waiters that fit have already been admitted (`sem_release`, `sem_cancel_waiter` say which). -/
theorem sem_head_blocked (c : Cfg) (hc : Proved c) (rw : Nat) (hrw : 1 ≤ rw) (s : State)
    (hr : (M c rw).Reach s) (k : Key) (w : W) (ws : List W) (hw : (s k).waiters = w :: ws) :
    rw - wsum (s k).holders < w.2 := by
  have h := (reach_inv c hc rw hrw s hr k).1
  rw [holders_sem h.orphans, ← h.ok.cur_eq]
  exact h.ok.head w ws (waiters_sem h.orphans ▸ hw)

/-- **arrival order, acquire**: a caller is admitted at once iff nobody waits and it fits; otherwise it queues
    at the back and the holders are unchanged -/
theorem sem_acquire (c : Cfg) (hc : Proved c) (rw : Nat) (hrw : 1 ≤ rw) (s : State)
    (hr : (M c rw).Reach s) (t : Tid) (k : Key) (wr : Bool) (s' : State)
    (hstep : (M c rw).step s (.acquire t k wr) = some s') :
    if (s k).waiters = [] ∧ weight rw wr ≤ rw - wsum (s k).holders
    then (s' k).holders = (s k).holders ++ [(t, weight rw wr)] ∧ (s' k).waiters = []
    else (s' k).holders = (s k).holders ∧ (s' k).waiters = (s k).waiters ++ [(t, weight rw wr)] := by
  obtain ⟨o, hok, e1, e2, e3, e4⟩ := step_lists c hc rw hrw s hr _ s' hstep k rfl
  rw [e1, e2, e3, e4, ← hok.cur_eq]
  exact acquire_lists rw o t _ (weight_bounds rw hrw wr).2

/-- **no barging**: whoever arrives while someone is waiting queues behind them (so readers cannot starve a
    waiting writer) -/
theorem sem_no_barging (c : Cfg) (hc : Proved c) (rw : Nat) (hrw : 1 ≤ rw) (s : State)
    (hr : (M c rw).Reach s) (t : Tid) (k : Key) (wr : Bool) (s' : State)
    (hstep : (M c rw).step s (.acquire t k wr) = some s') (hw : (s k).waiters ≠ []) :
    (s' k).holders = (s k).holders ∧ (s' k).waiters = (s k).waiters ++ [(t, weight rw wr)] := by
  have h := sem_acquire c hc rw hrw s hr t k wr s' hstep
  rwa [if_neg (fun h => hw h.1)] at h

/-- **arrival order, release**: the releaser leaves and a prefix of the queue, in queue order, is admitted;
    the rest of the queue keeps its order -/
theorem sem_release (c : Cfg) (hc : Proved c) (rw : Nat) (hrw : 1 ≤ rw) (s : State)
    (hr : (M c rw).Reach s) (t : Tid) (k : Key) (s' : State)
    (hstep : (M c rw).step s (.release t k) = some s') :
    ∃ m, (s' k).holders = (s k).holders.filter (·.1 ≠ t) ++ (s k).waiters.take m ∧
      (s' k).waiters = (s k).waiters.drop m := by
  obtain ⟨o, _, e1, e2, e3, e4⟩ := step_lists c hc rw hrw s hr _ s' hstep k rfl
  rw [e1, e2, e3, e4]
  exact release_lists rw o t

/-- **admitted in arrival order** (ghost stamps: `MG` = `M` plus, per key, a counter and the stamp each caller got
    when its acquire section ran; `sem_ghost_faithful` shows the ghost changes nothing). In every reachable state
    the queue is sorted by arrival and nobody inside arrived later than somebody still waiting — so at no time
    has a caller been admitted past an earlier arrival that is still blocked. -/
theorem sem_arrival_order (c : Cfg) (hc : Proved c) (rw : Nat) (hrw : 1 ≤ rw) (g : GState)
    (hr : (MG c rw).Reach g) (k : Key) :
    (g.st k).waiters.Pairwise (fun a b => g.stamp k a.1 < g.stamp k b.1) ∧
    (∀ h ∈ (g.st k).holders, ∀ w ∈ (g.st k).waiters, g.stamp k h.1 < g.stamp k w.1) :=
  (List.pairwise_append.1 (reach_fifo c hc rw hrw g hr k).2).2

/-- every run of the map is the projection of a ghost run, and every ghost run projects to a run of the map -/
theorem sem_ghost_faithful (c : Cfg) (rw : Nat) :
    (∀ (as : List Act) (s : State), (M c rw).run init as = some s →
      ∃ g, (MG c rw).run ginit as = some g ∧ g.st = s) ∧
    (∀ g, (MG c rw).Reach g → (M c rw).Reach g.st) :=
  ⟨fun as s h => ghost_faithful c rw as ginit s h, ghost_proj_reach c rw⟩

/-- a context ends, whoever's: the caller leaves the queue if it was in it, and a prefix of the remaining queue is
    admitted -/
theorem sem_cancel (c : Cfg) (hc : Proved c) (rw : Nat) (hrw : 1 ≤ rw) (s : State)
    (hr : (M c rw).Reach s) (t : Tid) (k : Key) (s' : State)
    (hstep : (M c rw).step s (.cancel t k) = some s') :
    ∃ m, (s' k).holders = (s k).holders ++ ((s k).waiters.filter (·.1 ≠ t)).take m ∧
      (s' k).waiters = ((s k).waiters.filter (·.1 ≠ t)).drop m := by
  obtain ⟨o, hok, e1, e2, e3, e4⟩ := step_lists c hc rw hrw s hr _ s' hstep k rfl
  rw [e1, e2, e3, e4]
  exact cancel_lists rw o t hok

/-- **a cancelled acquire holds nothing**: a waiting caller whose context ends leaves the queue, is not a
    holder, and a prefix of the remaining queue is admitted -/
theorem sem_cancel_waiter (c : Cfg) (hc : Proved c) (rw : Nat) (hrw : 1 ≤ rw) (s : State)
    (hr : (M c rw).Reach s) (t : Tid) (k : Key) (s' : State)
    (hstep : (M c rw).step s (.cancel t k) = some s') (hw : (s k).waits t = true) :
    (∃ m, (s' k).holders = (s k).holders ++ ((s k).waiters.filter (·.1 ≠ t)).take m ∧
      (s' k).waiters = ((s k).waiters.filter (·.1 ≠ t)).drop m) ∧
    (s' k).holds t = false ∧ (s' k).waits t = false := by
  obtain ⟨m, h1, h2⟩ := sem_cancel c hc rw hrw s hr t k s' hstep
  refine ⟨⟨m, h1, h2⟩, Bool.or_eq_false_iff.1 (Bool.eq_false_iff.2 fun hl => ?_)⟩
  -- were t still listed, it would be among the old holders or in the filtered queue
  have hmem : t ∈ ((s' k).holders ++ (s' k).waiters).map (·.1) :=
    (any_fst_iff _ t).1 (List.any_append.trans hl)
  rw [h1, h2, List.append_assoc, List.take_append_drop, List.map_append, List.mem_append] at hmem
  rcases hmem with hmem | hmem
  · -- t waits, and ids are unique: no holder has its id
    have hnd := sem_unique_callers c hc rw hrw s hr k
    rw [List.map_append, List.nodup_append] at hnd
    exact hnd.2.2 t hmem t ((any_fst_iff _ t).1 hw) rfl
  · obtain ⟨x, hx, rfl⟩ := List.mem_map.1 hmem
    exact of_decide_eq_true (List.mem_filter.1 hx).2 rfl

/-- a caller that was already admitted when its context ended keeps the grant: nothing changes -/
theorem sem_cancel_admitted (c : Cfg) (hc : Proved c) (rw : Nat) (hrw : 1 ≤ rw) (s : State)
    (hr : (M c rw).Reach s) (t : Tid) (k : Key) (s' : State)
    (hstep : (M c rw).step s (.cancel t k) = some s') (hw : (s k).waits t = false) : s' k = s k := by
  have hk : s' k = (s k).cancel rw t := step_this_key c rw s s' _ hstep
  rw [hk, cancel_eq rw (s k) t (reach_inv c hc rw hrw s hr k).1.orphans, hw]
  rfl

/-- keys are independent: a step changes nothing for any other key -/
theorem sem_keys_independent (c : Cfg) (rw : Nat) (s s' : State) (a : Act)
    (hstep : (M c rw).step s a = some s') (k : Key) (hk : k ≠ a.key) : s' k = s k :=
  step_other_key c rw s s' a hstep k hk

/-- **a successful acquire holds until its own release**: no step other than `release t k` removes
    holder `t` of key `k` -/
theorem sem_holds_until_release (c : Cfg) (hc : Proved c) (rw : Nat) (hrw : 1 ≤ rw) (s : State)
    (hr : (M c rw).Reach s) (a : Act) (s' : State) (hstep : (M c rw).step s a = some s')
    (k : Key) (h : W) (hh : h ∈ (s k).holders) (hne : a ≠ .release h.1 k) : h ∈ (s' k).holders := by
  by_cases hk : k = a.key
  · cases a with
    | acquire t k' wr =>
      obtain rfl : k = k' := hk
      have := sem_acquire c hc rw hrw s hr t k wr s' hstep
      split at this
      · rw [this.1]; exact List.mem_append_left _ hh
      · rw [this.1]; exact hh
    | release t k' =>
      obtain rfl : k = k' := hk
      obtain ⟨m, h1, _⟩ := sem_release c hc rw hrw s hr t k s' hstep
      have hne' : h.1 ≠ t := fun heq => hne (by rw [heq])
      rw [h1]
      exact List.mem_append_left _ (List.mem_filter.2 ⟨hh, decide_eq_true hne'⟩)
    | cancel t k' =>
      obtain rfl : k = k' := hk
      obtain ⟨m, h1, _⟩ := sem_cancel c hc rw hrw s hr t k s' hstep
      rw [h1]; exact List.mem_append_left _ hh
  · rw [sem_keys_independent c rw s s' a hstep k hk]; exact hh

/-! ### no residue -/

/-- the container has an entry for a key exactly while somebody holds it -/
theorem sem_entry_iff_held (c : Cfg) (hc : Proved c) (rw : Nat) (hrw : 1 ≤ rw) (s : State)
    (hr : (M c rw).Reach s) (k : Key) : (s k).present = true ↔ (s k).holders ≠ [] := by
  have h := (reach_inv c hc rw hrw s hr k).1
  constructor
  · exact fun hp => h.holders_ne_nil (h.held hp)
  · intro hne
    cases hl : (s k).live with
    | some o => rw [KS.present, hl]; rfl
    | none => exact absurd (by rw [holders_sem h.orphans, KS.sem, hl]; rfl) hne

/-- whoever waits, waits behind a holder (so somebody is left whose release runs `notifyWaiters`) -/
theorem sem_waiters_have_holder (c : Cfg) (hc : Proved c) (rw : Nat) (hrw : 1 ≤ rw) (s : State)
    (hr : (M c rw).Reach s) (k : Key) (hw : (s k).waiters ≠ []) : (s k).holders ≠ [] := by
  have h := (reach_inv c hc rw hrw s hr k).1
  exact h.holders_ne_nil (h.ok.cur_pos_of_waiters (waiters_sem h.orphans ▸ hw))

/-- **no residue**: once every holder has released and nobody waits, the container keeps no entry for the key -/
theorem sem_no_residue (c : Cfg) (hc : Proved c) (rw : Nat) (hrw : 1 ≤ rw) (s : State)
    (hr : (M c rw).Reach s) (k : Key) (hh : (s k).holders = []) (_hw : (s k).waiters = []) :
    (s k).present = false :=
  Bool.eq_false_iff.2 fun hp => (sem_entry_iff_held c hc rw hrw s hr k).1 hp hh

/-- however many keys are in use: over any finite set of keys the container holds exactly as many entries as
    there are keys somebody is inside of (no entry outlives its last holder, at any population) -/
theorem sem_entry_count (c : Cfg) (hc : Proved c) (rw : Nat) (hrw : 1 ≤ rw) (s : State)
    (hr : (M c rw).Reach s) (ks : List Key) :
    (ks.filter (fun k => (s k).present)).length = (ks.filter (fun k => !(s k).holders.isEmpty)).length := by
  congr 1
  apply List.filter_congr
  intro k _
  rw [Bool.eq_iff_iff, sem_entry_iff_held c hc rw hrw s hr k, Bool.not_eq_true', Ne, ← List.isEmpty_iff,
    Bool.not_eq_true]

/-- the "doomed" branch of `Weighted.acquire` (`n > size`) is never taken -/
theorem sem_not_doomed (rw : Nat) (hrw : 1 ≤ rw) (wr : Bool) : ¬ weight rw wr > rw :=
  Nat.not_lt.2 (weight_bounds rw hrw wr).2

/-! ### refinement to the token-free reader/writer lock (`Nv/Spec/C01.lean`) -/

/-- **refinement**: the model of the code and the reference FIFO reader/writer lock `S rw` accept exactly the same
    action sequences (`Agree`: both refuse, or both accept), and after each accepted sequence every key has the
    same callers inside and the same queue (`Rel`: holders = inside, waiters = queue, weight = 1 / rwRatio) -/
theorem sem_refines_rwlock (c : Cfg) (hc : Proved c) (rw : Nat) (hrw : 1 ≤ rw) (as : List Act) :
    Agree rw ((M c rw).run init as) ((S rw).run (fun _ => RW.init) as) :=
  run_agree c hc rw hrw as init _ LTS.Reach.init (fun _ => Rel.init rw)

/-- the reference lock excludes by construction: inside is one writer alone, or only readers, at most rwRatio -/
theorem spec_rwlock_excl (rw : Nat) (sp : SState) (hr : (S rw).Reach sp) (k : Key) :
    (∃ t, (sp k).inside = [(t, true)]) ∨
      ((sp k).inside.all (fun c => !c.2) = true ∧ (sp k).inside.length ≤ rw) :=
  spec_excl rw sp hr k

/-! ### the sharded maps (any shard array, any routing function) -/

/-- a sharded map behaves as the single map that reads every key from the shard it routes to -/
theorem sem_wide_refines (c : Cfg) (rw : Nat) (idx : Key → Nat) (ws : WState)
    (hr : (MW c rw idx).Reach ws) : (M c rw).Reach (wproj idx ws) :=
  wide_refines_single c rw idx ws hr

/-- exclusion for the sharded maps: in every shard the bound holds, and a key is unknown to every shard it
    does not route to — so over the whole array the callers inside `k` hold at most rwRatio tokens -/
theorem sem_wide (c : Cfg) (hc : Proved c) (rw : Nat) (hrw : 1 ≤ rw) (idx : Key → Nat) (ws : WState)
    (hr : (MW c rw idx).Reach ws) (k : Key) :
    wsum (ws (idx k) k).holders ≤ rw ∧
    ((∃ t, (ws (idx k) k).holders = [(t, rw)]) ∨
      ((∀ h ∈ (ws (idx k) k).holders, h.2 = 1) ∧ (ws (idx k) k).holders.length ≤ rw)) ∧
    (∀ i, i ≠ idx k → ws i k = KS.init) ∧
    ((ws (idx k) k).holders = [] → (ws (idx k) k).waiters = [] → ∀ i, (ws i k).present = false) := by
  -- `wproj idx ws k` is `ws (idx k) k`: the single-map theorems about the projection speak of the key's shard
  have hsr := sem_wide_refines c rw idx ws hr
  have hother := wide_other_shard_untouched c rw idx ws hr
  refine ⟨sem_excl c hc rw hrw _ hsr k, sem_excl_rw c hc rw hrw _ hsr k, fun i hi => hother i k hi, ?_⟩
  intro hh hw i
  by_cases hi : i = idx k
  · subst hi; exact sem_no_residue c hc rw hrw _ hsr k hh hw
  · rw [hother i k hi]; rfl

/-- the sharded maps as they are (remap routes only some key kinds; a call on any other key panics before any lock
    is taken, i.e. is no step): every run is a run of `MW`, so `sem_wide` applies, and a key remap cannot route
    is unknown to every shard for ever — nobody is ever inside it, nothing is stored for it -/
theorem sem_wide_unroutable (c : Cfg) (rw : Nat) (idx : Key → Nat) (routable : Key → Bool) (ws : WState)
    (hr : (MWR c rw idx routable).Reach ws) :
    (MW c rw idx).Reach ws ∧ ∀ k, routable k = false → ∀ i, ws i k = KS.init :=
  ⟨wideR_reach c rw idx routable ws hr, wideR_unroutable_untouched c rw idx routable ws hr⟩

/-- **routing must be a pure function of the key**: if the shard the routing code names depends only on the key
    (`Router.Pure`) — not on lookup history, memo tables, or on other containers created or used in the process
    (`HAct.other`) — then every reachable state of the sharded map with that router is a reachable state of `MW`,
    so exclusion, arrival order, hand-off and no-residue (`sem_wide`) hold; in particular a held key's shard never
    changes. The harness checks the hypothesis on the implementation (`wide-routing-changed`, `routing-unstable`). -/
theorem sem_wide_pure_routing {ρ : Type} (c : Cfg) (hc : Proved c) (rw : Nat) (hrw : 1 ≤ rw) (R : Router ρ) (r0 : ρ)
    (idx : Key → Nat) (hp : R.Pure idx) (s : WState × ρ) (hr : (MWH c rw R r0).Reach s) (k : Key) :
    (MW c rw idx).Reach s.1 ∧ wsum (s.1 (idx k) k).holders ≤ rw ∧ (∀ i, i ≠ idx k → s.1 i k = KS.init) := by
  have h := pure_router_reach c rw R r0 idx hp s hr
  have hw := sem_wide c hc rw hrw idx s.1 h k
  exact ⟨h, hw.1, hw.2.2.1⟩

/-- and the hypothesis is necessary: a router whose answer another container can flip (state `Bool`, shard 0 or 1)
    lets a second writer in beside the first — repaired guard, rwRatio 2, key 5: one writer in each of two shards -/
theorem witness_history_dependent_routing :
    let R : Router Bool := ⟨fun b _ => (if b then 1 else 0, b), fun b => !b⟩
    ((MWH ⟨.emptyAndIdle⟩ 2 R false).run ((winit, false) : WState × Bool)
        [.act (.acquire 1 5 true), .other, .act (.acquire 2 5 true)]).map
      (fun s => ((s.1 0 5).holders, (s.1 1 5).holders)) = some ([(1, 2)], [(2, 2)]) := by decide +kernel

/-! ### the guard `emptyOnly`: the property is false (concrete runs; the same scripts are replayed on the Go code) -/

/-- `emptyOnly`: two readers, one leaves (entry deleted under the other), a writer is admitted beside it -/
theorem witness_emptyOnly_writer_beside_reader :
    ((M ⟨.emptyOnly⟩ 3).run init [.acquire 1 7 false, .acquire 2 7 false, .release 1 7, .acquire 9 7 true]).map
      (fun s => (s 7).holders) = some [(9, 3), (2, 1)] := by decide +kernel

/-- `emptyOnly`: writer hands over to a queued writer (entry deleted under it), a third writer walks in -/
theorem witness_emptyOnly_two_writers :
    ((M ⟨.emptyOnly⟩ 2).run init [.acquire 1 0 true, .acquire 2 0 true, .release 1 0, .acquire 3 0 true]).map
      (fun s => (s 0).holders) = some [(3, 2), (2, 2)] := by decide +kernel

/-- `emptyOnly`: an arrival is admitted while an earlier caller is still blocked (on an orphaned object) -/
theorem witness_emptyOnly_overtake :
    ((M ⟨.emptyOnly⟩ 3).run init [.acquire 1 0 false, .acquire 2 0 false, .release 1 0, .acquire 3 0 true,
        .acquire 4 0 false, .release 2 0, .acquire 5 0 false]).map
      (fun s => ((s 0).holders, (s 0).waiters)) = some ([(5, 1), (3, 3)], [(4, 1)]) := by decide +kernel

/-- the exclusion theorem does not hold for the configuration with the guard `emptyOnly` -/
theorem not_sem_excl_emptyOnly :
    ¬ ∀ s, (M ⟨.emptyOnly⟩ 3).Reach s → ∀ k, wsum (s k).holders ≤ 3 := by
  intro h
  have hw := witness_emptyOnly_writer_beside_reader
  cases hrun : (M ⟨.emptyOnly⟩ 3).run init
      [.acquire 1 7 false, .acquire 2 7 false, .release 1 7, .acquire 9 7 true] with
  | none => rw [hrun] at hw; cases hw
  | some s =>
    rw [hrun] at hw
    simp only [Option.map_some, Option.some.injEq] at hw
    have hreach := LTS.reach_of_run _ _ _ _ LTS.Reach.init hrun
    have := h s hreach 7
    rw [hw] at this
    revert this
    decide

/-! ### non-vacuity: a non-trivial reachable state of the proved configuration -/

/-- two readers inside, a queued writer and a reader behind it; the second reader's context ends; the readers
    leave; the writer is admitted: reachable, and exactly the writer is inside -/
example : ((M ⟨.emptyAndIdle⟩ 3).run init [.acquire 1 0 false, .acquire 2 0 false, .acquire 3 0 true,
      .acquire 4 0 false, .cancel 4 0, .release 1 0, .release 2 0]).map
    (fun s => ((s 0).holders, (s 0).waiters, (s 0).present)) = some ([(3, 3)], [], true) := by decide +kernel

/-- same prefix: the state with two readers inside and writer + reader queued (hypotheses of `sem_head_blocked`,
    `sem_no_barging`, `sem_cancel_waiter` are satisfiable) -/
example : ((M ⟨.emptyAndIdle⟩ 3).run init [.acquire 1 0 false, .acquire 2 0 false, .acquire 3 0 true,
      .acquire 4 0 false]).map
    (fun s => ((s 0).holders, (s 0).waiters, (s 0).waits 4)) = some ([(1, 1), (2, 1)], [(3, 3), (4, 1)], true) := by
  decide +kernel

/-- cancelling the queued writer at the head admits the reader behind it at once -/
example : ((M ⟨.emptyAndIdle⟩ 3).run init [.acquire 1 0 false, .acquire 2 0 false, .acquire 3 0 true,
      .acquire 4 0 false, .cancel 3 0]).map
    (fun s => ((s 0).holders, (s 0).waiters)) = some ([(1, 1), (2, 1), (4, 1)], []) := by decide +kernel

/-- everybody leaves: no entry is left (hypotheses of `sem_no_residue`) -/
example : ((M ⟨.emptyAndIdle⟩ 2).run init [.acquire 1 0 false, .acquire 2 0 true, .release 1 0, .release 2 0]).map
    (fun s => ((s 0).holders, (s 0).waiters, (s 0).present)) = some ([], [], false) := by decide +kernel

/-- the repaired guard on the F01 script: the writer queues behind the remaining reader -/
example : ((M ⟨.emptyAndIdle⟩ 3).run init [.acquire 1 7 false, .acquire 2 7 false, .release 1 7, .acquire 9 7 true]).map
    (fun s => ((s 7).holders, (s 7).waiters)) = some ([(2, 1)], [(9, 3)]) := by decide +kernel

/-- ghost stamps on the same trace: arrivals 1,2,3,4 get stamps 0,1,2,3; the queue [3,4] is in stamp order -/
example : ((MG ⟨.emptyAndIdle⟩ 3).run ginit [.acquire 1 0 false, .acquire 2 0 false, .acquire 3 0 true,
      .acquire 4 0 false]).map
    (fun g => ((g.st 0).waiters, [g.stamp 0 1, g.stamp 0 2, g.stamp 0 3, g.stamp 0 4], g.next 0)) =
    some ([(3, 3), (4, 1)], [0, 1, 2, 3], 4) := by decide +kernel

/-- the reference lock on the same trace -/
example : ((S 3).run (fun _ => RW.init) [.acquire 1 0 false, .acquire 2 0 false, .acquire 3 0 true,
      .acquire 4 0 false, .cancel 3 0]).map
    (fun sp => ((sp 0).inside, (sp 0).queue)) = some ([(1, false), (2, false), (4, false)], []) := by decide +kernel

/-- partial routing: odd keys are not routable — the call on key 5 is refused, the run stops there -/
example : ((MWR ⟨.emptyAndIdle⟩ 2 (· % 3) (· % 2 == 0)).run winit [.acquire 1 4 true, .acquire 3 5 false]).isNone = true ∧
    ((MWR ⟨.emptyAndIdle⟩ 2 (· % 3) (· % 2 == 0)).run winit [.acquire 1 4 true]).map (fun ws => (ws 1 4).holders) =
      some [(1, 2)] := by decide +kernel

/-- a sharded run (3 shards by residue): key 4 lives in shard 1 only -/
example : ((MW ⟨.emptyAndIdle⟩ 2 (· % 3)).run winit [.acquire 1 4 true, .acquire 2 4 false, .acquire 3 5 false]).map
    (fun ws => ((ws 1 4).holders, (ws 1 4).waiters, (ws 2 5).holders, (ws 0 4).present)) =
    some ([(1, 2)], [(2, 1)], [(3, 1)], false) := by decide +kernel

end Nv.C01
