import Nv.Proofs.C17
import Nv.Proofs.C17Shard
/-!
C17 — property theorems for shard routing (`remap`) and the sharded containers.
Model: `Nv.Model.C17`. Shard counts `1 ≤ n ≤ 2^64 − 1` for the partition (Go can only allocate
`n < 2^63` shards, which is what the `int` conversions additionally need — see `Nv.Tie.C17`);
hash values are all of `[0, 2^64)`. `c` ranges over `Proved` (last boundary forced to 2^64−1,
predicate `>=`).
-/
namespace Nv.C17

theorem nps_strictly_ascending (c : Cfg) (hc : Proved c) (n : Nat) (h1 : 1 ≤ n) (h2 : n ≤ M64)
    (i j : Nat) (hij : i < j) (hj : j < n) : nps c n i < nps c n j :=
  nps_strict hc n h1 h2 i j hij hj

/-- the last boundary is 2^64 − 1, so the intervals `(nps (i−1), nps i]` (first: `[0, nps 0]`) cover every hash -/
theorem nps_covers (c : Cfg) (hc : Proved c) (n : Nat) (h1 : 1 ≤ n) : nps c n (n - 1) = 2 ^ 64 - 1 :=
  nps_last hc n h1

/-- `SearchIndex` is in range, and returns the interval the hash lies in -/
theorem partition_total (c : Cfg) (hc : Proved c) (n x : Nat) (h1 : 1 ≤ n) (h2 : n ≤ M64) (hx : x < 2 ^ 64) :
    searchIndex c n x < n ∧ x ≤ nps c n (searchIndex c n x) ∧
      (0 < searchIndex c n x → nps c n (searchIndex c n x - 1) < x) := by
  obtain ⟨hr, hhi, hleast⟩ := search_least hc n x h1 h2 hx
  exact ⟨hr, hhi, fun h0 => hleast _ (Nat.sub_lt h0 Nat.one_pos)⟩

/-- every hash lies in exactly one interval: any index whose interval contains `x` is the one returned -/
theorem partition_unique (c : Cfg) (hc : Proved c) (n x : Nat) (h1 : 1 ≤ n) (h2 : n ≤ M64) (hx : x < 2 ^ 64)
    (i : Nat) (hi : i < n) (hhi : x ≤ nps c n i) (hlo : 0 < i → nps c n (i - 1) < x) :
    searchIndex c n x = i := by
  obtain ⟨hr, hrhi, hleast⟩ := search_least hc n x h1 h2 hx
  generalize searchIndex c n x = r at hr hrhi hleast ⊢
  apply Nat.le_antisymm
  · -- the returned index is the least with `x ≤ nps`, and `i` is one of those
    exact Nat.le_of_not_lt (fun h => Nat.lt_irrefl _ (Nat.lt_of_lt_of_le (hleast i h) hhi))
  · -- were it below `i`: nps r ≤ nps (i−1) < x ≤ nps r
    refine Nat.le_of_not_lt (fun h => Nat.lt_irrefl x ?_)
    exact Nat.lt_of_le_of_lt (Nat.le_trans hrhi
      (nps_mono hc n h1 h2 r (i - 1) (Nat.le_sub_one_of_lt h) (Nat.lt_of_le_of_lt (Nat.sub_le i 1) hi)))
      (hlo (Nat.zero_lt_of_lt h))

theorem search_monotone (c : Cfg) (hc : Proved c) (n x y : Nat) (h1 : 1 ≤ n) (h2 : n ≤ M64) (hxy : x ≤ y)
    (hy : y < 2 ^ 64) : searchIndex c n x ≤ searchIndex c n y := by
  obtain ⟨-, -, hleast⟩ := search_least hc n x h1 h2 (Nat.lt_of_le_of_lt hxy hy)
  obtain ⟨-, hyhi, -⟩ := search_least hc n y h1 h2 hy
  -- the index returned for `y` has a boundary ≥ y ≥ x, so it is not below the least such index for `x`
  exact Nat.le_of_not_lt (fun h => Nat.lt_irrefl _ (Nat.lt_of_lt_of_le (hleast _ h) (Nat.le_trans hxy hyhi)))

/-- every shard is hit: boundary `i` itself maps to shard `i` (no empty interval) -/
theorem search_boundary (c : Cfg) (hc : Proved c) (n i : Nat) (h1 : 1 ≤ n) (h2 : n ≤ M64) (hi : i < n) :
    searchIndex c n (nps c n i) = i :=
  partition_unique c hc n _ h1 h2 (Nat.lt_of_le_of_lt (nps_bounds hc n i hi).2 (by decide)) i hi (Nat.le_refl _)
    (fun h0 => nps_strict hc n h1 h2 (i - 1) i (Nat.sub_lt h0 Nat.one_pos) hi)

example : Proved ⟨true, .ge⟩ := by decide
example : searchIndex ⟨true, .ge⟩ 73 (2 ^ 63) = 36 ∧ searchIndex ⟨true, .ge⟩ 73 0 = 0 ∧
    searchIndex ⟨true, .ge⟩ 73 (2 ^ 64 - 1) = 72 := by decide +kernel

theorem search_in_range (c : Cfg) (hc : Proved c) (n x : Nat) (h1 : 1 ≤ n) (h2 : n ≤ M64) (hx : x < 2 ^ 64) :
    searchIndex c n x < n := (partition_total c hc n x h1 h2 hx).1

/-- **inner shards are equally wide**: every shard except the first and the last owns exactly `y = ⌊(2^64−1)/n⌋`
    hash values (the interval `(nps (i−1), nps i]`) -/
theorem shard_width_inner (c : Cfg) (hc : Proved c) (n i : Nat) (h0 : 0 < i) (hi : i + 1 < n) :
    nps c n i - nps c n (i - 1) = yOf n := by
  rw [nps_inner c n i hi, nps_pred c n i h0 (Nat.lt_of_succ_lt hi), Nat.mul_succ, Nat.add_sub_cancel_left]

/-- the first shard owns `[0, y]` (for `n ≥ 2`): `y + 1` values -/
theorem shard_width_first (c : Cfg) (hc : Proved c) (n : Nat) (h2 : 2 ≤ n) : nps c n 0 = yOf n := by
  rw [nps_inner c n 0 h2, Nat.zero_add, Nat.mul_one]

/-- the last shard absorbs the remainder of the division and nothing more: it owns `y + (2^64−1) mod n` values,
    fewer than `y + n` — the partition is balanced to within `n` hash values out of `2^64` -/
theorem shard_width_last (c : Cfg) (hc : Proved c) (n : Nat) (h2 : 2 ≤ n) :
    nps c n (n - 1) - nps c n (n - 2) = yOf n + M64 % n ∧ M64 % n < n := by
  have h1 : 1 < n := h2
  rw [nps_last hc n (Nat.le_of_lt h1), show n - 2 = n - 1 - 1 from rfl,
    nps_pred c n (n - 1) (Nat.sub_pos_of_lt h1) (Nat.sub_lt (Nat.zero_lt_of_lt h1) Nat.one_pos)]
  -- 2^64 − 1 = y·n + (2^64 − 1) mod n, and y·n = y·(n−1) + y
  have hdm : yOf n * n + M64 % n = M64 := by rw [Nat.mul_comm]; exact Nat.div_add_mod M64 n
  have hm : yOf n * (n - 1) + yOf n = yOf n * n := by
    rw [← Nat.mul_succ, Nat.succ_eq_add_one, Nat.sub_add_cancel (Nat.le_of_lt h1)]
  refine ⟨Nat.sub_eq_of_eq_add ?_, Nat.mod_lt _ (Nat.zero_lt_of_lt h1)⟩
  exact hdm.symm.trans (by rw [← hm, Nat.add_assoc, Nat.add_comm])

/-- the share of hashes routed to shard `i`: the number of `x < 2^64` with `searchIndex c n x = i` is the width above —
    stated pointwise: `x` goes to inner shard `i` iff `y·i < x ≤ y·(i+1)` -/
theorem shard_membership_inner (c : Cfg) (hc : Proved c) (n x i : Nat) (h1 : 1 ≤ n) (h2 : n ≤ M64) (hx : x < 2 ^ 64)
    (h0 : 0 < i) (hi : i + 1 < n) :
    searchIndex c n x = i ↔ (yOf n * i < x ∧ x ≤ yOf n * (i + 1)) := by
  rw [← nps_inner c n i hi, ← nps_pred c n i h0 (Nat.lt_of_succ_lt hi)]
  constructor
  · intro h
    have ht := partition_total c hc n x h1 h2 hx
    rw [h] at ht
    exact ⟨ht.2.2 h0, ht.2.1⟩
  · intro h
    exact partition_unique c hc n x h1 h2 hx i (Nat.lt_of_succ_lt hi) h.2 (fun _ => h.1)

/-- non-vacuity, 7 shards: the first boundary is `y`, the last shard is one value wider than the inner ones -/
example : nps cfgOk 7 0 = yOf 7 ∧ nps cfgOk 7 3 - nps cfgOk 7 2 = yOf 7 ∧ nps cfgOk 7 6 - nps cfgOk 7 5 = yOf 7 + 1 := by
  decide

theorem xhash_in_range (c : Cfg) (hc : Proved c) (hit : Bool) (n : Nat) (h1 : 1 ≤ n) (h2 : n ≤ M64) (k : Key)
    (hh : k.hash < 2 ^ 64) : ∀ i, xhashIndex c hit n k = .idx i → i < n := by
  intro i h
  rw [xhashIndex] at h
  split at h
  · cases h; exact search_in_range c hc n _ h1 h2 hh
  · cases h

/-- `SimpleIndex` of an integer / HitGroup key is in range whatever the conversion to `uint64` is -/
theorem simple_in_range (arm : KType → Nat → Option (BitVec 64)) (c : Cfg) (hc : Proved c) (hit : Bool) (n : Nat)
    (h1 : 1 ≤ n) (h2 : n ≤ M64) (k : Key) (hh : k.hash < 2 ^ 64) :
    ∀ i, simpleIndex arm c hit n k = .idx i → i < n := by
  intro i h
  rw [simpleIndex] at h
  split at h
  · cases h; exact Nat.mod_lt _ h1
  · exact xhash_in_range c hc hit n h1 h2 k hh i h

/-- every supported key gets an index under BOTH routes (no panic) — every key type of the property's quantifier:
all integer widths, strings, byte slices, `Bs` and `HitGroup` implementers — provided `ToBytes` has its `HitGroup` arm
(`hit = true`; regenerated, obligation `tie_hitgroup_hashable`). `arm` only needs to cover nothing: keys without an arm go
through their hash. -/
theorem route_total (arm : KType → Nat → Option (BitVec 64)) (c : Cfg) (n : Nat) (k : Key) (hk : k.ty ≠ .other) :
    (∃ i, simpleIndex arm c true n k = .idx i) ∧ (∃ i, xhashIndex c true n k = .idx i) := by
  have hx : xhashIndex c true n k = .idx (searchIndex c n k.hash) := by
    rw [xhashIndex, if_pos (hashable_of_listed k hk)]
  refine ⟨?_, _, hx⟩
  rw [simpleIndex]
  cases arm k.ty k.bits with
  | some it => exact ⟨_, rfl⟩
  | none => exact ⟨_, hx⟩

/-- the index is a function of the key's type, value and hash only (and of `n`): no hidden state -/
theorem route_deterministic (arm : KType → Nat → Option (BitVec 64)) (c : Cfg) (n : Nat) (k k' : Key)
    (hty : k.ty = k'.ty) (hb : k.bits = k'.bits) (hh : k.hash = k'.hash) :
    ∀ hit, simpleIndex arm c hit n k = simpleIndex arm c hit n k' ∧ xhashIndex c hit n k = xhashIndex c hit n k' := by
  intro hit
  simp [simpleIndex, xhashIndex, Key.hashable, hty, hb, hh]

/-- A `ToBytes` without a `HitGroup` arm (`hit = false`; the source before `fixes/C17-tobytes-hitgroup.diff`): under
xxhash routing a key type that implements only `HitGroup` panics `unsupported.type.for.slot` although the property's quantifier lists it — the property is false of that
source (monitor key `C17:XHashIndex:HitGroup-key-unsupported`, script `remap 3` / `xhash hit:5:0`). -/
theorem witness_hitgroup_unsupported_under_xhash (c : Cfg) (n h v : Nat) :
    xhashIndex c false n ⟨.hit, v, "", h⟩ = .panic := rfl

/-- Generic: a per-key-independent container (`Keyed`: the answer and the new slot of `k` depend only on
`k`'s slot; other slots are untouched) behind ANY routing function answers every request as the single
container does. -/
theorem sharded_equiv {S K R A V} (C : Keyed S K R A V) (idx : K → Nat) (s0 : S) (reqs : List (K × R)) :
    outs (shardedStep C idx) (fun _ => s0) reqs = outs (singleStep C) s0 reqs :=
  (sharded_sim C idx reqs (fun _ => s0) s0 (fun _ => rfl)).1

/-- instance: the sharded map (`cache.WideMap`) equals the single map (`cache.Map`) on every Set/Get/Exist/Delete
sequence, for every routing function — in particular modulo and xxhash routing with any shard count -/
theorem wmap_equals_map (idx : Key → Nat) (reqs : List (Key × MReq)) :
    outs (shardedStep mapKeyed idx) (fun _ => []) reqs = outs (singleStep mapKeyed) [] reqs :=
  sharded_equiv mapKeyed idx [] reqs

/-- with an in-range routing function only the shards `< n` are ever touched (the slice of `n` shards suffices) -/
theorem sharded_touches_only_range {S K R A V} (C : Keyed S K R A V) (idx : K → Nat) (n : Nat)
    (hidx : ∀ k, idx k < n) (sh : Nat → S) (req : K × R) (i : Nat) (hi : n ≤ i) :
    (shardedStep C idx sh req).1 i = sh i := by
  have : i ≠ idx req.1 := by have := hidx req.1; omega
  simp [shardedStep, this]

/-- instance LRU (`WideLRUCache`, both packages): capacity is applied per shard, so the sharded cache is
the product of per-shard caches, each seeing the sub-script routed to it (`Nv.C04.wide_run_per_shard`);
with the ideal-LRU refinement of C04 each shard answers as an ideal LRU of capacity `capacity/n + 1`. -/
theorem wlru_is_product_of_shards (c : Nv.C04.Cfg) (kd : Nv.C04.Kind) (idx : Nat → Nat) (n : Nat)
    (hidx : ∀ k, idx k < n) (cap : Int) (ops : List Nv.C04.Op) (hkeyed : ∀ o ∈ ops, o.key?.isSome = true) :
    ∃ w os, Nv.C04.wideRun c kd idx (Nv.C04.Wide.new cap n) ops = some (w, os) ∧
      ∀ i, i < n →
        w.shards[i]? = some (final (Nv.C04.step c kd) (Nv.C04.Lru.new (Nv.C04.shardCap cap n)) (Nv.C04.shardOps idx i ops)) ∧
        ((ops.zip os).filter (fun p => Nv.C04.routed idx i p.1)).map (·.2) =
          outs (Nv.C04.step c kd) (Nv.C04.Lru.new (Nv.C04.shardCap cap n)) (Nv.C04.shardOps idx i ops) := by
  obtain ⟨w, os, h1, -, h3⟩ := Nv.C04.wide_run_per_shard c kd idx n hidx ops hkeyed (Nv.C04.Wide.new cap n)
    (by simp [Nv.C04.Wide.new])
  exact ⟨w, os, h1, fun i hi => h3 i _ (by simp [Nv.C04.Wide.new, hi])⟩

example : outs (shardedStep mapKeyed (fun k => k.bits % 3)) (fun _ => [])
    [(⟨.i8, 255, "", 0⟩, .set 1), (⟨.i16, 65535, "", 0⟩, .set 2), (⟨.i8, 255, "", 0⟩, .get), (⟨.u8, 255, "", 0⟩, .exist)] =
    [.unit, .unit, .val (some 1), .bool false] := by decide +kernel

/-! ### key-locker groups and semaphore maps

Reference: `LockSt` — ONE table of holders with all-or-nothing admission (`acquire`), `release`, and the wake-up of the
blocked caller. A group keeps the holders of `k` in shard `idx k` (`ShLockSt`) and visits the keys of a multi-key call in
`shardOrder`. Per-key reader/writer semantics of the real lockers is C01/C02's subject; the hypothesis here is exactly
what they establish: a shard's answer for `k` depends on the entries of `k` only. -/

/-- For ANY routing function the sharded table answers every script — Lock/RLock/Locks/RLocks and their releases, in any
mix, through any API on the same key, READ lists with repeated keys included, legal or not — exactly as the single table: same grants, same blocked calls, same
wake-ups, same refusals. (Shard counts, primes, modulo or xxhash routing are all instances of `idx`; `cap` = readers
admitted per key at a time: 0 = unlimited for the key lockers, `rwRatio` for the semaphore maps — the wide semaphore
map and the single one must be built with the SAME ratio, whatever it is.) -/
theorem sharded_locks_equiv (cap : Nat) (idx : Key → Nat) (reqs : List LReq) :
    outs (shLockStep cap idx) ShLockSt.empty reqs = outs (lockStep cap) LockSt.empty reqs :=
  (Nv.C04.sim_outs (shLockStep cap idx) (lockStep cap)
    (fun s l => Rel idx s.shards l.holds ∧ s.waiter = l.waiter) (fun _ => True)
    (fun s l req hr _ => lock_step_sim cap idx s l hr.1 hr.2 req)
    reqs ShLockSt.empty LockSt.empty
    ⟨⟨fun h => by simp [ShLockSt.empty, LockSt.empty], fun i h hh => by simp [ShLockSt.empty] at hh⟩, rfl⟩
    (fun _ _ => trivial)).1

/-- the keys of a multi-key call are visited in ascending shard order, each exactly as often as it was given: two
callers never take two shards in opposite orders (the ordering argument against deadlock between shards; inside one
shard the caller's order is kept, as in the unsharded locker) -/
theorem lock_order_ascending (idx : Key → Nat) (keys : List Key) :
    AscendingBy idx (shardOrder idx keys) ∧ (shardOrder idx keys).Perm keys :=
  ⟨shardOrder_ascending idx keys, shardOrder_perm idx keys⟩

/-- a READ list may name a key twice: it is then held twice (as by the unsharded locker), and one single-key release
leaves one hold — a writer still blocks -/
example : outs (shLockStep 0 (fun k => k.bits % 3)) ShLockSt.empty
    [.acq 0 [⟨.i64, 5, "", 0⟩, ⟨.i64, 9, "", 0⟩, ⟨.i64, 5, "", 0⟩] false, .rel 0 [⟨.i64, 5, "", 0⟩] false,
     .acq 1 [⟨.i64, 5, "", 0⟩] true, .rel 0 [⟨.i64, 5, "", 0⟩] false, .acq 2 [⟨.i64, 5, "", 0⟩, ⟨.i64, 5, "", 0⟩] true] =
    [.granted, .released none, .parked, .released (some 1), .illegal] := by decide +kernel

/-- a concrete script: Locks([k]) through the multi-key API, then Lock(k) from another thread blocks, Unlock(k) through the
single-key API releases it and wakes the waiter -/
example : outs (shLockStep 0 (fun k => k.bits % 3)) ShLockSt.empty
    [.acq 0 [⟨.i64, 5, "", 0⟩] true, .acq 1 [⟨.i64, 5, "", 0⟩] true, .rel 0 [⟨.i64, 5, "", 0⟩] true, .rel 2 [⟨.i64, 5, "", 0⟩] true] =
    [.granted, .parked, .released (some 1), .illegal] := by decide +kernel

/-- a semaphore map with ratio 2: the third reader of a key blocks, readers of another key do not, and it is woken
by a release of ITS key only -/
example : outs (shLockStep 2 (fun k => k.bits % 3)) ShLockSt.empty
    [.acq 0 [⟨.str, 0, "6b", 1⟩] false, .acq 1 [⟨.str, 0, "6b", 1⟩] false, .acq 2 [⟨.str, 0, "6a", 2⟩] false,
     .acq 3 [⟨.str, 0, "6b", 1⟩] false, .rel 2 [⟨.str, 0, "6a", 2⟩] false, .rel 0 [⟨.str, 0, "6b", 1⟩] false] =
    [.granted, .granted, .granted, .parked, .released none, .released (some 3)] := by decide +kernel

/-- a request whose context is already done: granted on a free key, refused (without queueing) on a held one —
the same on the sharded and the single table (covered by `sharded_locks_equiv`, which quantifies over `acqDone` too) -/
example : outs (shLockStep 10 (fun k => k.bits % 3)) ShLockSt.empty
    [.acqDone 0 [⟨.str, 0, "6b", 1⟩] true, .acqDone 1 [⟨.str, 0, "6b", 1⟩] false, .acqDone 1 [⟨.str, 0, "6a", 2⟩] false,
     .rel 0 [⟨.str, 0, "6b", 1⟩] true, .acqDone 1 [⟨.str, 0, "6b", 1⟩] false] =
    [.granted, .refused, .granted, .released none, .granted] := by decide +kernel

/-! ### what the unproved configurations do -/

/-- without the last-boundary fix-up, 7 shards: hash 2^64−1 lies above `y·7 = 2^64−2`, the search returns 7,
the clamp sends it to shard 0 — not monotone, and not the interval the hash lies in -/
theorem witness_no_fixup :
    searchIndex ⟨false, .ge⟩ 7 (2 ^ 64 - 1) = 0 ∧ searchIndex ⟨false, .ge⟩ 7 (2 ^ 64 - 2) = 6 := by decide +kernel

/-- predicate `>` instead of `>=`: a hash equal to a boundary goes to the next shard, 2^64−1 to shard 0 -/
theorem witness_gt_predicate :
    searchIndex ⟨true, .gt⟩ 2 (2 ^ 64 - 1) = 0 ∧ searchIndex ⟨true, .gt⟩ 2 (2 ^ 64 - 2) = 1 := by decide +kernel

end Nv.C17
