import Nv.Model.C18
/-!
C18 — property theorems for `gormx.Transact` (model: `Nv.Model.C18`).
All statements quantify over every step list, every outcome per step and every
begin/commit result; the configuration `c` ranges over `Proved`.

The loop of `Transact` over `steps` is `Combine steps` run as a single function: it invokes `combineRan steps` steps and
ends the way `combine steps` does (`runSteps_eq`, `ranSteps_eq`). Everything about the first failing step is therefore
proved once, for `combine`/`combineRan`, and a begun transaction is `begin`, those steps, then `finish`
(`transact_begun`).
-/
namespace Nv.C18

theorem allOk_cons (o : StepOutcome) (rest : List StepOutcome) :
    allOk (o :: rest) = (isOk o && allOk rest) := by simp [allOk]

theorem combine_cons (o : StepOutcome) (rest : List StepOutcome) :
    combine (o :: rest) = if isOk o then combine rest else o := by
  cases o <;> rfl

theorem combineRan_cons (o : StepOutcome) (rest : List StepOutcome) :
    combineRan (o :: rest) = if isOk o then 1 + combineRan rest else 1 := by
  cases o <;> rfl

@[simp] theorem isOk_ok : isOk .ok = true := rfl

theorem isOk_combine (fns : List StepOutcome) : isOk (combine fns) = allOk fns := by
  induction fns with
  | nil => rfl
  | cons o rest ih => cases h : isOk o <;> simp [combine_cons, allOk_cons, h, ih]

theorem combine_append (g rest : List StepOutcome) :
    combine (g ++ rest) = if isOk (combine g) then combine rest else combine g := by
  induction g with
  | nil => rfl
  | cons o os ih => cases h : isOk o <;> simp [combine_cons, h, ih]

theorem combineRan_append (g rest : List StepOutcome) :
    combineRan (g ++ rest) = if isOk (combine g) then combineRan g + combineRan rest else combineRan g := by
  induction g with
  | nil => simp [combine, combineRan, isOk]
  | cons o os ih =>
    cases h : isOk o
    · simp [combine_cons, combineRan_cons, h]
    · simp only [List.cons_append, combine_cons, combineRan_cons, h, ih, if_true]
      cases isOk (combine os) <;> simp [Nat.add_assoc]

theorem combine_all_ok (fns : List StepOutcome) (h : allOk fns = true) :
    combineRan fns = fns.length ∧ combine fns = .ok := by
  induction fns with
  | nil => exact ⟨rfl, rfl⟩
  | cons o rest ih =>
    simp only [allOk_cons, Bool.and_eq_true] at h
    have := ih h.2
    simp [combineRan_cons, combine_cons, h.1, this]; omega

/-- `Combine` stops at the first failing function: it invokes exactly the all-ok prefix plus that function -/
theorem combine_early_exit (pre post : List StepOutcome) (bad : StepOutcome) (hpre : allOk pre = true)
    (hbad : isOk bad = false) :
    combineRan (pre ++ bad :: post) = pre.length + 1 ∧ combine (pre ++ bad :: post) = bad := by
  have hp := combine_all_ok pre hpre
  simp [combineRan_append, combine_append, combineRan_cons, combine_cons, hp, hbad]

/-- `Combine` nests: combining combined groups is combining the concatenation — same outcome … -/
theorem combine_flatten (groups : List (List StepOutcome)) :
    combine (groups.map combine) = combine groups.flatten := by
  induction groups with
  | nil => rfl
  | cons g rest ih => simp [combine_cons, combine_append, ih]

/-- … and the same number of leaf functions invoked (a group contributes the leaves it ran) -/
theorem nested_ran_flatten (groups : List (List StepOutcome)) :
    nestedRan groups = combineRan groups.flatten := by
  induction groups with
  | nil => rfl
  | cons g rest ih => simp [nestedRan, combineRan_append, ih]

example : combine ([[.ok, .ok], [.ok, .err 4, .ok], [.panic 1]].map combine) = .err 4 ∧
    nestedRan [[.ok, .ok], [.ok, .err 4, .ok], [.panic 1]] = 4 := by decide +kernel

/-- the step events of a run: indices `k, k+1, …` of the all-ok prefix and of the first failing step -/
def ranSteps : Nat → List StepOutcome → List Event
  | _, [] => []
  | k, .ok :: rest => .step k :: ranSteps (k+1) rest
  | k, _ :: _ => [.step k]

/-- how the loop ends when the function that decides it returns `o` -/
def loopEnd : StepOutcome → LoopEnd
  | .ok => .completed
  | .err e => .failed e
  | .panic v => .panicked (some v)
  | .panicNil => .panicked none

theorem runSteps_eq (k : Nat) (steps : List StepOutcome) :
    runSteps k steps = (ranSteps k steps, loopEnd (combine steps)) := by
  induction steps generalizing k with
  | nil => rfl
  | cons o rest ih => cases o <;> simp [runSteps, ranSteps, combine, loopEnd, ih]

theorem ranSteps_eq (k : Nat) (steps : List StepOutcome) :
    ranSteps k steps = (List.range' k (combineRan steps)).map .step := by
  induction steps generalizing k with
  | nil => rfl
  | cons o rest ih => cases o <;> simp [ranSteps, combineRan, ih, Nat.add_comm 1, List.range'_succ]

theorem mem_ranSteps (e : Event) (k : Nat) (steps : List StepOutcome) :
    e ∈ ranSteps k steps ↔ ∃ i, (k ≤ i ∧ i < k + combineRan steps) ∧ .step i = e := by
  simp [ranSteps_eq, List.mem_range'_1]

theorem transact_begun (c : Cfg) (commitOk : Bool) {steps : List StepOutcome} (hne : steps ≠ []) :
    transact c true commitOk steps =
      (.begin :: (ranSteps 0 steps ++ (finish c commitOk (loopEnd (combine steps))).1),
        (finish c commitOk (loopEnd (combine steps))).2) := by
  cases steps with
  | nil => exact absurd rfl hne
  | cons o rest => simp only [transact, runSteps_eq]; rfl

theorem seesPanic_of_proved (c : Cfg) (h : Proved c) (v : Option Nat) : seesPanic c v = true := by
  cases v with
  | some _ => rfl
  | none => simp [seesPanic, show c.detect = .finishedFlag from h]

/-- the deferred function finishes the transaction once, whatever it believes about panics -/
theorem finish_events (c : Cfg) (commitOk : Bool) (l : LoopEnd) :
    (finish c commitOk l).1 = [.commit] ∨ (finish c commitOk l).1 = [.rollback] := by
  cases l <;> simp [finish]
  split <;> simp

/-- with a detection that sees every panic: commit exactly when the deciding function returned nil, else roll back
and report that function's failure -/
theorem finish_loopEnd (c : Cfg) (hc : Proved c) (commitOk : Bool) (o : StepOutcome) :
    finish c commitOk (loopEnd o) =
      match o with
      | .ok => ([.commit], if commitOk then .nil else .commitErr)
      | .err e => ([.rollback], .stepErr e)
      | .panic v => ([.rollback], .panicErr (some v))
      | .panicNil => ([.rollback], .panicErr none) := by
  cases o <;> simp [loopEnd, finish, seesPanic_of_proved c hc]

/-- begun ⇒ finished exactly once (exactly one commit-or-rollback event); holds for *every* cfg -/
theorem tx_finished_once (c : Cfg) (commitOk : Bool) (steps : List StepOutcome) (hne : steps ≠ []) :
    let ev := (transact c true commitOk steps).1
    ev.count .commit + ev.count .rollback = 1 := by
  have hc : (ranSteps 0 steps).count .commit = 0 := List.count_eq_zero.2 (by simp [mem_ranSteps])
  have hr : (ranSteps 0 steps).count .rollback = 0 := List.count_eq_zero.2 (by simp [mem_ranSteps])
  simp only [transact_begun c commitOk hne, List.count_cons, List.count_append, hc, hr]
  rcases finish_events c commitOk (loopEnd (combine steps)) with h | h <;> simp [h]

/-- exact shape and order of the events: `begin`, then the steps in list order up to and including the first failing
    one, then exactly one finishing event — commit if all steps were ok, rollback otherwise -/
theorem tx_events_shape (c : Cfg) (hc : Proved c) (commitOk : Bool) (steps : List StepOutcome) (hne : steps ≠ []) :
    (transact c true commitOk steps).1 =
      .begin :: (ranSteps 0 steps ++ [if allOk steps then Event.commit else Event.rollback]) := by
  rw [transact_begun c commitOk hne, finish_loopEnd c hc, ← isOk_combine]
  cases combine steps <;> rfl

/-- committed iff every step returned nil without panicking -/
theorem tx_commit_iff_all_ok (c : Cfg) (hc : Proved c) (commitOk : Bool) (steps : List StepOutcome)
    (hne : steps ≠ []) :
    Event.commit ∈ (transact c true commitOk steps).1 ↔ allOk steps = true := by
  rw [tx_events_shape c hc commitOk steps hne]
  cases allOk steps <;> simp [mem_ranSteps]

/-- otherwise it is rolled back -/
theorem tx_rollback_iff_not_all_ok (c : Cfg) (hc : Proved c) (commitOk : Bool) (steps : List StepOutcome)
    (hne : steps ≠ []) :
    Event.rollback ∈ (transact c true commitOk steps).1 ↔ allOk steps = false := by
  rw [tx_events_shape c hc commitOk steps hne]
  cases allOk steps <;> simp [mem_ranSteps]

/-- a failure to begin runs no step and finishes nothing -/
theorem tx_begin_failure_runs_nothing (c : Cfg) (commitOk : Bool) (steps : List StepOutcome) (hne : steps ≠ []) :
    transact c false commitOk steps = ([.begin], .beginErr) := by
  cases steps with
  | nil => exact absurd rfl hne
  | cons o rest => rfl

/-- with no steps nothing is begun -/
theorem tx_empty_begins_nothing (c : Cfg) (b commitOk : Bool) : transact c b commitOk [] = ([], .nil) := rfl

/-- no step after the first failing one runs -/
theorem tx_no_step_after_failure (c : Cfg) (b commitOk : Bool) (pre post : List StepOutcome)
    (bad : StepOutcome) (hpre : allOk pre = true) (hbad : isOk bad = false) (i : Nat)
    (hi : Event.step i ∈ (transact c b commitOk (pre ++ bad :: post)).1) : i ≤ pre.length := by
  have hne : pre ++ bad :: post ≠ [] := by simp
  cases b with
  | false => simp [tx_begin_failure_runs_nothing c commitOk _ hne] at hi
  | true =>
    simp only [transact_begun c commitOk hne, List.mem_cons, List.mem_append, mem_ranSteps,
      (combine_early_exit pre post bad hpre hbad).1] at hi
    rcases hi with hi | ⟨j, hj, e⟩ | hi
    · cases hi
    · cases e; omega
    · rcases finish_events c commitOk (loopEnd (combine (pre ++ bad :: post))) with h | h <;> simp [h] at hi

/-- the first failing step does run, and every step before it -/
theorem tx_prefix_runs (c : Cfg) (commitOk : Bool) (pre post : List StepOutcome) (bad : StepOutcome)
    (hpre : allOk pre = true) (i : Nat) (hi : i ≤ pre.length) :
    Event.step i ∈ (transact c true commitOk (pre ++ bad :: post)).1 := by
  have hp := combine_all_ok pre hpre
  have hran : pre.length < combineRan (pre ++ bad :: post) := by
    rw [combineRan_append, hp.2, hp.1, combineRan_cons]
    cases isOk bad
    · simp
    · simp; omega
  rw [transact_begun c commitOk (by simp)]
  exact List.mem_cons_of_mem _ (List.mem_append_left _
    ((mem_ranSteps _ 0 _).2 ⟨i, ⟨Nat.zero_le i, by omega⟩, rfl⟩))

/-- the error returned: nil iff all steps ok and commit succeeded -/
theorem tx_result_nil_iff (c : Cfg) (hc : Proved c) (commitOk : Bool) (steps : List StepOutcome)
    (hne : steps ≠ []) :
    (transact c true commitOk steps).2 = .nil ↔ (allOk steps = true ∧ commitOk = true) := by
  rw [transact_begun c commitOk hne, finish_loopEnd c hc, ← isOk_combine]
  cases combine steps <;> cases commitOk <;> simp [isOk]

/-- first failing step's error, or the panic's description -/
theorem tx_result_first_failure (c : Cfg) (hc : Proved c) (commitOk : Bool) (pre post : List StepOutcome)
    (bad : StepOutcome) (hpre : allOk pre = true) :
    (transact c true commitOk (pre ++ bad :: post)).2 =
      match bad with
      | .ok => (transact c true commitOk (pre ++ bad :: post)).2
      | .err e => .stepErr e
      | .panic v => .panicErr (some v)
      | .panicNil => .panicErr none := by
  cases hb : isOk bad with
  | true => cases bad <;> first | rfl | cases hb
  | false =>
    rw [transact_begun c commitOk (by simp), (combine_early_exit pre post bad hpre hb).2, finish_loopEnd c hc]
    cases bad <;> rfl

/-- all steps ok but commit fails: commit error -/
theorem tx_result_commit_failure (c : Cfg) (steps : List StepOutcome) (hne : steps ≠ [])
    (hall : allOk steps = true) : (transact c true false steps).2 = .commitErr := by
  rw [transact_begun c false hne, (combine_all_ok steps hall).2]
  rfl

/-- `Combine fns` used as one step finishes the transaction like the list itself -/
theorem combine_spec (c : Cfg) (commitOk : Bool) (fns : List StepOutcome) (hne : fns ≠ []) :
    (transact c true commitOk [combine fns]).2 = (transact c true commitOk fns).2 ∧
    (Event.commit ∈ (transact c true commitOk [combine fns]).1 ↔ Event.commit ∈ (transact c true commitOk fns).1) := by
  have h1 : combine [combine fns] = combine fns := by cases combine fns <;> rfl
  rw [transact_begun c commitOk hne, transact_begun c commitOk (steps := [combine fns]) (by simp), h1]
  simp [mem_ranSteps]

/-- so a transaction over nested `Combine`s finishes like the transaction over the flat list -/
theorem tx_nested_combine (c : Cfg) (commitOk : Bool) (groups : List (List StepOutcome)) (hne : groups.flatten ≠ []) :
    (transact c true commitOk [combine (groups.map combine)]).2 = (transact c true commitOk groups.flatten).2 := by
  rw [combine_flatten]
  exact (combine_spec c commitOk groups.flatten hne).1

/-! ### non-vacuity and the witness for the unrepaired detection -/

example : Proved ⟨.finishedFlag, true⟩ := by decide
example : Proved ⟨.finishedFlag, false⟩ := by decide
example : ¬ Proved ⟨.recoverNonNil, false⟩ := by decide

/-- a concrete non-trivial run: second step panics ⇒ rollback, third never runs -/
example : transact ⟨.finishedFlag, true⟩ true true [.ok, .panic 7, .ok] =
    ([.begin, .step 0, .step 1, .rollback], .panicErr (some 7)) := by decide +kernel

/-- `recover() != nil` under a main module with go < 1.21: a step that does `panic(nil)` is
    committed and nil is returned — the property is false of that configuration. -/
theorem witness_recoverNonNil_panicNil :
    transact ⟨.recoverNonNil, true⟩ true true [.ok, .panicNil, .ok] =
      ([.begin, .step 0, .step 1, .commit], .nil) := by decide +kernel

theorem not_commit_iff_all_ok_recoverNonNil :
    ¬ (∀ steps : List StepOutcome, steps ≠ [] →
        (Event.commit ∈ (transact ⟨.recoverNonNil, true⟩ true true steps).1 ↔ allOk steps = true)) := by
  intro h
  have := (h [.ok, .panicNil, .ok] (by simp)).1 (by decide)
  simp [allOk, isOk] at this

end Nv.C18
