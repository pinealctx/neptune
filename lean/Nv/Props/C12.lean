import Nv.Proofs.C12Step
/-!
C12 — property theorems for the six queues (model: `Nv.Model.C12`).

The statements quantify over every queue state (any contents, any capacity, open or closed) and every operation /
operation sequence; `c` ranges over `Proved` (the shapes found in the source today). What is said of one call
(`step_ok`) and the FIFO equation over histories (`q_fifo_history`) do not depend on the shapes, except that a closed
SyncQueue must drop what is pushed.
-/
namespace Nv.C12

example : Proved Cfg.expected := by decide

/-! ### capacity: an ordinary add is refused exactly when the queue holds its capacity (0 = unbounded) -/

theorem q_full_iff (s : LQ) (x : Nat) (hc : s.closed = false) :
    ((addReq Shape.expected s x).2 = .full ↔ (0 < s.reqCap ∧ s.reqCap ≤ s.req.length)) ∧
    ((addReq Shape.expected s x).2 = .ok ↔ ¬ (0 < s.reqCap ∧ s.reqCap ≤ s.req.length)) := by
  unfold addReq fullAt
  by_cases h1 : 0 < s.reqCap <;> by_cases h2 : s.reqCap ≤ s.req.length <;> simp [Shape.expected, hc, h1, h2]

theorem mq_ctrl_full_iff (s : LQ) (x : Nat) (hc : s.closed = false) :
    ((addCtrl Shape.expected s x).2 = .ctrlFull ↔ (0 < s.ctrlCap ∧ s.ctrlCap ≤ s.ctrl.length)) ∧
    ((addCtrl Shape.expected s x).2 = .ok ↔ ¬ (0 < s.ctrlCap ∧ s.ctrlCap ≤ s.ctrl.length)) := by
  unfold addCtrl fullAt
  by_cases h1 : 0 < s.ctrlCap <;> by_cases h2 : s.ctrlCap ≤ s.ctrl.length <;> simp [Shape.expected, hc, h1, h2]

/-- a prior add is never refused for capacity: on an open queue it always succeeds and goes to the front -/
theorem q_prior_unbounded (s : LQ) (x : Nat) (hc : s.closed = false) :
    addPrior Shape.expected s x = ({ s with req := x :: s.req }, .ok) ∧
    addPriorCtrl Shape.expected s x = ({ s with ctrl := x :: s.ctrl }, .ok) := by
  simp [addPrior, addPriorCtrl, Shape.expected, hc]

/-- an accepted ordinary add goes to the back -/
theorem q_add_back (s : LQ) (x : Nat) (h : (addReq Shape.expected s x).2 = .ok) :
    (addReq Shape.expected s x).1 = { s with req := s.req ++ [x] } := by
  rcases addReq_cases Shape.expected s x with e | e | ⟨_, e⟩ <;> rw [e] at h ⊢ <;> cases h

theorem mq_addCtrl_back (s : LQ) (x : Nat) (h : (addCtrl Shape.expected s x).2 = .ok) :
    (addCtrl Shape.expected s x).1 = { s with ctrl := s.ctrl ++ [x] } := by
  rcases addCtrl_cases Shape.expected s x with e | e | e <;> rw [e] at h ⊢ <;> cases h

/-- a closed pipe queue / MQ refuses every add, leaving the state unchanged (even when it is also full) -/
theorem q_closed_refuses (s : LQ) (x : Nat) (hc : s.closed = true) :
    addReq Shape.expected s x = (s, .closed) ∧ addPrior Shape.expected s x = (s, .closed) ∧
    addCtrl Shape.expected s x = (s, .closed) ∧ addPriorCtrl Shape.expected s x = (s, .closed) := by
  simp [addReq, addPrior, addCtrl, addPriorCtrl, Shape.expected, hc]

/-- a closed SyncQueue silently drops every push -/
theorem syncq_closed_drops (s : LQ) (x : Nat) (hc : s.closed = true) :
    stepSync SyncShape.expected s (.add x) = (s, .ok) := by
  simp [stepSync, syncPush, SyncShape.expected, hc]

/-- after close, `Pop` fails even if items remain (state unchanged) -/
theorem q_pop_after_close (s : LQ) (hc : s.closed = true) : popNow Shape.expected false s = some (s, .closed) := by
  unfold popNow
  cases s.isEmpty <;> simp [Shape.expected, hc]

/-- `PopAnyway` hands out the next item whether or not the queue is closed; on an empty queue: closed → `closed`,
    open → the caller blocks -/
theorem q_popAnyway_spec (s : LQ) :
    popNow Shape.expected true s =
      match s.ctrl, s.req with
      | c :: cs, _ => some ({ s with ctrl := cs }, .val c)
      | [], r :: rs => some ({ s with req := rs }, .val r)
      | [], [] => if s.closed then some (s, .closed) else none := by
  unfold popNow takeFront LQ.isEmpty
  cases hc : s.ctrl <;> cases hr : s.req <;> simp [Shape.expected]

/-- on an open queue `Pop` behaves like `PopAnyway` -/
theorem q_pop_open (s : LQ) (hc : s.closed = false) : popNow Shape.expected false s = popNow Shape.expected true s := by
  unfold popNow; simp [hc]

def drainAnyway : Nat → LQ → List Out
  | 0, _ => []
  | n + 1, s => match popNow Shape.expected true s with
    | some r => r.2 :: drainAnyway n r.1
    | none => [.wouldBlock]

/-- draining a closed queue with `PopAnyway`: all control items in order, then all request items in order, then `closed` -/
theorem q_drain_after_close (s : LQ) (hc : s.closed = true) :
    drainAnyway (s.ctrl.length + s.req.length + 1) s = (s.ctrl ++ s.req).map .val ++ [.closed] := by
  obtain ⟨k, ctrl, req, cc, rc, cl, clr⟩ := s
  simp only at hc; subst hc
  induction ctrl with
  | nil =>
    induction req with
    | nil => simp [drainAnyway, q_popAnyway_spec]
    | cons r rs ih => simpa [drainAnyway, q_popAnyway_spec] using ih
  | cons c cs ih => simpa [drainAnyway, q_popAnyway_spec, Nat.add_right_comm _ 1] using ih

/-- MQ: control messages before requests — whenever a control item is queued, the next pop returns the oldest
    control item, whatever the request list holds -/
theorem mq_ctrl_first (s : LQ) (c : Nat) (cs : List Nat) (hs : s.ctrl = c :: cs) (anyway : Bool)
    (ho : anyway = true ∨ s.closed = false) :
    popNow Shape.expected anyway s = some ({ s with ctrl := cs }, .val c) := by
  unfold popNow takeFront LQ.isEmpty
  rcases ho with h | h <;> simp [Shape.expected, hs, h]

/-- SyncQueue: `Pop`/`TryPop` hand out the remaining items in order after close, and only then report closed -/
theorem syncq_drain_spec (s : LQ) :
    syncPopNow s = (match s.req with
      | x :: r => some ({ s with req := r }, .val x)
      | [] => if s.closed then some (s, .nil) else none) ∧
    syncTryPop SyncShape.expected s = (match s.req with
      | x :: r => ({ s with req := r }, .val x)
      | [] => if s.closed then (s, .closed) else (s, .none)) := by
  unfold syncPopNow syncTryPop
  cases s.req <;> simp [SyncShape.expected]

/-- try-close succeeds exactly when the queue is empty (an already closed queue reports true) -/
theorem mq_tryclose_iff (s : LQ) (hc : s.closed = false) :
    ((tryClose s).2 = .bool true ↔ (s.ctrl = [] ∧ s.req = [])) ∧
    ((tryClose s).1.closed = true ↔ (s.ctrl = [] ∧ s.req = [])) ∧
    ((tryClose s).2 = .bool true ∨ (tryClose s).2 = .bool false) := by
  unfold tryClose LQ.isEmpty
  cases h1 : s.ctrl <;> cases h2 : s.req <;> simp [hc]

theorem mq_tryclose_closed (s : LQ) (hc : s.closed = true) : tryClose s = (s, .bool true) := by
  simp [tryClose, hc]

/-- try-clear succeeds exactly when the queue is closed and empty (an already cleared queue reports true) -/
theorem mq_tryclear_iff (s : LQ) (hc : s.cleared = false) :
    ((tryClear s).2 = .bool true ↔ (s.closed = true ∧ s.ctrl = [] ∧ s.req = [])) ∧
    ((tryClear s).1.cleared = true ↔ (s.closed = true ∧ s.ctrl = [] ∧ s.req = [])) := by
  unfold tryClear LQ.isEmpty
  cases h0 : s.closed <;> cases h1 : s.ctrl <;> cases h2 : s.req <;> simp [hc]

/-- ordinary adds on an open unbounded queue are all accepted and queue up at the back in call order -/
theorem q_run_adds (b : Kind) (xs : List Nat) (s : LQ) (hc : s.closed = false) (hu : s.reqCap = 0) :
    final (stepPipe Shape.expected b) s (xs.map .add) = { s with req := s.req ++ xs } ∧
    outs (stepPipe Shape.expected b) s (xs.map .add) = xs.map (fun _ => .ok) := by
  induction xs generalizing s with
  | nil => simp
  | cons x xs ih =>
    have h1 : stepPipe Shape.expected b s (.add x) = ({ s with req := s.req ++ [x] }, .ok) := by
      simp [stepPipe, addReq, Shape.expected, hc, hu, fullAt]
    simpa [h1] using ih { s with req := s.req ++ [x] } hc hu

/-- prior adds are accepted whatever the bound and end up in front, the latest first -/
theorem q_run_priors (b : Kind) (xs : List Nat) (s : LQ) (hc : s.closed = false) :
    final (stepPipe Shape.expected b) s (xs.map .prior) = { s with req := xs.reverse ++ s.req } ∧
    outs (stepPipe Shape.expected b) s (xs.map .prior) = xs.map (fun _ => .ok) := by
  induction xs generalizing s with
  | nil => simp
  | cons x xs ih =>
    have h1 : stepPipe Shape.expected b s (.prior x) = ({ s with req := x :: s.req }, .ok) :=
      (q_prior_unbounded s x hc).1
    simpa [h1] using ih { s with req := x :: s.req } hc

/-- `n` pops (`Pop` on an open queue, or `PopAnyway` on any) hand out the first `n` queued items in queue order -/
theorem q_run_pops (b : Kind) (op : Op) (n : Nat) (s : LQ) (hs : s.ctrl = []) (hn : n ≤ s.req.length)
    (hop : (op = .pop ∧ s.closed = false) ∨ op = .popAnyway) :
    final (stepPipe Shape.expected b) s (List.replicate n op) = { s with req := s.req.drop n } ∧
    outs (stepPipe Shape.expected b) s (List.replicate n op) = (s.req.take n).map .val := by
  induction n generalizing s with
  | zero => simp
  | succ n ih =>
    cases hr : s.req with
    | nil => simp [hr] at hn
    | cons x r =>
      have h1 : stepPipe Shape.expected b s op = ({ s with req := r }, .val x) := by
        rcases hop with ⟨rfl, hc⟩ | rfl
        · simp [stepPipe, q_pop_open s hc, q_popAnyway_spec, hs, hr, orBlock]
        · simp [stepPipe, q_popAnyway_spec, hs, hr, orBlock]
      simpa [List.replicate_succ, h1, hr] using ih { s with req := r } hs (by simpa [hr] using hn) hop

/-- **FIFO.** From an empty open unbounded pipe queue: ordinary adds `xs`, prior adds `ps`, then pops — the pops
    hand out the prior items latest-first, then `xs` in call order. -/
theorem q_fifo (b : Kind) (xs ps : List Nat) (n : Nat) (k : Kind) (hn : n ≤ ps.length + xs.length) :
    outs (stepPipe Shape.expected b) (LQ.new k 0 0) (xs.map .add ++ ps.map .prior ++ List.replicate n .pop) =
      xs.map (fun _ => .ok) ++ ps.map (fun _ => .ok) ++ ((ps.reverse ++ xs).take n).map .val := by
  obtain ⟨fA, oA⟩ := q_run_adds b xs (LQ.new k 0 0) rfl rfl
  obtain ⟨fB, oB⟩ := q_run_priors b ps { LQ.new k 0 0 with req := (LQ.new k 0 0).req ++ xs } rfl
  rw [outs_append, outs_append, final_append, fA, oA, fB, oB,
    (q_run_pops b .pop n _ rfl (by simp [LQ.new]; omega) (.inl ⟨rfl, rfl⟩)).2]
  rfl

def addedIn (y : Nat) : LQ → List Op → Nat
  | _, [] => 0
  | s, op :: r => addCount y s op (step Cfg.expected s op).2 + addedIn y (step Cfg.expected s op).1 r

def poppedIn (y : Nat) : LQ → List Op → Nat
  | _, [] => 0
  | s, op :: r => popCount y (step Cfg.expected s op).2 + poppedIn y (step Cfg.expected s op).1 r

/-- **Conservation.** For every history on every list queue and every item value `y`: what is in the queue at the
    end plus what was handed out equals what was there at the start plus what was accepted. -/
theorem q_conservation (c : Cfg) (hc : Proved c) (ops : List Op) (s : LQ) (y : Nat) :
    (final (step c) s ops).items.count y + poppedIn y s ops = s.items.count y + addedIn y s ops := by
  cases hc
  induction ops generalizing s with
  | nil => simp [poppedIn, addedIn]
  | cons op r ih =>
    have h1 := (step_ok Cfg.expected rfl s op).conserves y
    have h2 := ih (step Cfg.expected s op).1
    simp only [final_cons, poppedIn, addedIn]
    omega

/-! ### FIFO for every history

For every history without front insertions (no prior add; for MQ no control traffic) — any mix of adds, `*Anyway`
adds, refused adds, `Pop`, `PopAnyway`, closes, try-closes … from ANY state (any contents, any bound, open or
closed): the sequence of items handed out, followed by what is still queued, IS the initial content followed by the
accepted adds in acceptance order. So the handed-out sequence is always a prefix of `initial ++ accepted`: first in,
first out, nothing lost, duplicated or reordered. (A prior add to an open queue goes to the very front, whatever it
holds: `q_prior_unbounded`; MQ control items always come first: `mq_ctrl_first`.) -/

def poppedSeq (c : Cfg) : LQ → List Op → List Nat
  | _, [] => []
  | s, op :: r => poppedOf (step c s op).2 ++ poppedSeq c (step c s op).1 r

def acceptedSeq (c : Cfg) : LQ → List Op → List Nat
  | _, [] => []
  | s, op :: r => acceptedOf s op (step c s op).2 ++ acceptedSeq c (step c s op).1 r

/-- **FIFO, every history**: handed out ++ still queued = initially queued ++ accepted (in acceptance order) — for
    every configuration whose SyncQueue drops what is pushed after close, as `acceptedOf` assumes -/
theorem q_fifo_history (c : Cfg) (hg : c.syncq.pushGuardsClosed = true) (ops : List Op) (s : LQ) (hc : s.ctrl = [])
    (hops : ∀ op ∈ ops, noFront op = true) :
    poppedSeq c s ops ++ (final (step c) s ops).req = s.req ++ acceptedSeq c s ops := by
  induction ops generalizing s with
  | nil => simp [poppedSeq, acceptedSeq]
  | cons op r ih =>
    have h1 := (step_ok c hg s op).fifo hc (hops op (by simp))
    have h2 := ih (step c s op).1 h1.1 (fun o ho => hops o (by simp [ho]))
    simp only [poppedSeq, acceptedSeq, final_cons, List.append_assoc]
    rw [h2, ← List.append_assoc, h1.2, List.append_assoc]

/-- hence: what has been handed out so far is a prefix of `initial ++ accepted` -/
theorem q_fifo_prefix (c : Cfg) (hp : Proved c) (ops : List Op) (s : LQ) (hc : s.ctrl = [])
    (hops : ∀ op ∈ ops, noFront op = true) : poppedSeq c s ops <+: s.req ++ acceptedSeq c s ops :=
  ⟨_, q_fifo_history c (by cases hp; rfl) ops s hc hops⟩

/-! ### capacity over histories — also what the parallel stress class checks on the real code

Every label of the concurrent system (C13) is one of these functions executed as one uninterrupted critical section
(`Cfg.sectionsAtomic`, `Facts.lockCovered`), so a statement about all sequences of steps is a statement about all
interleavings of whole calls. -/

def Bounded (s : LQ) : Prop := 0 < s.reqCap → s.req.length ≤ s.reqCap

theorem addReq_bounded (sh : Shape) (s : LQ) (x : Nat) (h : Bounded s) : Bounded (addReq sh s x).1 := by
  rcases addReq_cases sh s x with e | e | ⟨hf, e⟩ <;> rw [e]
  · exact h
  · exact h
  · intro hp
    have := h hp
    simp [fullAt, hp] at hf
    simp only [List.length_append, List.length_singleton]
    omega

theorem took_bounded {v : Nat} {s t : LQ} (ht : Took v s t) (h : Bounded s) : Bounded t := by
  cases ht
  · exact h
  · exact fun hp => Nat.le_of_succ_le (h hp)

theorem popLike_bounded {s : LQ} {r : LQ × Out} (hp : PopLike s r) (h : Bounded s) : Bounded r.1 := by
  rcases hp with ⟨_, h2, h3, _⟩ | ⟨v, _, ht⟩
  · unfold Bounded; rw [h2, h3]; exact h
  · exact took_bounded ht h

theorem stepPipe_bounded (sh : Shape) (k : Kind) (s : LQ) (op : Op) (h : Bounded s) (hnp : ∀ x, op ≠ .prior x) :
    Bounded (stepPipe sh k s op).1 := by
  cases op with
  | add x => exact addReq_bounded sh s x h
  | prior x => exact absurd rfl (hnp x)
  | addAny x rp =>
    exact addAnyway_rule (I := fun t _ => Bounded t) (Q := fun r => Bounded r.1) h h
      (fun t _ t' v hI hp => took_bounded (popNow_took hp) hI) (fun _ _ hI => hI)
      (fun t _ hI => addReq_bounded sh t x hI) (addReq_bounded sh s x h) rp
  | addCtrl | priorCtrl | addCtrlAny => exact h
  | _ => exact popLike_bounded (stepPipe_popLike sh k s _ rfl) h

/-- **Capacity, every history**: starting within the bound, no sequence of ordinary adds, `*Anyway` adds, pops, closes,
    try-closes … (anything but a prior add, which bypasses the bound by design) ever exceeds it — for the pipe queues. -/
theorem q_capacity_history (k : Kind) (ops : List Op) (s : LQ) (h : Bounded s)
    (hops : ∀ op ∈ ops, ∀ x, op ≠ .prior x) : Bounded (final (stepPipe Shape.expected k) s ops) :=
  final_inv _ Bounded (fun op => ∀ x, op ≠ .prior x) (stepPipe_bounded Shape.expected k) ops s h hops

/-- `m` pops no later than `e`: higher priority, or the same priority and pushed no later -/
def Before (m e : Entry) : Prop := e.prio < m.prio ∨ (e.prio = m.prio ∧ m.seq ≤ e.seq)

theorem before_trans {a b c : Entry} (h1 : Before a b) (h2 : Before b c) : Before a c := by
  unfold Before at *; omega

theorem less_before (e b : Entry) :
    Before (if less PriShape.expected e b then e else b) e ∧ Before (if less PriShape.expected e b then e else b) b := by
  unfold less Before
  simp only [PriShape.expected, if_true]
  split <;> split <;> simp_all <;> omega

theorem best_mem (sh : PriShape) (b : Entry) (l : List Entry) : best sh b l ∈ b :: l := by
  induction l generalizing b with
  | nil => exact List.mem_cons_self
  | cons e r ih =>
    rcases List.mem_cons.1 (ih (if less sh e b then e else b)) with h | h
    · rw [best, h]; split <;> simp
    · exact List.mem_cons_of_mem _ (List.mem_cons_of_mem _ h)

theorem best_spec (b : Entry) (l : List Entry) : ∀ e ∈ b :: l, Before (best PriShape.expected b l) e := by
  induction l generalizing b with
  | nil => intro e he; rw [List.mem_singleton.1 he]; exact Or.inr ⟨rfl, Nat.le_refl _⟩
  | cons x r ih =>
    intro e he
    have hb := less_before x b
    have := ih (if less PriShape.expected x b then x else b)
    rw [best]
    rcases List.mem_cons.1 he with rfl | he
    · exact before_trans (this _ List.mem_cons_self) hb.2
    · rcases List.mem_cons.1 he with rfl | he
      · exact before_trans (this _ List.mem_cons_self) hb.1
      · exact this e (List.mem_cons_of_mem _ he)

/-- **Priority order.** `Pop` returns nil exactly on an empty queue; otherwise it removes an entry of the queue
    that no other entry precedes: no entry has a higher priority, and none of the same priority was pushed earlier. -/
theorem priq_order (s : PQ) :
    (s.entries = [] → pqPop PriShape.expected s = (s, none)) ∧
    (s.entries ≠ [] → ∃ m, (pqPop PriShape.expected s).2 = some m ∧ m ∈ s.entries ∧
      (pqPop PriShape.expected s).1 = { s with entries := s.entries.erase m } ∧
      ∀ e ∈ s.entries, e.prio < m.prio ∨ (e.prio = m.prio ∧ m.seq ≤ e.seq)) := by
  unfold pqPop
  cases s.entries with
  | nil => simp
  | cons b l => exact ⟨nofun, fun _ => ⟨_, rfl, best_mem _ b l, rfl, best_spec b l⟩⟩

/-- a bounded priority queue refuses a push exactly when it already holds its capacity; an accepted push appends an
    entry stamped with the next sequence number -/
theorem priq_full_iff (s : PQ) (x : Nat) (p : Int) :
    ((pqPush PriShape.expected s x p).2 = .full ↔ s.cap ≤ (s.entries.length : Int)) ∧
    (¬ s.cap ≤ (s.entries.length : Int) →
      pqPush PriShape.expected s x p = ({ s with curSeq := s.curSeq + 1, entries := s.entries ++ [⟨p, s.curSeq + 1, x⟩] }, .ok)) := by
  unfold pqPush pqFull
  by_cases h : s.cap ≤ (s.entries.length : Int) <;> simp [PriShape.expected, h]

theorem pstep_cases (sh : PriShape) (s : PQ) (op : POp) :
    (∃ o, pstep sh s op = (s, o) ∧ (o = .full ∨ o = .nil ∨ ∃ n, o = .num n)) ∨
    (∃ x p, op = .push x p ∧
      pstep sh s op = ({ s with curSeq := s.curSeq + 1, entries := s.entries ++ [⟨p, s.curSeq + 1, x⟩] }, .ok)) ∨
    (∃ m ∈ s.entries, op = .pop ∧ pstep sh s op = ({ s with entries := s.entries.erase m }, .val m.item)) := by
  cases op with
  | push x p =>
    rw [pstep, pqPush]
    split
    · exact .inl ⟨_, rfl, .inl rfl⟩
    · exact .inr (.inl ⟨x, p, rfl, rfl⟩)
  | pop =>
    rw [pstep, pqPop]
    cases s.entries with
    | nil => exact .inl ⟨_, rfl, .inr (.inl rfl)⟩
    | cons b l => exact .inr (.inr ⟨_, best_mem sh b l, rfl, rfl⟩)
  | len => exact .inl ⟨_, rfl, .inr (.inr ⟨_, rfl⟩)⟩

/-- sequence numbers are fresh: every queued entry was stamped no later than `curSeq`, and stamps are distinct -/
def PWF (s : PQ) : Prop := (∀ e ∈ s.entries, e.seq ≤ s.curSeq) ∧ (s.entries.map (·.seq)).Nodup

/-- the queue lists its entries in push order: stamps strictly increase along `entries` and are bounded by `curSeq` -/
def PSorted (s : PQ) : Prop := (s.entries.map (·.seq)).Pairwise (· < ·) ∧ ∀ e ∈ s.entries, e.seq ≤ s.curSeq

theorem psorted_step (sh : PriShape) (s : PQ) (op : POp) (h : PSorted s) : PSorted (pstep sh s op).1 := by
  rcases pstep_cases sh s op with ⟨o, e, _⟩ | ⟨x, p, _, e⟩ | ⟨m, _, _, e⟩ <;> rw [e]
  · exact h
  · -- the new entry's stamp is above `curSeq`, hence above every stamp in the queue
    refine ⟨?_, fun e he => ?_⟩
    · simp only [List.map_append, List.pairwise_append, List.map_cons, List.map_nil, List.mem_singleton]
      refine ⟨h.1, List.pairwise_singleton _ _, fun a ha b hb => ?_⟩
      obtain ⟨e, he, rfl⟩ := List.mem_map.1 ha
      exact hb ▸ Nat.lt_succ_of_le (h.2 e he)
    · rcases List.mem_append.1 he with he | he
      · exact Nat.le_succ_of_le (h.2 e he)
      · rw [List.mem_singleton.1 he]; exact Nat.le_refl _
  · exact ⟨h.1.sublist (List.erase_sublist.map _), fun e he => h.2 e (List.erase_sublist.subset he)⟩

theorem psorted_run (sh : PriShape) (cap : Int) (ops : List POp) : PSorted (final (pstep sh) (PQ.new cap) ops) :=
  final_inv (pstep sh) PSorted (fun _ => True) (fun s i h _ => psorted_step sh s i h) ops _
    ⟨List.Pairwise.nil, nofun⟩ (fun _ _ => trivial)

/-- FIFO among equal priorities, over every history: the invariant holds after any operation sequence, so an entry
    pushed later carries a strictly larger stamp than every entry queued at that time (and `priq_order` then pops the
    earlier one first among equal priorities) -/
theorem priq_wf_run (cap : Int) (ops : List POp) : PWF (final (pstep PriShape.expected) (PQ.new cap) ops) :=
  have h := psorted_run PriShape.expected cap ops
  ⟨h.2, h.1.imp Nat.ne_of_lt⟩

/-- the stamp `curSeq + 1` given to the next accepted push is larger than every stamp in the queue -/
theorem priq_push_is_latest (s : PQ) (h : PWF s) :
    ∀ e ∈ s.entries, e.seq < (s.curSeq + 1) := fun e he => Nat.lt_succ_of_le (h.1 e he)

/-- **Highest priority first, FIFO among equal priorities.** `entries` lists the queued items in push order (an
    accepted push appends: `priq_full_iff`). `Pop` on a non-empty queue splits it as `pre ++ m :: post` and removes
    `m`, where everything pushed before `m` has a strictly lower priority and nothing pushed after it has a higher one:
    among the items of the highest priority, the one pushed first comes out. -/
theorem priq_pop_first_of_max (s : PQ) (hs : PSorted s) (hne : s.entries ≠ []) :
    ∃ pre m post, s.entries = pre ++ m :: post ∧
      (pstep PriShape.expected s .pop).2 = .val m.item ∧
      (pstep PriShape.expected s .pop).1.entries = pre ++ post ∧
      (∀ e ∈ pre, e.prio < m.prio) ∧ (∀ e ∈ post, e.prio ≤ m.prio) := by
  obtain ⟨m, hm, hmem, hst, hord⟩ := (priq_order s).2 hne
  obtain ⟨pre, post, hsplit⟩ := List.append_of_mem hmem
  have hpw := hs.1
  rw [hsplit] at hpw
  simp only [List.map_append, List.map_cons, List.pairwise_append, List.pairwise_cons, List.mem_map,
    List.mem_cons] at hpw
  have hpre : ∀ e ∈ pre, e.seq < m.seq := fun e he => hpw.2.2 e.seq ⟨e, he, rfl⟩ m.seq (Or.inl rfl)
  -- stamps before `m` are smaller than its own, so the `m` that `erase` finds is this one
  have hnot : m ∉ pre := fun h => Nat.lt_irrefl _ (hpre m h)
  have hpop : pqPop PriShape.expected s = ({ s with entries := pre ++ post }, some m) :=
    Prod.ext (by rw [hst, hsplit, List.erase_append_right _ hnot, List.erase_cons_head]) hm
  refine ⟨pre, m, post, hsplit, by simp only [pstep, hpop], by simp only [pstep, hpop], fun e he => ?_, fun e he => ?_⟩
  · have := hord e (by rw [hsplit]; simp [he])
    have := hpre e he
    omega
  · have := hord e (by rw [hsplit]; simp [he])
    omega

/-- … in every state any history can reach -/
theorem priq_fifo_among_equals (cap : Int) (ops : List POp)
    (hne : (final (pstep PriShape.expected) (PQ.new cap) ops).entries ≠ []) :
    ∃ pre m post, (final (pstep PriShape.expected) (PQ.new cap) ops).entries = pre ++ m :: post ∧
      (pstep PriShape.expected (final (pstep PriShape.expected) (PQ.new cap) ops) .pop).2 = .val m.item ∧
      (pstep PriShape.expected (final (pstep PriShape.expected) (PQ.new cap) ops) .pop).1.entries = pre ++ post ∧
      (∀ e ∈ pre, e.prio < m.prio) ∧ (∀ e ∈ post, e.prio ≤ m.prio) :=
  priq_pop_first_of_max _ (psorted_run _ cap ops) hne

def pitems (s : PQ) : List Nat := s.entries.map (·.item)

def ppopCount (y : Nat) : Out → Nat
  | .val v => if v = y then 1 else 0
  | _ => 0

def ppushCount (y : Nat) (op : POp) (o : Out) : Nat :=
  match op with
  | .push x _ => if x = y ∧ o = .ok then 1 else 0
  | _ => 0

theorem pstep_conservation (sh : PriShape) (s : PQ) (op : POp) (y : Nat) :
    (pitems (pstep sh s op).1).count y + ppopCount y (pstep sh s op).2 =
      (pitems s).count y + ppushCount y op (pstep sh s op).2 := by
  rcases pstep_cases sh s op with ⟨o, e, ho⟩ | ⟨x, p, rfl, e⟩ | ⟨m, hm, rfl, e⟩ <;> rw [e]
  · rcases ho with rfl | rfl | ⟨n, rfl⟩ <;> cases op <;> simp [ppopCount, ppushCount]
  · simp [pitems, ppopCount, ppushCount, List.count_append, List.count_singleton]
  · have := ((List.perm_cons_erase hm).map (·.item)).count_eq y
    simp only [pitems, ppopCount, ppushCount, List.map_cons, List.count_cons, beq_iff_eq] at this ⊢
    omega

def ppoppedIn (y : Nat) : PQ → List POp → Nat
  | _, [] => 0
  | s, op :: r => ppopCount y (pstep PriShape.expected s op).2 + ppoppedIn y (pstep PriShape.expected s op).1 r

def ppushedIn (y : Nat) : PQ → List POp → Nat
  | _, [] => 0
  | s, op :: r => ppushCount y op (pstep PriShape.expected s op).2 + ppushedIn y (pstep PriShape.expected s op).1 r

/-- **PriQueue conservation**, every history, every item value: queued at the end + handed out = queued at the start +
    accepted pushes -/
theorem priq_conservation (ops : List POp) (s : PQ) (y : Nat) :
    (pitems (final (pstep PriShape.expected) s ops)).count y + ppoppedIn y s ops =
      (pitems s).count y + ppushedIn y s ops := by
  induction ops generalizing s with
  | nil => simp [ppoppedIn, ppushedIn]
  | cons op r ih =>
    have h1 := pstep_conservation PriShape.expected s op y
    have h2 := ih (pstep PriShape.expected s op).1
    simp only [final_cons, ppoppedIn, ppushedIn]
    omega

/-! ### non-vacuity and the mutations of DESIGN Appendix B (the model with that shape violates the property) -/

/-- bound 2: third ordinary add refused, prior add accepted beyond the bound; close with residue; Pop fails,
    PopAnyway drains in order, then closed -/
example : outs (step Cfg.expected) (LQ.new .q 0 2)
    [.add 1, .add 2, .add 3, .prior 4, .pop, .close, .add 5, .pop, .popAnyway, .popAnyway, .popAnyway] =
    [.ok, .ok, .full, .ok, .val 4, .ok, .closed, .closed, .val 1, .val 2, .closed] := by decide

example : outs (pstep PriShape.expected) (PQ.new 3) [.push 1 1, .push 2 5, .push 3 1, .push 4 5, .pop, .pop, .pop, .pop] =
    [.ok, .ok, .ok, .full, .val 2, .val 1, .val 3, .nil] := by decide

/-- priorities are compared exactly (`Int`), also more than `MaxInt64` apart: `MaxInt64` pops before `-1` and
    `1` before `MinInt64` — a `Less` that takes the sign of the wrapped difference `pi - pj` gets both wrong -/
example : outs (pstep PriShape.expected) (PQ.new 4)
    [.push 1 (-1), .push 2 9223372036854775807, .push 3 (-9223372036854775808), .push 4 1, .pop, .pop, .pop, .pop] =
    [.ok, .ok, .ok, .ok, .val 2, .val 4, .val 1, .val 3] := by decide

/-- mutation "AddPriorReq honours the bound": a prior add is refused for capacity -/
theorem witness_prior_bounded :
    (addPrior { Shape.expected with priorBounded := true } { LQ.new .q 0 1 with req := [1] } 2).2 = .full := by decide

/-- mutation "pop: drop the checkClose branch": Pop drains after close -/
theorem witness_pop_ignores_close :
    popNow { Shape.expected with popChecksClosed := false } false { LQ.new .q 0 0 with req := [1], closed := true }
      = some ({ LQ.new .q 0 0 with req := [], closed := true }, .val 1) := by decide

/-- mutation "MQ Pop: request list before control list" -/
theorem witness_req_before_ctrl :
    (popNow { Shape.expected with ctrlFirst := false } false { LQ.new .mq 0 0 with ctrl := [1], req := [2] }).map (·.2)
      = some (.val 2) := by decide

/-- mutation "priq Less: seq > for ties": LIFO among equal priorities -/
theorem witness_tie_newest_first :
    outs (pstep { PriShape.expected with olderFirstOnTie := false }) (PQ.new 3) [.push 1 0, .push 2 0, .pop] =
      [.ok, .ok, .val 2] := by decide

end Nv.C12
