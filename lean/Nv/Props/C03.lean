import Nv.Proofs.C03Scan
import Nv.Proofs.C03Get
import Nv.Proofs.C03Cow8
import Nv.Proofs.C03RefWorld
/-!
C03 — property theorems for the B-tree (`ds/tree/btree`) and its locked wrapper (`ds/tree`).
Model: `Nv.Model.C03`; specification: `Nv.Spec.C03` (a strictly sorted item list).
Every statement quantifies over all trees satisfying the structural invariant `Tree.ok` (every
degree ≥ 2, every shape, every item list), all pivots, all callbacks/filters, all limits.
-/
namespace Nv.C03

theorem bt_inv_sorted (t : Tree) (h : t.ok = true) : Sorted t.inorder := by
  unfold Tree.ok at h
  unfold Tree.inorder
  cases hr : t.root with
  | none => exact List.Pairwise.nil
  | some r =>
    simp only [hr, Bool.and_eq_true] at h
    exact sorted_of_sortedKeys _ h.2.1.2

theorem bt_inv_length (t : Tree) (h : t.ok = true) : t.length = t.inorder.length := by
  unfold Tree.ok at h
  unfold Tree.inorder
  cases hr : t.root with
  | none => simp only [hr, Bool.and_eq_true] at h; simpa using h.2
  | some r => simp only [hr, Bool.and_eq_true] at h; simpa using h.2.2

theorem root_shape (t : Tree) (h : t.ok = true) (r : Node) (hr : t.root = some r) : Shape (height r) r := by
  unfold Tree.ok at h
  simp only [hr, Bool.and_eq_true] at h
  exact shape_of_rootOk _ _ r h.2.1.1

/-- `iterate` (the state machine shared by all scans), for every tree satisfying the invariant, every
    direction, start pivot (present, absent, below the minimum, above the maximum, or none), stop bound,
    inclusive/exclusive, initial `hit`, and every stateful callback: the callback is run over exactly the
    specified items, in scan order, until it answers `false` or `stop` is reached. -/
theorem bt_scan_spec {σ : Type} (t : Tree) (h : t.ok = true) (d : Dir) (q : Q σ) (hit : Bool) (st : σ) :
    t.iterate d q hit st =
      runCb q.cb ((specScan t.inorder d q.start (effIncl d q.incl hit)).takeWhile (beforeStop d q.stop)) st := by
  unfold Tree.iterate Tree.inorder
  cases hr : t.root with
  | none => cases d <;> cases q.start <;> simp [specScan, runCb]
  | some r =>
    have hso : Sorted r.inorder := by have := bt_inv_sorted t h; simpa [Tree.inorder, hr] using this
    cases d with
    | asc => exact node_iterate_asc q r hit st (root_shape t h r hr) hso
    | desc => exact node_iterate_desc q r hit st (root_shape t h r hr) hso

/-- the four pivot scans, with the argument tuples found in the source: the callback is handed exactly the
    items of the sorted set beyond the pivot, in scan order, up to and including the first it rejects -/
theorem bt_scan_named (c : Cfg) (hc : Proved c) (t : Tree) (h : t.ok = true) (p : Int) (cont : Item → Bool) :
    t.scan c.ascGe (some p) none cont = visited cont (specScan t.inorder .asc (some p) true) ∧
    t.scan c.ascGt (some p) none cont = visited cont (specScan t.inorder .asc (some p) false) ∧
    t.scan c.descLe (some p) none cont = visited cont (specScan t.inorder .desc (some p) true) ∧
    t.scan c.descLt (some p) none cont = visited cont (specScan t.inorder .desc (some p) false) := by
  obtain ⟨h1, h2, h3, h4, _, _, _, _⟩ := hc
  simp [Tree.scan, Tree.scanWith, h1, h2, h3, h4, Arg.eval, bt_scan_spec t h, effIncl, runCb_collect]

/-- the vendored scans without a start pivot / with a stop bound -/
theorem bt_scan_vendored (t : Tree) (h : t.ok = true) (p p2 : Int) (cont : Item → Bool) :
    t.scan argsAscend none none cont = visited cont t.inorder ∧
    t.scan argsDescend none none cont = visited cont t.inorder.reverse ∧
    t.scan argsAscendLessThan (some p) none cont = visited cont (t.inorder.takeWhile (fun x => decide (x.key < p))) ∧
    t.scan argsDescendGreaterThan (some p) none cont =
      visited cont (t.inorder.reverse.takeWhile (fun x => decide (p < x.key))) ∧
    t.scan argsAscendRange (some p) (some p2) cont =
      visited cont ((specScan t.inorder .asc (some p) true).takeWhile (fun x => decide (x.key < p2))) ∧
    t.scan argsDescendRange (some p) (some p2) cont =
      visited cont ((specScan t.inorder .desc (some p) true).takeWhile (fun x => decide (p2 < x.key))) := by
  simp [Tree.scan, Tree.scanWith, argsAscend, argsDescend, argsAscendLessThan, argsDescendGreaterThan,
    argsAscendRange, argsDescendRange, Arg.eval, bt_scan_spec t h, effIncl, runCb_collect, specScan]

/-- `iterWalk` (all four wrapper scans): the result is the first `n` items of the specified scan that pass
    the filter, for EVERY limit `n` (no bound: the configuration must not pre-size by `n`); `n = 0` gives the empty
    result, an empty tree gives the empty result -/
theorem bt_iterwalk_spec (c : Cfg) (hc : Proved c) (t : Tree) (h : t.ok = true) (k : Int) (f : Item → Bool) (n : Nat) :
    wAscendGte c t k f n = .items (((specScan t.inorder .asc (some k) true).filter f).take n) ∧
    wAscendGt c t k f n = .items (((specScan t.inorder .asc (some k) false).filter f).take n) ∧
    wDescendLte c t k f n = .items (((specScan t.inorder .desc (some k) true).filter f).take n) ∧
    wDescendLt c t k f n = .items (((specScan t.inorder .desc (some k) false).filter f).take n) := by
  obtain ⟨h1, h2, h3, h4, h5, _, h7, _⟩ := hc
  cases n with
  | zero => simp [wAscendGte, wAscendGt, wDescendLte, wDescendLt, iterWalk]
  | succ m =>
    have hn0 : ¬ ((m + 1 : Nat) : Int) = 0 := by omega
    have hn1 : ¬ ((m + 1 : Nat) : Int) < 0 := by omega
    simp only [wAscendGte, wAscendGt, wDescendLte, wDescendLt, iterWalk, hn0, hn1, if_false, Tree.scanWith, h7,
      h1, h2, h3, h4, Arg.eval, bt_scan_spec t h, effIncl, Int.toNat_natCast,
      runCb_walk c.limitCmp h5 (m + 1) f _ 0 [] (Nat.zero_le _), List.nil_append, Nat.sub_zero,
      Bool.or_false, Bool.not_false, Bool.and_true, beforeStop_none, takeWhile_true]
    simp

theorem bt_iterwalk_zero_and_empty (c : Cfg) (hc : Proved c) (t : Tree) (a : ScanArgs) (k : Int) (f : Item → Bool)
    (d : Nat) (hd : 2 ≤ d) (n : Nat) :
    iterWalk c t a k f 0 = .items [] ∧ wAscendGte c (Tree.new d) k f n = .items [] ∧
    wAscendGt c (Tree.new d) k f n = .items [] ∧ wDescendLte c (Tree.new d) k f n = .items [] ∧
    wDescendLt c (Tree.new d) k f n = .items [] := by
  have hok : (Tree.new d).ok = true := by simp [Tree.new, Tree.ok, hd]
  have hin : (Tree.new d).inorder = [] := rfl
  obtain ⟨h1, h2, h3, h4⟩ := bt_iterwalk_spec c hc (Tree.new d) hok k f n
  refine ⟨by simp [iterWalk], ?_, ?_, ?_, ?_⟩
  · rw [h1, hin]; simp [specScan]
  · rw [h2, hin]; simp [specScan]
  · rw [h3, hin]; simp [specScan]
  · rw [h4, hin]; simp [specScan]

/-! ### ordered-set equivalence and balance: every write operation -/

/-- `ReplaceOrInsert`: the in-order list becomes the sorted set with `x` stored (replacing an item with the
    same key), the item returned is the one replaced, and the structural invariant (sorted, degree bounds
    of every node, all leaves at one depth, `length` = item count) is kept — for every degree ≥ 2. -/
theorem bt_insert_refines (t : Tree) (x : Item) (h : t.ok = true) :
    (t.replaceOrInsert x).1.inorder = specInsert t.inorder x ∧
    (t.replaceOrInsert x).2 = specFind t.inorder x.key ∧
    (t.replaceOrInsert x).1.ok = true :=
  let r := tree_insert_spec t x h
  ⟨r.1, r.2.1, r.2.2.1⟩

/-- `Delete`: removes exactly the item with the key (if any) and returns it; invariant kept. -/
theorem bt_delete_refines (t : Tree) (k : Int) (h : t.ok = true) :
    (t.deleteItem (.item k)).1.inorder = specDelete t.inorder k ∧
    (t.deleteItem (.item k)).2 = specFind t.inorder k ∧
    (t.deleteItem (.item k)).1.ok = true :=
  let r := tree_delete_spec t (.item k) h
  ⟨r.1, r.2.1, r.2.2.1⟩

/-- `DeleteMin` / `DeleteMax` -/
theorem bt_delete_min_max (t : Tree) (h : t.ok = true) :
    (t.deleteItem .min).1.inorder = t.inorder.drop 1 ∧ (t.deleteItem .min).2 = t.inorder.head? ∧
    (t.deleteItem .min).1.ok = true ∧
    (t.deleteItem .max).1.inorder = t.inorder.dropLast ∧ (t.deleteItem .max).2 = t.inorder.getLast? ∧
    (t.deleteItem .max).1.ok = true :=
  let a := tree_delete_spec t .min h
  let b := tree_delete_spec t .max h
  ⟨a.1, a.2.1, a.2.2.1, b.1, b.2.1, b.2.2.1⟩

theorem specDelete_of_not_found (l : List Item) (k : Int) (h : specFind l k = none) : specDelete l k = l := by
  apply specDelete_none
  intro a ha hk
  simp only [specFind, List.find?_eq_none] at h
  exact h a ha (by simpa using hk)

/-- the wrapper's `Update(old, new)`: only if `old` is present, it is removed and `new` stored -/
theorem bt_update_refines (t : Tree) (old : Int) (new : Item) (h : t.ok = true) :
    (wUpdate t old new).1.inorder =
      (if (specFind t.inorder old).isSome then specInsert (specDelete t.inorder old) new else t.inorder) ∧
    (wUpdate t old new).2 = (specFind t.inorder old).isSome ∧
    (wUpdate t old new).1.ok = true := by
  obtain ⟨d1, d2, d3⟩ := bt_delete_refines t old h
  simp only [wUpdate]
  cases hf : specFind t.inorder old with
  | none =>
    rw [hf] at d2
    simp [d2, d1, d3, specDelete_of_not_found _ _ hf]
  | some y =>
    rw [hf] at d2
    obtain ⟨i1, _, i3⟩ := bt_insert_refines _ new d3
    simp [d2, i1, d1, i3]

/-- the wrapper's `UpdateOrInsert(old, new)`: `old` is removed if present, `new` is always stored -/
theorem bt_update_or_insert_refines (t : Tree) (old : Int) (new : Item) (h : t.ok = true) :
    (wUpdateOrInsert t old new).1.inorder = specInsert (specDelete t.inorder old) new ∧
    (wUpdateOrInsert t old new).2 = (specFind t.inorder old).isSome ∧
    (wUpdateOrInsert t old new).1.ok = true := by
  obtain ⟨d1, d2, d3⟩ := bt_delete_refines t old h
  obtain ⟨i1, _, i3⟩ := bt_insert_refines _ new d3
  simp only [wUpdateOrInsert]
  exact ⟨by rw [i1, d1], by rw [d2], i3⟩

/-- `Get`, `Has` -/
theorem bt_get (t : Tree) (k : Int) (h : t.ok = true) : t.get k = specFind t.inorder k := tree_get_spec t k h

/-- `Min`, `Max` -/
theorem bt_min_max (t : Tree) (h : t.ok = true) : t.min = t.inorder.head? ∧ t.max = t.inorder.getLast? :=
  tree_min_max_spec t h

/-- each key holds the most recently stored item; other keys are unaffected -/
theorem bt_most_recent (t : Tree) (x : Item) (k : Int) (h : t.ok = true) :
    (t.replaceOrInsert x).1.get x.key = some x ∧
    (k ≠ x.key → (t.replaceOrInsert x).1.get k = t.get k) := by
  obtain ⟨i1, _, i3⟩ := bt_insert_refines t x h
  constructor
  · rw [bt_get _ _ i3, i1]; exact specFind_specInsert x _ (bt_inv_sorted t h)
  · intro hk; rw [bt_get _ _ i3, i1, bt_get _ _ h]; exact specFind_specInsert_ne x k hk _

/-- the operations of a history -/
inductive Op
  | insert (x : Item) | delete (k : Int) | deleteMin | deleteMax
  | update (old : Int) (new : Item) | upsert (old : Int) (new : Item) | clear

def applyOp (t : Tree) : Op → Tree
  | .insert x => (t.replaceOrInsert x).1
  | .delete k => (t.deleteItem (.item k)).1
  | .deleteMin => (t.deleteItem .min).1
  | .deleteMax => (t.deleteItem .max).1
  | .update old new => (wUpdate t old new).1
  | .upsert old new => (wUpdateOrInsert t old new).1
  | .clear => t.clear

def specOp (l : List Item) : Op → List Item
  | .insert x => specInsert l x
  | .delete k => specDelete l k
  | .deleteMin => l.drop 1
  | .deleteMax => l.dropLast
  | .update old new => if (specFind l old).isSome then specInsert (specDelete l old) new else l
  | .upsert old new => specInsert (specDelete l old) new
  | .clear => []

theorem clear_ok (t : Tree) (h : t.ok = true) : t.clear.ok = true ∧ t.clear.inorder = [] := by
  unfold Tree.ok at h ⊢
  simp only [Bool.and_eq_true, decide_eq_true_eq] at h
  simp [Tree.clear, Tree.inorder, h.1]

/-- the invariant is preserved by every operation, and the in-order list follows the sorted set -/
theorem bt_inv_preserved (t : Tree) (op : Op) (h : t.ok = true) :
    (applyOp t op).ok = true ∧ (applyOp t op).inorder = specOp t.inorder op := by
  cases op with
  | insert x => exact ⟨(bt_insert_refines t x h).2.2, (bt_insert_refines t x h).1⟩
  | delete k => exact ⟨(bt_delete_refines t k h).2.2, (bt_delete_refines t k h).1⟩
  | deleteMin => exact ⟨(bt_delete_min_max t h).2.2.1, (bt_delete_min_max t h).1⟩
  | deleteMax => exact ⟨(bt_delete_min_max t h).2.2.2.2.2, (bt_delete_min_max t h).2.2.2.1⟩
  | update old new => exact ⟨(bt_update_refines t old new h).2.2, (bt_update_refines t old new h).1⟩
  | upsert old new => exact ⟨(bt_update_or_insert_refines t old new h).2.2, (bt_update_or_insert_refines t old new h).1⟩
  | clear => exact clear_ok t h

theorem new_ok (d : Nat) (hd : 2 ≤ d) : (Tree.new d).ok = true ∧ (Tree.new d).inorder = [] := by
  simp [Tree.new, Tree.ok, Tree.inorder, hd]

/-- after ANY sequence of operations from the empty tree of any degree ≥ 2, the tree satisfies the structural
    invariant and contains exactly what the sorted set contains (so every scan theorem above applies) -/
theorem bt_history (d : Nat) (hd : 2 ≤ d) (ops : List Op) :
    (ops.foldl applyOp (Tree.new d)).ok = true ∧
    (ops.foldl applyOp (Tree.new d)).inorder = ops.foldl specOp [] := by
  have gen : ∀ (ops : List Op) (t : Tree), t.ok = true →
      (ops.foldl applyOp t).ok = true ∧ (ops.foldl applyOp t).inorder = ops.foldl specOp t.inorder := by
    intro ops
    induction ops with
    | nil => intro t h; exact ⟨h, rfl⟩
    | cons op ops ih =>
      intro t h
      have p := bt_inv_preserved t op h
      have := ih _ p.1
      simp only [List.foldl_cons]
      rw [← p.2]; exact this
  have := gen ops (Tree.new d) (new_ok d hd).1
  rw [(new_ok d hd).2] at this
  exact this

/-- the wrapper's tree (degree from the source) starts valid -/
theorem bt_wrapper_new (c : Cfg) (hc : Proved c) : (wNew c).ok = true := (new_ok _ hc.2.2.2.2.2.1).1

/-! ### clone isolation (layer B: node store with owner tags and the shared free list) -/

/-- **Frame theorem**: a write (`ReplaceOrInsert`, `Delete`, `DeleteMin`, `DeleteMax`) through the tree tagged
    `t.cow` changes no store cell that existed before, is not owned by `t.cow`, and is not parked in the free
    list — every mutation is preceded by `mutableFor`, every reused cell comes from the free list. -/
theorem bt_cow_frame (t : Cow.HTree) (op : Cow.WOp) (H : Cow.Heap) (id : Nat) (hid : id < H.size)
    (htag : H.tag id ≠ some t.cow) (hfree : id ∉ H.free) :
    ((Cow.applyW t op) H).2.get id = H.get id := Cow.frame_write t op H id hid htag hfree

/-- ANY NUMBER of writes by ONE tree, in ANY store, leave every reading — at every depth — of a root separated from
    the writer's tag unchanged: no world invariant is assumed here, only `Sep`. -/
theorem bt_clone_isolated_partial (ops : List Cow.WOp) (t : Cow.HTree) (H : Cow.Heap) (r : Nat)
    (hsep : Cow.Sep H t.cow r) (fuel : Nat) :
    Cow.absNode (Cow.runW t H ops).2 fuel r = Cow.absNode H fuel r ∧
    Cow.heightB (Cow.runW t H ops).2 fuel r = Cow.heightB H fuel r :=
  Cow.writes_isolated ops t H r hsep fuel

/-- one write keeps a separated root separated (what makes the theorem above chain) -/
theorem bt_cow_sep_preserved (t : Cow.HTree) (op : Cow.WOp) (H : Cow.Heap) (r : Nat) (hsep : Cow.Sep H t.cow r) :
    Cow.Sep ((Cow.applyW t op) H).2 ((Cow.applyW t op) H).1.1.cow r :=
  (Cow.write_isolated t op H r hsep).2

/-- `Clone` establishes separation in both directions -/
theorem bt_clone_separates (H : Cow.Heap) (t : Cow.HTree) (c1 c2 : Nat) (r : Nat)
    (hfresh : ∀ id, H.tag id ≠ some c1 ∧ H.tag id ≠ some c2)
    (hlive : ∀ id, Cow.Reach H r id → id < H.size ∧ id ∉ H.free) :
    Cow.Sep H (Cow.cloneB t c1 c2).1.cow r ∧ Cow.Sep H (Cow.cloneB t c1 c2).2.cow r :=
  Cow.clone_sep H t c1 c2 r hfresh hlive

/-! ### store → value refinement, and clone isolation with free-list reuse

The store operations (layer B: cells with owner tags, `mutableFor` copies, one free list shared by all clones) compute
exactly what the value-level operations (layer A, the subject of the theorems above) compute on the tree a handle
denotes. The proof rests on one observation: in a well-formed subtree the in-order list is strictly sorted and every
non-root node holds an item, so no cell can occur twice in it and no item-less cell can occur inside it — which
separates the cells an operation rewrites from everything it only reads (`Nv/Proofs/C03Ref*.lean`). -/

/-- **Refinement B → A** for one write (`ReplaceOrInsert`, `Delete`/`DeleteMin`/`DeleteMax`, `Clear`) through a handle
    that denotes a valid tree of height `h` in a store whose parked cells hold nothing (`TreeWF`): afterwards the handle
    denotes the result of the layer-A operation, the returned item is the same, and the handle is well-formed again
    (so `bt_insert_refines`, `bt_delete_refines`, `bt_history`, the scan theorems … apply to what the store holds).
    Root copy, root split, `maybeSplitChild`, the three moves of `growChildAndRemove` (with `freeNode` of the merged
    sibling), the root collapse (with `freeNode` of the old root), and reuse of parked cells by `newNode` are covered. -/
theorem bt_store_refines (t : Cow.HTree) (H : Cow.Heap) (h : Nat) (w : Cow.TreeWF t H h) (op : Cow.WOp) :
    ∃ h', ((Cow.applyW t op) H).1.1.absAt ((Cow.applyW t op) H).2 h' = (Cow.applyA (t.absAt H h) op).1 ∧
      ((Cow.applyW t op) H).1.2 = (Cow.applyA (t.absAt H h) op).2 ∧
      Cow.TreeWF ((Cow.applyW t op) H).1.1 ((Cow.applyW t op) H).2 h' :=
  (Cow.write_refines t H h w op).imp (fun _ o => ⟨o.abs, o.ret, o.wf⟩)

/-- the in-order list a handle reads (`HTree.inorder`, which measures the height itself) is the in-order list of the
    tree it denotes -/
theorem bt_store_inorder (t : Cow.HTree) (H : Cow.Heap) (h : Nat) (w : Cow.TreeWF t H h) :
    t.inorder H = (t.absAt H h).inorder := by
  unfold Cow.HTree.inorder Cow.HTree.absAt Tree.inorder
  cases hr : t.root with
  | none => rfl
  | some r =>
    have rw0 := w.rootWF hr
    simp only [Option.map]
    rw [Cow.heightB_eq (t.degree - 1) _ (t.bounds w.degree).1 H h r rw0.kids rw0.sorted rw0.ne rw0.lt]

/-- **The world invariant, free list of ANY capacity**: in every world reached from `New(degree)` by ANY program of
    `Clone`s and writes through ANY handles, every handle denotes a valid tree; every cell it reaches exists, is not
    parked, and carries no other handle's tag; parked cells hold nothing and are pairwise different. (This discharges
    `hlive` of `bt_clone_separates` for histories.) -/
theorem bt_clone_world_invariant (degree cap : Nat) (hd : 2 ≤ degree) (ops : List Cow.POp) :
    (ops.foldl Cow.World.step (Cow.World.init degree cap)).WR := Cow.World.WR.run degree cap hd ops

/-- **Clone isolation, in full** (free list of any capacity — 32 in `btree.New` — shared by all clones; cells freed by
    one handle are reused by others): in ANY world reached by ANY program of clones and writes, a further write through
    handle `i` (1) makes handle `i` denote the layer-A result, and (2) leaves every handle `j ≠ i` itself, and every
    reading of its tree at every depth (hence its in-order list and every scan computed from it), unchanged. -/
theorem bt_clone_isolated (degree cap : Nat) (hd : 2 ≤ degree) (pre : List Cow.POp) (i : Nat) (op : Cow.WOp)
    (t : Cow.HTree) (hi : (pre.foldl Cow.World.step (Cow.World.init degree cap)).hs[i]? = some t) :
    let w := pre.foldl Cow.World.step (Cow.World.init degree cap)
    (∃ hh h', Cow.TreeWF t w.H hh ∧
      (w.step (.write i op)).hs[i]? = some ((Cow.applyW t op) w.H).1.1 ∧
      ((Cow.applyW t op) w.H).1.1.absAt (w.step (.write i op)).H h' = (Cow.applyA (t.absAt w.H hh) op).1 ∧
      ((Cow.applyW t op) w.H).1.2 = (Cow.applyA (t.absAt w.H hh) op).2) ∧
    ∀ (j : Nat) (u : Cow.HTree), j ≠ i → w.hs[j]? = some u →
      (w.step (.write i op)).hs[j]? = some u ∧
      ∀ r, u.root = some r → ∀ fuel,
        Cow.absNode (w.step (.write i op)).H fuel r = Cow.absNode w.H fuel r ∧
        Cow.heightB (w.step (.write i op)).H fuel r = Cow.heightB w.H fuel r :=
  ((Cow.World.WR.run degree cap hd pre).write i op t hi).2

/-- … so the in-order list every OTHER handle reads is the same before and after -/
theorem bt_clone_isolated_inorder (degree cap : Nat) (hd : 2 ≤ degree) (pre : List Cow.POp) (i : Nat) (op : Cow.WOp)
    (t : Cow.HTree) (hi : (pre.foldl Cow.World.step (Cow.World.init degree cap)).hs[i]? = some t)
    (j : Nat) (u : Cow.HTree) (hji : j ≠ i) (hj : (pre.foldl Cow.World.step (Cow.World.init degree cap)).hs[j]? = some u) :
    u.inorder ((pre.foldl Cow.World.step (Cow.World.init degree cap)).step (.write i op)).H =
      u.inorder (pre.foldl Cow.World.step (Cow.World.init degree cap)).H := by
  have hw := Cow.World.WR.run degree cap hd pre
  obtain ⟨_, _, h2⟩ := hw.write i op t hi
  obtain ⟨_, h3⟩ := h2 j u hji hj
  generalize pre.foldl Cow.World.step (Cow.World.init degree cap) = w at hw h3 hj hi
  unfold Cow.HTree.inorder
  cases hr : u.root with
  | none => rfl
  | some r =>
    simp only
    obtain ⟨hu, wu⟩ := hw.trees j u hj
    have rw0 := wu.rootWF hr
    have hmn := (u.bounds wu.degree).1
    have hsz : w.H.size ≤ (w.step (.write i op)).H.size := by
      rw [Cow.World.step_write op hi]
      exact (Cow.applyW_inv t op w.H).size
    rw [(h3 r hr _).2, (h3 r hr _).1,
      Cow.heightB_ge (u.degree - 1) _ hmn w.H hu r rw0.kids rw0.sorted rw0.ne rw0.lt _ hsz,
      Cow.heightB_eq (u.degree - 1) _ hmn w.H hu r rw0.kids rw0.sorted rw0.ne rw0.lt]

/-- a program in which parked cells ARE reused across handles (free list of capacity 4): fill handle 0, clone it,
    write to the clone, clear the clone into the free list (three cells get parked) … -/
def reusePre : List Cow.POp :=
  [1, 2, 3, 4, 5, 6, 7].map (fun k : Int => Cow.POp.write 0 (.insert ⟨k, k.toNat⟩)) ++
    [.clone 0, .write 1 (.insert ⟨8, 8⟩), .write 1 (.clear true)]

/-- … then insert and delete through the original (its path copies come out of the free list), clone again, delete
    through both, insert into the cleared handle -/
def reuseDemo : Cow.World :=
  (reusePre ++ ([.write 0 (.insert ⟨9, 9⟩), .write 0 (.remove (.item 4)), .clone 0, .write 2 (.remove .min),
      .write 0 (.remove .max), .write 1 (.insert ⟨5, 50⟩)] : List Cow.POp)).foldl Cow.World.step (Cow.World.init 2 4)

example : (reusePre.foldl Cow.World.step (Cow.World.init 2 4)).H.free = [4, 6, 5] := by decide +kernel
example : reuseDemo.H.free = [] ∧ reuseDemo.H.nodes.length = 13 := by decide +kernel
example : reuseDemo.hs.map (fun t => (t.inorder reuseDemo.H).map (·.val)) =
    [[1, 2, 3, 5, 6, 7], [50], [2, 3, 5, 6, 7, 9]] := by decide +kernel

/-- (the special case of a free list of capacity 0: the degree is unrestricted and no refinement is needed) **Clone isolation
    for arbitrary interleavings**: in ANY world reached from the empty tree by
    ANY program of `Clone`s and writes (insert, delete, delete-min/max, clear) through ANY of the handles — alternating
    writers included — a further write through handle `i` leaves handle `j ≠ i` itself, and every reading of its tree
    (the layer-A node at every depth, hence the in-order list and every scan result computed from it) unchanged. -/
theorem bt_clone_isolated_nofreelist (degree : Nat) (pre : List Cow.POp) (i : Nat) (op : Cow.WOp)
    (j : Nat) (u : Cow.HTree) (r : Nat) (hji : j ≠ i)
    (hj : (pre.foldl Cow.World.step (Cow.World.init degree 0)).hs[j]? = some u) (hr : u.root = some r) :
    ((pre.foldl Cow.World.step (Cow.World.init degree 0)).step (.write i op)).hs[j]? = some u ∧
    ∀ fuel,
      Cow.absNode ((pre.foldl Cow.World.step (Cow.World.init degree 0)).step (.write i op)).H fuel r =
        Cow.absNode (pre.foldl Cow.World.step (Cow.World.init degree 0)).H fuel r ∧
      Cow.heightB ((pre.foldl Cow.World.step (Cow.World.init degree 0)).step (.write i op)).H fuel r =
        Cow.heightB (pre.foldl Cow.World.step (Cow.World.init degree 0)).H fuel r := by
  have hwi := Cow.World.WI.run degree pre
  generalize pre.foldl Cow.World.step (Cow.World.init degree 0) = w at hwi hj ⊢
  cases hi : w.hs[i]? with
  | none => rw [Cow.World.step_write_none op hi]; exact ⟨hj, fun _ => ⟨rfl, rfl⟩⟩
  | some t =>
    refine ⟨?_, (hwi.write i op t hi).2 j u r hji hj hr⟩
    rw [Cow.World.step_write op hi]
    exact (List.getElem?_set_ne (fun e => hji e.symm)).trans hj

/-- a program with alternating writers (free list of capacity 0): fill handle 0, clone it, then write through the
    clone, the original, the clone again (with a clear in between): each handle reads its own sorted set -/
def altDemo : Cow.World :=
  ([1, 2, 3, 4, 5, 6, 7].map (fun k : Int => Cow.POp.write 0 (.insert ⟨k, k.toNat⟩)) ++
    ([.clone 0, .write 1 (.insert ⟨4, 400⟩), .write 0 (.remove (.item 2)), .write 1 (.remove .min),
     .write 0 (.insert ⟨9, 9⟩), .clone 1, .write 2 (.clear true), .write 1 (.insert ⟨8, 8⟩)] : List Cow.POp)).foldl
    Cow.World.step (Cow.World.init 2 0)

example : altDemo.hs.map (fun t => (t.inorder altDemo.H).map (·.val)) =
    [[1, 3, 4, 5, 6, 7, 9], [2, 3, 400, 5, 6, 7, 8], []] := by decide +kernel

/-- the invariant behind it, for every reachable world (free list of capacity 0): every cell reachable from a handle's
    root exists, is not parked (`hlive` of `bt_clone_separates`), and carries no OTHER handle's current tag -/
theorem bt_clone_world_invariant_nofreelist (degree : Nat) (ops : List Cow.POp) :
    (ops.foldl Cow.World.step (Cow.World.init degree 0)).WI := Cow.World.WI.run degree ops

/-- in every store reached by ANY program of clones and writes (insert, delete, delete-min/max, clear) from the
    empty tree, the two tags the next `Clone` takes are carried by no cell — the `hfresh` hypothesis of
    `bt_clone_separates`. (Its other hypothesis, `hlive` — every cell reachable from a root exists and is not parked in
    the free list — is the `own` clause of `bt_clone_world_invariant`.) -/
theorem bt_clone_tags_fresh (degree cap : Nat) (ops : List Cow.POp) :
    let w := ops.foldl Cow.World.step (Cow.World.init degree cap)
    ∀ id, w.H.tag id ≠ some w.next ∧ w.H.tag id ≠ some (w.next + 1) :=
  Cow.tagsBelow_fresh _ _ (Cow.World.good_run degree cap ops).1

/-- a concrete clone program on the store: build 1..7, clone, write to the clone; the original's cells are
    untouched while the clone owns the copied path -/
def cowDemo : Cow.HTree × Cow.HTree × Cow.Heap :=
  let b0 := [1, 2, 3, 4, 5, 6, 7].foldl (fun (s : Cow.HTree × Cow.Heap) (k : Int) =>
      let r := Cow.replaceOrInsertB s.1 ⟨k, k.toNat⟩ s.2; (r.1.1, r.2)) (⟨2, none, 0, 0⟩, Cow.Heap.init 32)
  let c := Cow.cloneB b0.1 1 2
  let w := Cow.replaceOrInsertB c.2 ⟨4, 400⟩ b0.2
  let w2 := Cow.deleteItemB w.1.1 (.item 1) w.2
  (c.1, w2.1.1, w2.2)

example : (cowDemo.1.inorder cowDemo.2.2).map (·.val) = [1, 2, 3, 4, 5, 6, 7] := by decide +kernel
example : (cowDemo.2.1.inorder cowDemo.2.2).map (·.val) = [2, 3, 400, 5, 6, 7] := by decide +kernel
/-- non-vacuity of `Sep`: in the store of `cowDemo` (reached by inserts, a clone, an insert and a delete through the
    clone) the original's root is separated from the clone's tag and the clone's root from the original's tag -/
example : Cow.Sep cowDemo.2.2 cowDemo.2.1.cow (cowDemo.1.root.getD 0) :=
  Cow.sep_of_test _ _ 4 _ (by decide +kernel)
example : Cow.Sep cowDemo.2.2 cowDemo.1.cow (cowDemo.2.1.root.getD 0) :=
  Cow.sep_of_test _ _ 4 _ (by decide +kernel)
/-- … and `Clear` through the clone (a write that parks the clone's own cells) leaves the original readable -/
example : (cowDemo.1.inorder ((Cow.clearB cowDemo.2.1 true) cowDemo.2.2).2).map (·.val) = [1, 2, 3, 4, 5, 6, 7] := by
  decide +kernel
example : cowDemo.1.owned cowDemo.2.2 = (0, 4) ∧ (cowDemo.2.1.owned cowDemo.2.2).1 > 0 := by decide +kernel

/-! ### non-vacuity, and witnesses that `Proved` is tight -/

/-- the configuration found on today's tree -/
def cfgToday : Cfg := ⟨⟨.asc, .pivot, .nil, true, false⟩, ⟨.asc, .pivot, .nil, false, false⟩,
    ⟨.desc, .pivot, .nil, true, false⟩, ⟨.desc, .pivot, .nil, false, false⟩, .ge, 2, .capped, .direct⟩

example : Proved cfgToday := by decide
example : Proved { cfgToday with limitCmp := .eq, wrapperDegree := 3 } := by decide

/-- a two-level tree of degree 2: keys 1 2 5 6 7 9 10 -/
def sampleTree : Tree :=
  ⟨2, some (.mk [⟨2, 2⟩, ⟨6, 6⟩] [.mk [⟨1, 1⟩] [], .mk [⟨5, 5⟩] [], .mk [⟨7, 7⟩, ⟨9, 9⟩, ⟨10, 10⟩] []]), 7⟩

/-- … which is what the model's own insert builds from the empty tree -/
example : let t := [1, 2, 5, 6, 7, 9, 10].foldl (fun t k => (t.replaceOrInsert ⟨k, k.toNat⟩).1) (Tree.new 2)
    t.inorder = sampleTree.inorder ∧ t.root.map Node.items = sampleTree.root.map Node.items ∧ t.length = 7 := by
  decide +kernel
example : sampleTree.ok = true := by decide +kernel
example : (sampleTree.scan cfgToday.ascGt (some 5) none (fun _ => true)).map (·.key) = [6, 7, 9, 10] := by decide +kernel
example : (sampleTree.scan cfgToday.descLt (some 8) none (fun i => decide (i.key ≠ 5))).map (·.key) = [7, 6, 5] := by
  decide +kernel
example : wDescendLte cfgToday sampleTree 9 (fun i => i.key % 3 != 0) 2 = .items [⟨7, 7⟩, ⟨5, 5⟩] := by decide +kernel

/-- if `AscendGreater` passed `includeStart = true`, the exclusive scan would return the pivot -/
theorem witness_ascGt_inclusive :
    (sampleTree.scan ⟨.asc, .pivot, .nil, true, false⟩ (some 5) none (fun _ => true)).map (·.key) = [5, 6, 7, 9, 10] := by
  decide +kernel

/-- if `DescendLess` passed `hit = true` … nothing changes descending (the pivot is still skipped); but an
    ascending exclusive scan started with `hit = true` returns the pivot -/
theorem witness_ascGt_hit :
    (sampleTree.scan ⟨.asc, .pivot, .nil, false, true⟩ (some 5) none (fun _ => true)).map (·.key) = [5, 6, 7, 9, 10] := by
  decide +kernel

/-- `iterWalk` with `c > n` would return `n + 1` items -/
theorem witness_limit_gt :
    wAscendGte { cfgToday with limitCmp := .gt } sampleTree 0 (fun _ => true) 2 = .items [⟨1, 1⟩, ⟨2, 2⟩, ⟨5, 5⟩] := by
  decide +kernel

/-- with the eager `make([]Node, 0, n)` the scan of a five-item tree faults for the limit `MaxInt64` (the obvious
    "no limit" idiom): the property's "any limit n" is false of that configuration -/
theorem witness_eager_prealloc_faults :
    wAscendGte { cfgToday with prealloc := .eager } sampleTree 0 (fun _ => true) 9223372036854775807 = .fault := by
  decide +kernel

/-- … and is at the mercy of the machine's memory from 2^24 cells on -/
theorem witness_eager_prealloc_memory :
    wAscendGte { cfgToday with prealloc := .eager } sampleTree 6 (fun _ => true) (2 ^ 40) =
      .itemsOrFault [⟨6, 6⟩, ⟨7, 7⟩, ⟨9, 9⟩, ⟨10, 10⟩] := by
  decide +kernel

theorem not_proved_eager_prealloc : ¬ Proved { cfgToday with prealloc := .eager } := by decide

/-- the capped pre-sizing gives the specified result for the same limit -/
example : wAscendGte cfgToday sampleTree 6 (fun _ => true) 9223372036854775807 =
    .items [⟨6, 6⟩, ⟨7, 7⟩, ⟨9, 9⟩, ⟨10, 10⟩] := by decide +kernel

/-- `Int.Less` as written (for every `Proved` configuration) is the order of the integers the keys denote — so a tree of
    `btree.Int` items is an instance of the model with `key := a.toInt`, for all 2^64 keys, the extremes included -/
theorem bt_int_less_is_order (c : Cfg) (hc : Proved c) (a b : BitVec 64) :
    intLessK c.intLess a b = decide (a.toInt < b.toInt) := by
  have h : c.intLess = .direct := hc.2.2.2.2.2.2.2
  rw [h]; simp [intLessK, BitVec.slt]

/-- the subtraction idiom is not that order: `MinInt64 - 1` wraps to `MaxInt64` -/
theorem witness_int_less_subtract :
    intLessK .subtract (BitVec.intMin 64) 1#64 = false ∧ (BitVec.intMin 64).toInt < (1#64).toInt := by decide

theorem not_proved_int_less_subtract : ¬ Proved { cfgToday with intLess := .subtract } := by decide

theorem not_proved_limit_gt : ¬ Proved { cfgToday with limitCmp := .gt } := by decide
theorem not_proved_ascGt_inclusive : ¬ Proved { cfgToday with ascGt := ⟨.asc, .pivot, .nil, true, false⟩ } := by decide

end Nv.C03
