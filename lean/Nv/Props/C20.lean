import Nv.Proofs.C20Byte
import Nv.Proofs.C20B64
import Nv.Proofs.C20Dur
import Nv.Proofs.C20Time
/-!
C20 — property theorems for the `tex` scalar wrappers (model `Nv.Model.C20`, reference `Nv.Spec.C20`).
Every statement quantifies over all byte strings / all values of the type; the configuration `c`
ranges over `Proved` (quotes checked before slicing, elements range-checked, strict SQL scanners). For the
original configuration (`Cfg.today`) and the legacy scanners the witnesses at the end show the property is false.

INDEX — clause of properties.jsonl#C20.statement → theorem(s)

"For each JSON- or SQL-adapted scalar type … decoding the encoder's output gives back the original value":
  * string-encoded int64 / uint64 ........ `i64_roundtrip`, `u64_roundtrip` (all of int64 / uint64, extremes included)
  * slash-separated byte list ............ `jsbyte_roundtrip` (every list, `[]` and one-element lists included)
  * unix-second time (JsUnixTime) ........ `unixtime_roundtrip` (on seconds), `unixtime_roundtrip_time` /
                                           `unixtime_roundtrip_whole_second` (on instants: exact iff nsec = 0 — the stated domain)
  * unix-nanosecond time (JsNanoTime) .... `nanotime_roundtrip` (on int64 ns), `nanotime_roundtrip_iff` (on instants: exact
                                           IFF the instant fits int64 ns; outside: `witness_nanotime_zero_time`,
                                           `witness_nanotime_year_2300` — a KNOWN FINDING, not repairable in this format)
  * second stamps (UnixStamp) ............ `stamp_roundtrip`; SQL form `sql_stamp_roundtrip` (also SQLTime2Unix)
  * SQL time adapters .................... `sql_unixnano_roundtrip_iff` (UnixNano2Time, same domain as JsNanoTime;
                                           `witness_sql_unixnano_zero_time`), `sql_unix_roundtrip` (Unix2Time, to the second)
  * durations ............................ `dur_roundtrip`, `duration_string_parses` (every int64 duration: zero, negative, Min/MaxInt64;
                                           the TOML form is the same `ParseDuration(String())` law)
  * base64 bytes ......................... `base64_roundtrip`
  * hex / base-32 integer strings ........ `hex_roundtrip_u16`, `hex_roundtrip_u32`, `hex_roundtrip_i16`, `hex_roundtrip_i32`
"Decoding any other input either fails or produces exactly the value that the text denotes: it never silently yields a
 different number (dropped digits, wrapped bytes)":
  * the strconv layer .................... `parse_int_exact`, `parse_int_complete`, `parse_int_never_wraps`, `parse_uint_exact`,
                                           `parse_uint_complete`, `parse_uint_never_wraps`, `hex_parse_exact`, `hex_parse_exact_u`
  * every JSON wrapper, EVERY byte string  `unmarshal_exact_or_error`, `i64_exact_or_error`, `u64_exact_or_error`,
                                           `unixtime_exact_or_error`, `nanotime_exact_or_error`, `stamp_exact_or_error`,
                                           `unmarshal_complete_quoted`, `unmarshal_range_quoted`
  * byte lists, "wrapped bytes" .......... `jsbyte_exact_or_error`, `jsbyte_no_wrap`, `jsbyte_no_dropped_elements`
  * Duration ............................. `dur_exact_or_error` (only the quoted / whole text reaches the parser; exactness of the
                                           parser itself is relative to the hand-written model of `time.ParseDuration`)
  * SQL scanners ......................... `scan_exact_or_error`, `scan_complete`, `scan_refuses_unsupported`, `stamp_scan_exact_or_error`
  * tex.ToString / MapVal2String / ToStringList on the integer kinds: `tostring_denotes`, `tostring_decodes_back_signed`,
    `tostring_decodes_back_unsigned`, `tostring_is_marshal_text` (false of the `int(v)` shape: `witness_tostring_maxuint64`)
  * no panic on any JSON token ........... `panic_only_lone_quote`, `proved_panics_only_on_lone_quote`
  * false of the unrepaired code ......... `witness_*`, `not_exact_or_error_today`, `not_no_wrap_today`, `not_scan_exact_legacy`
Only monitor-checked / correspondence-checked (no theorem):
  * that encoding/json and jsoniter hand the raw token to UnmarshalJSON (three delivery paths compared on every token);
  * the modelled library functions themselves (strconv, time.ParseDuration/String incl. its float64 fraction step,
    time.Unix/Unix/UnixNano, encoding/base64, strings.Split) — validated against the real ones on every run;
  * base64 beyond the round trip: the non-strict decoder accepts non-canonical tails and skips CR/LF (as coded);
  * `Duration.Duration()`, `UnmarshalTOML`, `JsByte.ToString/FromString` wiring (pinned facts + monitors);
  * that an encoder result the caller still holds is not changed by later encodes (harness rule, not expressible in the pure model).
-/
namespace Nv.C20

/-- `Atoi` (= `ParseInt(s,10,64)`) sound: a result is the value of sign + digits, inside int64 -/
theorem parse_int_exact (s : Bytes) (v : Int) (h : atoi s = .ok v) :
    denotesCore s v ∧ -(2 ^ 63 : Int) ≤ v ∧ v < 2 ^ 63 :=
  denotesCore_of_parseInt (bits := 64) (by omega) h

/-- … complete: every denoted number inside int64 is returned -/
theorem parse_int_complete (s : Bytes) (v : Int) (hd : denotesCore s v) (hlo : -(2 ^ 63 : Int) ≤ v) (hhi : v < 2 ^ 63) :
    atoi s = .ok v := by
  rw [atoi, parseInt_denotesCore (bits := 64) (by omega) hd, if_pos ⟨hlo, hhi⟩]

/-- … and a denoted number outside int64 is a range error, never a wrapped value -/
theorem parse_int_never_wraps (s : Bytes) (v : Int) (hd : denotesCore s v) (hout : v < -(2 ^ 63 : Int) ∨ 2 ^ 63 ≤ v) :
    atoi s = .err .range := by
  rw [atoi, parseInt_denotesCore (bits := 64) (by omega) hd, if_neg (by omega)]

/-- `ParseUint(s,10,64)`: all digits, exact value, below 2^64 -/
theorem parse_uint_exact (s : Bytes) (n : Nat) (h : parseUint 10 64 s = .ok n) : DecDigits s ∧ n = decVal s ∧ n < 2 ^ 64 :=
  parseUint10_ok h

theorem parse_uint_complete (s : Bytes) (hd : DecDigits s) (hv : decVal s < 2 ^ 64) : parseUint 10 64 s = .ok (decVal s) := by
  rw [parseUint10_digits hd, if_pos hv]

theorem parse_uint_never_wraps (s : Bytes) (hd : DecDigits s) (hv : 2 ^ 64 ≤ decVal s) : parseUint 10 64 s = .err .range := by
  rw [parseUint10_digits hd, if_neg (by omega)]

/-- hex / base-32 parse: sign + digits of the base, exact value, inside int64 -/
theorem hex_parse_exact (base : Nat) (s : Bytes) (v : Int) (h : parseInt base 64 s = .ok v) :
    ∃ (neg : Bool) (t : Bytes), (s = t ∨ s = 43 :: t ∨ s = 45 :: t) ∧ (neg = true ↔ s = 45 :: t) ∧ t ≠ [] ∧
      BaseDigits base t ∧ v = (if neg then -(baseVal base 0 t : Int) else (baseVal base 0 t : Int)) ∧
      -(2 ^ 63 : Int) ≤ v ∧ v < 2 ^ 63 := by
  obtain ⟨hr, ⟨hne, hd, hv⟩ | ⟨t, rfl, hne, hd, hv⟩ | ⟨t, rfl, hne, hd, hv⟩⟩ := parseInt_ok base (bits := 64) (by omega) h
  · exact ⟨false, s, Or.inl rfl, by simp, hne, hd, hv, hr⟩
  · exact ⟨false, t, Or.inr (Or.inl rfl), by simp, hne, hd, hv, hr⟩
  · exact ⟨true, t, Or.inr (Or.inr rfl), by simp, hne, hd, hv, hr⟩

/-- generic form: an integer wrapper that checks its quotes decodes `b` to `v` only if `b` denotes `v` -/
theorem unmarshal_exact_or_error (w : Wrap) (hw : w.Checked) (hp : w.parser = .atoi ∨ w.parser = .parseUint64)
    (b : Bytes) (v : Int) (h : decodeInt w b = .ok v) : denotes b v := by
  rcases hp with hp | hp
  · exact (decodeInt_exact_atoi hw hp h).1
  · exact (decodeInt_exact_parseUint64 hw hp h).1

theorem i64_exact_or_error (c : Cfg) (hc : Proved c) (b : Bytes) (v : Int) (h : decodeInt c.i64 b = .ok v) :
    denotes b v ∧ -(2 ^ 63 : Int) ≤ v ∧ v < 2 ^ 63 :=
  decodeInt_exact_atoi hc.parts.i64.checked hc.parts.i64.parser h

theorem u64_exact_or_error (c : Cfg) (hc : Proved c) (b : Bytes) (v : Int) (h : decodeInt c.u64 b = .ok v) :
    denotes b v ∧ 0 ≤ v ∧ v < 2 ^ 64 :=
  decodeInt_exact_parseUint64 hc.parts.u64.checked hc.parts.u64.parser h

theorem unixtime_exact_or_error (c : Cfg) (hc : Proved c) (b : Bytes) (v : Int) (h : decodeInt c.unixTime b = .ok v) :
    denotes b v :=
  (decodeInt_exact_atoi hc.parts.unixTime.checked hc.parts.unixTime.parser h).1

theorem nanotime_exact_or_error (c : Cfg) (hc : Proved c) (b : Bytes) (v : Int) (h : decodeInt c.nanoTime b = .ok v) :
    denotes b v :=
  (decodeInt_exact_atoi hc.parts.nanoTime.checked hc.parts.nanoTime.parser h).1

theorem stamp_exact_or_error (c : Cfg) (hc : Proved c) (b : Bytes) (v : Int) (h : decodeInt c.stamp b = .ok v) :
    denotes b v :=
  (decodeInt_exact_atoi hc.parts.stamp.checked hc.parts.stamp.parser h).1

/-- JsByte: a decoded list is exactly the denoted list -/
theorem jsbyte_exact_or_error (c : Cfg) (hc : Proved c) (b : Bytes) (l : List Nat)
    (h : decodeBytes c.byte c.byteConv b = .ok l) : denotesBytes b l := by
  rw [hc.parts.byteConv] at h
  exact decodeBytes_exact hc.parts.byte.checked h

/-- JsByte: every decoded element lies in 0…255 (that it is the denoted number itself is `jsbyte_exact_or_error`) -/
theorem jsbyte_no_wrap (c : Cfg) (hc : Proved c) (b : Bytes) (l : List Nat)
    (h : decodeBytes c.byte c.byteConv b = .ok l) : ∀ x ∈ l, x ≤ 255 := by
  rcases jsbyte_exact_or_error c hc b l h with ⟨s, _, hd⟩ | hd <;>
  · rcases hd with ⟨_, rfl⟩ | ⟨_, hr⟩
    · intro x hx; cases hx
    · exact listRel_le_255 hr

theorem listRel_length {α β : Type} {R : α → β → Prop} {as : List α} {bs : List β} (h : ListRel R as bs) :
    as.length = bs.length := by
  induction h with
  | nil => rfl
  | cons _ _ ih => simp [ih]

/-- JsByte: no element is dropped or invented — a decoded list has exactly one element per `/`-separated piece of the
    text, whatever its length (300 elements, 70 000 elements) -/
theorem jsbyte_no_dropped_elements (c : Cfg) (hc : Proved c) (s : Bytes) (l : List Nat) (hs : s ≠ [])
    (h : decodeBytes c.byte c.byteConv (34 :: (s ++ [34])) = .ok l) : l.length = (splitSlash s).length := by
  rcases denotesList_of_denotesBytes_quoted (jsbyte_exact_or_error c hc _ l h) with ⟨he, _⟩ | ⟨_, hr⟩
  · exact absurd he hs
  · exact (listRel_length hr).symm

/-- Duration: only a quoted (or entirely bare) text is handed to `ParseDuration` — never a slice of something else -/
theorem dur_exact_or_error (c : Cfg) (hc : Proved c) (b : Bytes) (d : Int) (h : decodeDur c.dur b = .ok d) :
    (∃ s, b = 34 :: (s ++ [34]) ∧ parseDuration s = .ok d) ∨ parseDuration b = .ok d := by
  unfold decodeDur at h
  split at h
  · cases h
  · rcases strip_checked hc.parts.dur.checked b with hs | hs | ⟨s, hb, hs⟩ | ⟨hs, _⟩ <;> rw [hs] at h
    · cases h
    · exact Or.inr h
    · exact Or.inl ⟨s, hb, h⟩
    · cases h

theorem i64_roundtrip (c : Cfg) (hc : Proved c) (v : Int) (hlo : -(2 ^ 63 : Int) ≤ v) (hhi : v < 2 ^ 63) :
    decodeInt c.i64 (encodeInt v) = .ok v :=
  decodeInt_encodeInt _ hc.parts.i64.checked.ne_unknown hc.parts.i64.minLen_le hc.parts.i64.parser v hlo hhi

theorem u64_roundtrip (c : Cfg) (hc : Proved c) (n : Nat) (hn : n < 2 ^ 64) :
    decodeInt c.u64 (encodeNat n) = .ok (n : Int) :=
  decodeInt_encodeNat _ hc.parts.u64.checked.ne_unknown hc.parts.u64.minLen_le hc.parts.u64.parser n hn

/-- JsUnixTime over unix seconds (`time.Unix(s,0).Unix() = s` is the modelled library law) -/
theorem unixtime_roundtrip (c : Cfg) (hc : Proved c) (v : Int) (hlo : -(2 ^ 63 : Int) ≤ v) (hhi : v < 2 ^ 63) :
    decodeInt c.unixTime (encodeInt v) = .ok v :=
  decodeInt_encodeInt _ hc.parts.unixTime.checked.ne_unknown hc.parts.unixTime.minLen_le hc.parts.unixTime.parser v hlo hhi

/-- JsNanoTime over unix nanoseconds -/
theorem nanotime_roundtrip (c : Cfg) (hc : Proved c) (v : Int) (hlo : -(2 ^ 63 : Int) ≤ v) (hhi : v < 2 ^ 63) :
    decodeInt c.nanoTime (encodeInt v) = .ok v :=
  decodeInt_encodeInt _ hc.parts.nanoTime.checked.ne_unknown hc.parts.nanoTime.minLen_le hc.parts.nanoTime.parser v hlo hhi

theorem stamp_roundtrip (c : Cfg) (hc : Proved c) (v : Int) (hlo : -(2 ^ 63 : Int) ≤ v) (hhi : v < 2 ^ 63) :
    decodeInt c.stamp (encodeInt v) = .ok v :=
  decodeInt_encodeInt _ hc.parts.stamp.checked.ne_unknown hc.parts.stamp.minLen_le hc.parts.stamp.parser v hlo hhi

/-- JsByte, every list of bytes (empty and one-element lists included) -/
theorem jsbyte_roundtrip (c : Cfg) (hc : Proved c) (l : List Nat) (hl : ∀ x ∈ l, x < 256) :
    decodeBytes c.byte c.byteConv (encodeBytes l) = .ok l :=
  decodeBytes_encodeBytes _ hc.parts.byte.checked.ne_unknown hc.parts.byte.minLen_le hc.parts.byte.parser _
    (Or.inr hc.parts.byteConv) l hl

/-- the round trips also hold of today's (unrepaired) wrappers: the defect is in what ELSE they accept -/
theorem u64_roundtrip_today (n : Nat) (hn : n < 2 ^ 64) : decodeInt Cfg.today.u64 (encodeNat n) = .ok (n : Int) :=
  decodeInt_encodeNat _ (by decide) (by decide) rfl n hn

theorem jsbyte_roundtrip_today (l : List Nat) (hl : ∀ x ∈ l, x < 256) :
    decodeBytes Cfg.today.byte Cfg.today.byteConv (encodeBytes l) = .ok l :=
  decodeBytes_encodeBytes _ (by decide) (by decide) rfl _ (Or.inl rfl) l hl

/-- Base64Bytes: `Scan(Value(bs)) = bs` for every byte string -/
theorem base64_roundtrip (bs : Bytes) (h : ∀ x ∈ bs, x < 256) : b64Decode (b64Encode bs) = .ok bs :=
  b64Decode_encode bs h

/-- **distinct values never share a text form** (corollaries of the round trips: a decoder is a left
    inverse): the integer text of two int64 values … -/
theorem encodeInt_injective (v w : Int) (hv : -(2 ^ 63 : Int) ≤ v ∧ v < 2 ^ 63) (hw : -(2 ^ 63 : Int) ≤ w ∧ w < 2 ^ 63)
    (h : encodeInt v = encodeInt w) : v = w :=
  eq_of_encode_eq (dec := decodeInt Cfg.repaired.i64) (P := fun v => -(2 ^ 63 : Int) ≤ v ∧ v < 2 ^ 63)
    (fun v hv => decodeInt_encodeInt _ (by decide) (by decide) rfl v hv.1 hv.2) hv hw h

/-- … of two uint64 values … -/
theorem encodeNat_injective (m n : Nat) (hm : m < 2 ^ 64) (hn : n < 2 ^ 64) (h : encodeNat m = encodeNat n) : m = n :=
  eq_of_encode_eq (dec := fun b => mapRes Int.toNat (decodeInt Cfg.today.u64 b)) (P := fun n => n < 2 ^ 64)
    (fun n hn => by rw [u64_roundtrip_today n hn]; rfl) hm hn h

/-- … the `a/b/c` text of two byte lists … -/
theorem encodeBytes_injective (l l' : List Nat) (hl : ∀ x ∈ l, x < 256) (hl' : ∀ x ∈ l', x < 256)
    (h : encodeBytes l = encodeBytes l') : l = l' :=
  eq_of_encode_eq (P := fun l => ∀ x ∈ l, x < 256) jsbyte_roundtrip_today hl hl' h

/-- … and the base64 text of two byte strings -/
theorem b64Encode_injective (a b : Bytes) (ha : ∀ x ∈ a, x < 256) (hb : ∀ x ∈ b, x < 256)
    (h : b64Encode a = b64Encode b) : a = b :=
  eq_of_encode_eq (P := fun a => ∀ x ∈ a, x < 256) base64_roundtrip ha hb h

/-- hex (base 16) and base-32 integer strings, unsigned and signed -/
theorem hex_roundtrip_u16 (n : Nat) (hn : n < 2 ^ 64) : parseUint 16 64 (fmtNat 16 n) = .ok n :=
  parseUint_fmtNat 16 (by omega) (by omega) n hn
theorem hex_roundtrip_u32 (n : Nat) (hn : n < 2 ^ 64) : parseUint 32 64 (fmtNat 32 n) = .ok n :=
  parseUint_fmtNat 32 (by omega) (by omega) n hn
theorem hex_roundtrip_i16 (v : Int) (hlo : -(2 ^ 63 : Int) ≤ v) (hhi : v < 2 ^ 63) : parseInt 16 64 (fmtInt 16 v) = .ok v :=
  parseInt_fmtInt 16 (by omega) (by omega) v hlo hhi
theorem hex_roundtrip_i32 (v : Int) (hlo : -(2 ^ 63 : Int) ≤ v) (hhi : v < 2 ^ 63) : parseInt 32 64 (fmtInt 32 v) = .ok v :=
  parseInt_fmtInt 32 (by omega) (by omega) v hlo hhi

/-- hex / base-32 parse, unsigned: digits of the base, exact value, below 2^64 -/
theorem hex_parse_exact_u (base : Nat) (s : Bytes) (n : Nat) (h : parseUint base 64 s = .ok n) :
    s ≠ [] ∧ BaseDigits base s ∧ baseVal base 0 s = n ∧ n < 2 ^ 64 :=
  parseUint_ok base 64 h

/-! ### tex.ToString on the integer kinds (the text form the generic map paths produce for a wrapper value) -/

/-- the exact shape prints the canonical decimal: it denotes the value … -/
theorem tostring_denotes (v : Int) (hlo : -(2 ^ 63 : Int) ≤ v) (hhi : v < 2 ^ 64) : denotesCore (toStrNum .exact v) v :=
  denotesCore_fmtInt v (by omega) hhi

/-- … and decodes back: a signed value through `Atoi` (JsInt64 and the time wrappers), an unsigned one through `ParseUint` -/
theorem tostring_decodes_back_signed (v : Int) (hlo : -(2 ^ 63 : Int) ≤ v) (hhi : v < 2 ^ 63) : atoi (toStrNum .exact v) = .ok v :=
  parseInt_fmtInt 10 (by omega) (by omega) v hlo hhi

theorem tostring_decodes_back_unsigned (n : Nat) (hn : n < 2 ^ 64) : parseUint 10 64 (toStrNum .exact (n : Int)) = .ok n := by
  show parseUint 10 64 (fmtInt 10 (n : Int)) = .ok n
  unfold fmtInt
  rw [if_neg (by omega)]
  simpa using parseUint_fmtNat 10 (by omega) (by omega) n hn

/-- through the wrapper itself: quoting `ToString(v)` gives what `MarshalJSON` gives, so `UnmarshalJSON` returns `v` -/
theorem tostring_is_marshal_text (v : Int) : (34 : Nat) :: (toStrNum .exact v ++ [34]) = encodeInt v := rfl

/-- JsNanoTime round-trips an instant **iff** its `UnixNano` fits int64 (1678-09-21 … 2262-04-11).
    Outside that range `MarshalJSON` prints a wrapped number and `UnmarshalJSON` yields another instant, nil error. -/
theorem nanotime_roundtrip_iff (c : Cfg) (hc : Proved c) (t : Time) (hv : t.nsec < 1000000000) :
    decodeNanoTime c.nanoTime (encodeNanoTime t) = .ok t ↔ t.FitsNano := by
  have hr := wrapI64_range (t.sec * 1000000000 + t.nsec)
  have hd : decodeInt c.nanoTime (encodeInt t.unixNano) = .ok t.unixNano :=
    nanotime_roundtrip c hc _ hr.1 hr.2
  unfold decodeNanoTime encodeNanoTime
  rw [mapRes_ok _ hd, Res.ok.injEq]
  exact timeUnix_unixNano_iff t hv

theorem nanotime_roundtrip_time (c : Cfg) (hc : Proved c) (t : Time) (hv : t.nsec < 1000000000) (hf : t.FitsNano) :
    decodeNanoTime c.nanoTime (encodeNanoTime t) = .ok t :=
  (nanotime_roundtrip_iff c hc t hv).2 hf

/-- JsUnixTime keeps the second and drops the nanoseconds (second-resolution format), for every instant -/
theorem unixtime_roundtrip_time (c : Cfg) (hc : Proved c) (t : Time) (hlo : -(2 ^ 63 : Int) ≤ t.sec) (hhi : t.sec < 2 ^ 63) :
    decodeUnixTime c.unixTime (encodeUnixTime t) = .ok ⟨t.sec, 0⟩ := by
  unfold decodeUnixTime encodeUnixTime
  rw [mapRes_ok _ (unixtime_roundtrip c hc t.sec hlo hhi), timeUnix_sec]

/-- … hence an instant on a whole second round-trips (and, by the above, no other does) -/
theorem unixtime_roundtrip_whole_second (c : Cfg) (hc : Proved c) (t : Time) (hn : t.nsec = 0)
    (hlo : -(2 ^ 63 : Int) ≤ t.sec) (hhi : t.sec < 2 ^ 63) :
    decodeUnixTime c.unixTime (encodeUnixTime t) = .ok t := by
  rw [unixtime_roundtrip_time c hc t hlo hhi]
  cases t; simp only at hn; subst hn; rfl

/-- UnixNano2Time: `Scan(Value(t)) = t` iff the instant fits int64 nanoseconds (either scanner shape) -/
theorem sql_unixnano_roundtrip_iff (sh : ScanShape) (hsh : sh ≠ .unknown) (t : Time) (hv : t.nsec < 1000000000) :
    scanNano sh (.i64 t.unixNano) = .ok t ↔ t.FitsNano := by
  have hs : scanInt sh (.i64 t.unixNano) = .ok t.unixNano := by
    cases sh with
    | unknown => exact absurd rfl hsh
    | legacy => rfl
    | strict => rfl
  unfold scanNano
  rw [mapRes_ok _ hs, Res.ok.injEq]
  exact timeUnix_unixNano_iff t hv

/-- Unix2Time: `Scan(Value(t))` is `t` truncated to the second -/
theorem sql_unix_roundtrip (sh : ScanShape) (hsh : sh ≠ .unknown) (t : Time) : scanUnix sh (.i64 t.sec) = .ok ⟨t.sec, 0⟩ := by
  cases sh with
  | unknown => exact absurd rfl hsh
  | legacy => simp [scanUnix, scanInt, mapRes, timeUnix]
  | strict => simp [scanUnix, scanInt, mapRes, timeUnix]

/-- UnixStamp / SQLTime2Unix: `Scan(Value(v)) = v` -/
theorem sql_stamp_roundtrip (sh : StampScan) (hsh : sh ≠ .unknown) (old v : Int) :
    scanStamp sh old (.time (timeUnix v 0)) = .ok v := by
  cases sh with
  | unknown => exact absurd rfl hsh
  | legacy => simp [scanStamp, timeUnix]
  | strict => simp [scanStamp, timeUnix]

/-- the repaired scanner: a result is exactly what the driver value denotes (integers as they are, decimal
    text its exact value, NULL 0) — never a silent zero, never a wrapped uint64 -/
theorem scan_exact_or_error (v : SqlVal) (ts : Int) (h : scanInt .strict v = .ok ts) : sqlDenotes v ts := by
  cases v with
  | i32 x => simpa [scanInt, sqlDenotes] using h.symm
  | i64 x => simpa [scanInt, sqlDenotes] using h.symm
  | int x => simpa [scanInt, sqlDenotes] using h.symm
  | u32 x => simpa [scanInt, sqlDenotes] using h.symm
  | u64 x =>
    simp only [scanInt] at h
    split at h
    · cases h
    · simpa [sqlDenotes] using h.symm
  | uint x =>
    simp only [scanInt] at h
    split at h
    · cases h
    · simpa [sqlDenotes] using h.symm
  | f64 w => simp [scanInt] at h
  | bool b => simp [scanInt] at h
  | bytes s => exact (denotesCore_of_parseInt (bits := 64) (by omega) h).1
  | str s => exact (denotesCore_of_parseInt (bits := 64) (by omega) h).1
  | time t => simp [scanInt] at h
  | null => simpa [scanInt, sqlDenotes] using h.symm

/-- completeness of the repaired scanner: every driver value that denotes an int64 is accepted with exactly that value
    (so a boundary slip such as `>=` for `>` in the uint64 range test changes the model's answer on MaxInt64) -/
theorem scan_complete (v : SqlVal) (ts : Int) (hd : sqlDenotes v ts) (hlo : -(2 ^ 63 : Int) ≤ ts) (hhi : ts < 2 ^ 63) :
    scanInt .strict v = .ok ts := by
  cases v with
  | i32 x => simp only [sqlDenotes] at hd; subst hd; rfl
  | i64 x => simp only [sqlDenotes] at hd; subst hd; rfl
  | int x => simp only [sqlDenotes] at hd; subst hd; rfl
  | u32 x => simp only [sqlDenotes] at hd; subst hd; rfl
  | u64 x =>
    simp only [sqlDenotes] at hd; subst hd
    simp only [scanInt]; rw [if_neg (by omega)]
  | uint x =>
    simp only [sqlDenotes] at hd; subst hd
    simp only [scanInt]; rw [if_neg (by omega)]
  | f64 w => exact absurd hd (by simp [sqlDenotes])
  | bool b => exact absurd hd (by simp [sqlDenotes])
  | bytes s => exact parse_int_complete s ts hd hlo hhi
  | str s => exact parse_int_complete s ts hd hlo hhi
  | time t => exact absurd hd (by simp [sqlDenotes])
  | null => simp only [sqlDenotes] at hd; subst hd; rfl

/-- … and whatever denotes no integer (float, bool, time, non-numeric text) is refused with an error -/
theorem scan_refuses_unsupported (v : SqlVal) (hno : ∀ ts, ¬ sqlDenotes v ts) : ∃ e, scanInt .strict v = .err e := by
  have text : ∀ s : Bytes, (∀ ts, ¬ denotesCore s ts) → ∃ e, parseInt 10 64 s = .err e := by
    intro s hs
    cases hp : parseInt 10 64 s with
    | ok ts => exact absurd (denotesCore_of_parseInt (bits := 64) (by omega) hp).1 (hs ts)
    | err e => exact ⟨e, rfl⟩
    | panic => exact absurd hp (parseInt_ne_panic 10 64 s)
  cases v with
  | f64 w => exact ⟨.other, rfl⟩
  | bool b => exact ⟨.other, rfl⟩
  | time t => exact ⟨.other, rfl⟩
  | i32 x => exact absurd rfl (hno x)
  | i64 x => exact absurd rfl (hno x)
  | int x => exact absurd rfl (hno x)
  | u32 x => exact absurd rfl (hno x)
  | u64 x => exact absurd rfl (hno x)
  | uint x => exact absurd rfl (hno x)
  | null => exact absurd rfl (hno 0)
  | bytes s => exact text s hno
  | str s => exact text s hno

/-- UnixStamp / SQLTime2Unix repaired: only a time sets the stamp, only NULL keeps it -/
theorem stamp_scan_exact_or_error (old r : Int) (v : SqlVal) (h : scanStamp .strict old v = .ok r) :
    (∃ t, v = .time t ∧ r = t.sec) ∨ (v = .null ∧ r = old) := by
  cases v <;> simp [scanStamp] at h
  · rename_i t; exact Or.inl ⟨t, rfl, h.symm⟩
  · exact Or.inr ⟨rfl, h.symm⟩

/-- `time.ParseDuration(d.String()) = d` for every int64 duration — zero, negative and the extremes included
    (on the hand-written models of the two library functions, which the correspondence validates) -/
theorem duration_string_parses (d : Int) (hlo : -(2 ^ 63 : Int) ≤ d) (hhi : d < 2 ^ 63) :
    parseDuration (durString d) = .ok d :=
  parseDuration_durString d hlo hhi

theorem dur_roundtrip (c : Cfg) (hc : Proved c) (d : Int) (hlo : -(2 ^ 63 : Int) ≤ d) (hhi : d < 2 ^ 63) :
    decodeDur c.dur (encodeDur d) = .ok d := by
  have hw := hc.parts.dur
  have hlen := durString_length d
  unfold decodeDur encodeDur
  simp only [quote, hw.parser, ne_eq, not_true_eq_false, if_false]
  rw [strip_quoted c.dur hw.checked.ne_unknown _ (by have := hw.minLen_le; omega)]
  exact parseDuration_durString d hlo hhi

/-- every quoted signed decimal inside int64 (leading zeros, `+` allowed) decodes to its value — for the
    `Atoi`-based wrappers (JsInt64, JsUnixTime, JsNanoTime, UnixStamp) under any known strip kind -/
theorem unmarshal_complete_quoted (w : Wrap) (hk : w.kind ≠ .unknown) (hp : w.parser = .atoi) (s : Bytes) (v : Int)
    (hl : w.minLen ≤ s.length + 2) (hd : denotesCore s v) (hlo : -(2 ^ 63 : Int) ≤ v) (hhi : v < 2 ^ 63) :
    decodeInt w (34 :: (s ++ [34])) = .ok v := by
  rw [decodeInt_quoted w hk (denotesCore_ne_nil hd) hl, hp]
  exact parse_int_complete s v hd hlo hhi

/-- … and a quoted decimal outside int64 is refused with a range error -/
theorem unmarshal_range_quoted (w : Wrap) (hk : w.kind ≠ .unknown) (hp : w.parser = .atoi) (s : Bytes) (v : Int)
    (hl : w.minLen ≤ s.length + 2) (hd : denotesCore s v) (hout : v < -(2 ^ 63 : Int) ∨ 2 ^ 63 ≤ v) :
    decodeInt w (34 :: (s ++ [34])) = .err .range := by
  rw [decodeInt_quoted w hk (denotesCore_ne_nil hd) hl, hp]
  exact parse_int_never_wraps s v hd hout

/-- a wrapper that checks its quotes and rejects the empty input panics on exactly one input: the lone
    quote character (`b[1:0]`; today's JsInt64) — which no JSON library ever passes -/
theorem panic_only_lone_quote (w : Wrap) (hw : w.Checked) (hm : 1 ≤ w.minLen) (b : Bytes)
    (h : decodeInt w b = .panic) : b = [34] := by
  unfold decodeInt at h
  rcases strip_checked hw b with hs | hs | ⟨s, _, hs⟩ | ⟨_, hb | ⟨_, hb⟩⟩
  · rw [hs] at h; cases h
  · rw [hs] at h; exact absurd h (runParser_ne_panic _ _)
  · rw [hs] at h
    simp only at h
    split at h
    · cases h
    · exact absurd h (runParser_ne_panic _ _)
  · exact hb
  · omega

/-- JsInt64 as it is today: the lone quote panics (`b[1:0]`) -/
theorem i64_lone_quote_panics_today : decodeInt Cfg.today.i64 [34] = .panic := by decide
/-- inside `Proved` no integer wrapper panics on any input except (for the JsInt64 shape) the lone quote -/
theorem proved_panics_only_on_lone_quote (c : Cfg) (hc : Proved c) (b : Bytes) :
    (decodeInt c.i64 b = .panic → b = [34]) ∧ (decodeInt c.u64 b = .panic → b = [34]) ∧
    (decodeInt c.unixTime b = .panic → b = [34]) ∧ (decodeInt c.nanoTime b = .panic → b = [34]) ∧
    (decodeInt c.stamp b = .panic → b = [34]) := by
  have hp := hc.parts
  exact ⟨panic_only_lone_quote _ hp.i64.checked hp.i64.minLen_ge b, panic_only_lone_quote _ hp.u64.checked hp.u64.minLen_ge b,
    panic_only_lone_quote _ hp.unixTime.checked hp.unixTime.minLen_ge b,
    panic_only_lone_quote _ hp.nanoTime.checked hp.nanoTime.minLen_ge b,
    panic_only_lone_quote _ hp.stamp.checked hp.stamp.minLen_ge b⟩

/-! ### non-vacuity -/

example : Proved Cfg.repaired := by decide
example : ¬ Proved Cfg.today := by decide
example : decodeInt Cfg.repaired.u64 [34, 49, 50, 51, 34] = .ok 123 := by decide          -- "123"
example : decodeInt Cfg.repaired.u64 [49, 50, 51] = .err .invalid := by decide            -- 123 (bare) is refused
example : denotes [34, 45, 49, 50, 34] (-12) :=                                            -- "-12"
  Or.inl ⟨[45, 49, 50], rfl, Or.inl (Or.inr (Or.inr ⟨[49, 50], rfl, ⟨by simp, by decide⟩, by decide⟩))⟩
example : decodeBytes Cfg.repaired.byte .rangeChecked [34, 51, 48, 48, 47, 45, 49, 34] = .err .byteRange := by decide  -- "300/-1"
example : decodeBytes Cfg.repaired.byte .rangeChecked [34, 55, 47, 50, 53, 53, 34] = .ok [7, 255] := by decide    -- "7/255"
example : durString (-90000000001) = [45, 49, 109, 51, 48, 46, 48, 48, 48, 48, 48, 48, 48, 48, 49, 115] := by decide  -- -1m30.000000001s
example : parseDuration [49, 104, 50, 109, 51, 46, 53, 115] = .ok 3723500000000 := by decide                          -- 1h2m3.5s

example : scanUnix .strict (.bytes [49, 55, 48, 48, 48, 48, 48, 48, 48, 48]) = .ok ⟨1700000000, 0⟩ := by decide
example : ¬ Time.zero.FitsNano := by decide
example : (⟨1700000000, 5⟩ : Time).FitsNano := by decide
example : scanInt .strict (.u64 (2 ^ 63)) = .err .other := by decide

/-! ### today's configuration: the property is false (each witness is also the replay on the Go side) -/

/-- JsUInt64: the bare JSON number `123` decodes to 2 -/
theorem witness_u64_bare_123 : decodeInt Cfg.today.u64 [49, 50, 51] = .ok 2 := by decide
/-- JsUInt64: `-123` decodes to 12 -/
theorem witness_u64_bare_neg123 : decodeInt Cfg.today.u64 [45, 49, 50, 51] = .ok 12 := by decide
/-- JsUnixTime / JsNanoTime / UnixStamp: `123` decodes to 2 -/
theorem witness_unixtime_bare_123 : decodeInt Cfg.today.unixTime [49, 50, 51] = .ok 2 := by decide
theorem witness_nanotime_bare_123 : decodeInt Cfg.today.nanoTime [49, 50, 51] = .ok 2 := by decide
theorem witness_stamp_bare_123 : decodeInt Cfg.today.stamp [49, 50, 51] = .ok 2 := by decide
/-- Duration: the bare number `105` decodes to the zero duration -/
theorem witness_dur_bare_105 : decodeDur Cfg.today.dur [49, 48, 53] = .ok 0 := by decide
/-- JsByte: the quoted list 300,-1 (slash-separated) decodes to [44, 255] (elements wrapped) -/
theorem witness_byte_wrap : decodeBytes Cfg.today.byte Cfg.today.byteConv [34, 51, 48, 48, 47, 45, 49, 34] = .ok [44, 255] := by
  decide
/-- JsByte: the bare number `12` decodes to the empty list -/
theorem witness_byte_bare_12 : decodeBytes Cfg.today.byte Cfg.today.byteConv [49, 50] = .ok [] := by decide

/-- JsNanoTime on `time.Time{}` (an unset field): marshals to "-6795364578871345152" and comes back as an instant in
    1754 with a nil error — the round trip fails outside the int64-nanosecond range, whatever the configuration -/
theorem witness_nanotime_zero_time :
    decodeNanoTime Cfg.repaired.nanoTime (encodeNanoTime Time.zero) = .ok ⟨-6795364579, 128654848⟩ := by decide
/-- … and on 2300-01-01T00:00:00Z, which comes back as an instant in 1715 -/
theorem witness_nanotime_year_2300 :
    decodeNanoTime Cfg.repaired.nanoTime (encodeNanoTime ⟨10413792000, 0⟩) = .ok ⟨-8032952074, 290448384⟩ := by decide
theorem not_nanotime_roundtrip_all_instants :
    ¬ (∀ t : Time, t.nsec < 1000000000 → decodeNanoTime Cfg.repaired.nanoTime (encodeNanoTime t) = .ok t) := by
  intro h
  have := h Time.zero (by decide)
  rw [witness_nanotime_zero_time] at this
  exact absurd this (by decide)
/-- the same wrap through the SQL form of UnixNano2Time -/
theorem witness_sql_unixnano_zero_time : scanNano .strict (.i64 Time.zero.unixNano) = .ok ⟨-6795364579, 128654848⟩ := by decide

/-- legacy scanners: the decimal text a text-protocol driver delivers is answered with the epoch and a nil error -/
theorem witness_scan_legacy_text_epoch :
    scanNano .legacy (.bytes [49, 55, 48, 48, 48, 48, 48, 48, 48, 48]) = .ok ⟨0, 0⟩ := by decide
/-- … a uint64 above MaxInt64 is wrapped -/
theorem witness_scan_legacy_uint_wraps : scanInt .legacy (.u64 (2 ^ 63)) = .ok (-(2 ^ 63)) := by decide
/-- … and UnixStamp.Scan ignores what is not a time -/
theorem witness_stamp_legacy_ignores : scanStamp .legacy 7 (.i64 5) = .ok 7 := by decide
theorem not_scan_exact_legacy : ¬ (∀ v ts, scanInt .legacy v = .ok ts → sqlDenotes v ts) := by
  intro h
  exact absurd (h (.f64 5) 0 rfl) (by simp [sqlDenotes])

/-- ToString through `int(v)`: MaxUint64 (as uint64 / uint / JsUInt64) is printed "-1" -/
theorem witness_tostring_maxuint64 : toStrNum .viaInt (2 ^ 64 - 1) = [45, 49] := by decide
theorem not_tostring_denotes_viaInt : ¬ (∀ v : Int, -(2 ^ 63 : Int) ≤ v → v < 2 ^ 64 → denotesCore (toStrNum .viaInt v) v) := by
  intro h
  have := h (2 ^ 64 - 1) (by decide) (by decide)
  rw [witness_tostring_maxuint64] at this
  rcases this with ⟨hd, _⟩ | ⟨t, ht, _⟩ | ⟨t, ht, hd, hv⟩
  · have := hd.2 45 (by simp); omega
  · simp at ht
  · simp only [List.cons.injEq, true_and] at ht
    subst ht
    have : (decVal [49] : Int) = 1 := by decide
    omega

theorem not_denotes_123_2 : ¬ denotes [49, 50, 51] 2 := by
  intro h
  rcases h with ⟨s, hs, _⟩ | h
  · simp at hs
  · exact absurd (denotesCore_decDigits ⟨by simp, by decide⟩ h) (by decide)

/-- exact-or-error is false of today's JsUInt64 -/
theorem not_exact_or_error_today : ¬ (∀ b v, decodeInt Cfg.today.u64 b = .ok v → denotes b v) :=
  fun h => not_denotes_123_2 (h _ _ witness_u64_bare_123)

/-- no-wrap is false of today's JsByte -/
theorem not_no_wrap_today : ¬ (∀ b l, decodeBytes Cfg.today.byte Cfg.today.byteConv b = .ok l → ∀ x ∈ l, x ≤ 255 ∧ denotesBytes b l) := by
  intro h
  have hw := ((h _ _ witness_byte_wrap) 44 (by simp)).2
  rcases denotesList_of_denotesBytes_quoted (s := [51, 48, 48, 47, 45, 49]) hw with ⟨he, _⟩ | ⟨_, hr⟩
  · cases he
  · -- the first piece, `300`, would have to denote 44
    have hsp : splitSlash [51, 48, 48, 47, 45, 49] = [[51, 48, 48], [45, 49]] := by decide
    rw [hsp] at hr
    cases hr with
    | cons h1 _ => exact absurd (denotesCore_decDigits ⟨by simp, by decide⟩ h1.1) (by decide)

end Nv.C20
