import Nv.Proofs.C09Marshal
/-!
C09 — property theorems for `Bit1024.Marshal/Unmarshal`, `BigU32` and `U32BitTip`
(model: `Nv.Model.C09` on top of the C08 bitmap model; proofs: `Nv/Proofs/C09*.lean`).

`Proved c` = the configuration of the repaired source (`int64(Start)*C1K` in both BigU32 iterators, `getNAsU32`
dispatching `reverse ⇒ RIterAsU32`) — this is what /repo contains since commits f369e56 and d9c43db. `cfgUnrepaired` is
the configuration the extractor produced *before* those repairs; the `witness_*` theorems keep the concrete inputs on
which the property is false for it (they are the replays that exposed F07 / F08, and what a revert would reproduce).

Index — clause of the property statement ↦ theorem(s):
* "Unmarshalling the bytes produced by Marshal into a fresh bitmap reproduces the bitmap exactly, for both the sparse
   (2 bytes per member, fewer than 64 members) and the dense (128 byte) encodings"
      `marshal_roundtrip`, `marshal_size`, `le_bytes_roundtrip`
* "Unmarshal of arbitrary bytes never panics" .............. `unmarshal_never_panics`
* "and either fails or yields exactly the set the bytes denote"
      `unmarshal_total_exact` (fresh target), `unmarshal_rejects_bad_length`, `unmarshal_into_any` (why the target must be fresh)
* "a block bitmap built from an integer (64-bit blocks up to 2^32*1024-1025, 32-bit blocks over all uint32) iterates back
   to precisely that integer" ............................. `bigu32_roundtrip`, `bigu32_rejects_out_of_range`, `u32tip_roundtrip`
* "accepts further integers exactly when they belong to its block"
      `bigu32_accepts_iff_same_block`, `u32tip_accepts_iff_same_block`, `bigu32_set_history` (any sequence of SetI64 calls)
* "forward iteration is ascending while reverse iteration is descending"
      `block_iteration_exact`, `block_forward_ascending`, `block_reverse_descending`, `tip_forward_ascending`,
      `tip_reverse_descending`, `newTip_start_le`
* list forms (anchor "list forms concatenate per-block iteration")
      `bigs_list_concat`, `tips_list_concat`, `list_forms_total`, `bigs_list_values` (loop invariant `listChain_spec`)
* the property is false of the unrepaired source ............ `witness_*`, `not_bigu32_roundtrip_unrepaired`, `cfgUnrepaired_not_proved`
-/
namespace Nv.C09
open Nv.C08

def cfgUnrepaired : Cfg := ⟨⟨9, 64, 16⟩, .u32mul, .u32mul, .swapped, 1024, 64, 128⟩
def cfgFixed : Cfg := ⟨⟨9, 64, 16⟩, .i64mul, .i64mul, .straight, 1024, 64, 128⟩

theorem cfgFixed_proved : Proved cfgFixed := by decide
theorem cfgUnrepaired_not_proved : ¬ Proved cfgUnrepaired := by decide

/-- **Unmarshalling the bytes produced by Marshal into a fresh bitmap reproduces the bitmap exactly** — all 2^1024
    bitmaps, both encodings (fewer than 64 members: 2 bytes per member; otherwise 128 bytes), every sparse threshold.
    Uses `getN1024_spec` of C08 for the member list `GetNAsI16(n)` produces. -/
theorem marshal_roundtrip (c : Cfg) (hc : Proved c) (magic : Int) (b : Bit1024) :
    ∃ bs, marshal c magic b = some bs ∧ unmarshal empty1024 bs = .ok b := by
  refine ⟨_, marshal_eq c hc magic b, ?_⟩
  split
  · rename_i h0
    have : b = empty1024 := by
      apply ext1024
      intro j _
      rw [mem_empty1024, ← Bool.not_eq_true, ← mem_members1024, List.length_eq_zero_iff.1 h0]
      exact List.not_mem_nil
    rw [this]
    rfl
  · rename_i h0
    split
    · rename_i hs
      exact sparse_roundtrip b _ (mem_members1024 b) hs (fun e => h0 (by rw [e]; rfl))
    · exact dense_roundtrip b

/-- encoding sizes: nothing for the empty set, 2 bytes per member below 64 members, 128 bytes otherwise -/
theorem marshal_size (c : Cfg) (hc : Proved c) (magic : Int) (b : Bit1024) :
    ∃ bs, marshal c magic b = some bs ∧
      bs.length = (if (members1024 b).length = 0 then 0 else if (members1024 b).length < 64 then 2 * (members1024 b).length else 128) := by
  refine ⟨_, marshal_eq c hc magic b, ?_⟩
  split
  · rfl
  · split
    · rw [length_flatMap_const le16 2 (fun _ => rfl), List.length_map]
    · rw [length_flatMap_const le64 8 (fun _ => rfl), Vector.length_toList]

/-- the byte form of a byte pair / 8-byte group is the little-endian value (used by both directions) -/
theorem le_bytes_roundtrip (v : BitVec 16) (x : BitVec 64) :
    rd16 (le16 v) 0 = some v ∧ rd64 (le64 x) 0 = some x := by
  have h16 := rd16_le16 v []
  have h64 := rd64_le64 x []
  rw [List.append_nil] at h16 h64
  exact ⟨h16, h64⟩

-- non-vacuity: the boundary between the encodings, evaluated by the kernel (2 members: 4 bytes)
example : marshal cfgFixed 9 (setI16 (setI16 empty1024 1#16) 1023#16) = some [1#8, 0#8, 0xff#8, 3#8] := by decide +kernel

/-- more than 128 bytes or an odd number of bytes is always rejected, and the bitmap is left untouched -/
theorem unmarshal_rejects_bad_length (b : Bit1024) (buf : List Byte) (h : buf.length > 128 ∨ buf.length % 2 = 1) :
    ∃ e, unmarshal b buf = .err e b := by
  have h0 : buf.length ≠ 0 := by omega
  simp only [unmarshal, h0, if_false]
  by_cases hl : buf.length > 128
  · exact ⟨.range buf.length, by simp [hl]⟩
  · have : buf.length % 2 ≠ 0 := by omega
    exact ⟨.length buf.length, by simp [hl, this]⟩

/-- `Unmarshal` of arbitrary bytes (any length, into any bitmap) never panics -/
theorem unmarshal_never_panics (b : Bit1024) (buf : List Byte) : unmarshal b buf ≠ .panic := by
  rcases length_cases buf with h0 | hbad | ⟨h0, hlt, heven⟩ | h128
  · rw [h0]; simp [unmarshal]
  · obtain ⟨e, he⟩ := unmarshal_rejects_bad_length b buf hbad
    rw [he]; simp
  · rw [unmarshal_sparse b buf h0 hlt heven]
    apply unmSparse_no_panic
    intro i hi
    have := List.mem_range.1 hi
    omega
  · obtain ⟨b', hb', _⟩ := unmarshal_dense b buf h128
    rw [hb']; simp

/-- a successful `Unmarshal` into an arbitrary bitmap `b`, as the code behaves: it does not clear its receiver (read
    `bit1024.go`: the sparse branch only calls `SetI16`, the dense branch assigns all 16 words). The result is `b` for
    no bytes, `b ∪ denoted set` for the sparse form, and the denoted set alone for the dense form. -/
theorem unmarshal_into_any (b : Bit1024) (buf : List Byte) (b' : Bit1024) (h : unmarshal b buf = .ok b') :
    ∀ i, i < 1024 → (mem1024 b' i = true ↔
      (if buf = [] then mem1024 b i = true
       else if buf.length < 128 then (mem1024 b i = true ∨ denotes buf i)
       else denotes buf i)) := by
  intro i hi
  rcases length_cases buf with h0 | hbad | ⟨h0, hlt, heven⟩ | h128
  · rw [h0] at h
    cases h
    simp [h0]
  · obtain ⟨e, he⟩ := unmarshal_rejects_bad_length b buf hbad
    rw [he] at h; cases h
  · rw [unmarshal_sparse b buf h0 hlt heven] at h
    rw [unmSparse_ok buf _ _ _ h i hi]
    simp only [denotes, hlt, if_true, List.mem_range, h0, if_false]
  · obtain ⟨b'', hb'', hw⟩ := unmarshal_dense b buf h128
    rw [hb''] at h
    cases h
    have h0 : buf ≠ [] := fun e => by rw [e] at h128; cases h128
    simp [denotes, h128, h0, hw (i / 64) (by omega), mem1024_eq_word]

-- a stale member survives a sparse Unmarshal into a non-fresh bitmap
example : unmarshal (setI16 empty1024 5#16) [1#8, 0#8] = .ok (setI16 (setI16 empty1024 5#16) 1#16) := by decide +kernel

/-- hence, into a fresh bitmap, `Unmarshal` either fails or yields exactly the set the bytes denote; the target must be
    fresh for that, as `unmarshal_into_any` shows -/
theorem unmarshal_total_exact (buf : List Byte) :
    (∃ e b, unmarshal empty1024 buf = .err e b) ∨
    (∃ b', unmarshal empty1024 buf = .ok b' ∧ ∀ i, i < 1024 → (mem1024 b' i = true ↔ (buf ≠ [] ∧ denotes buf i))) := by
  cases h : unmarshal empty1024 buf with
  | ok b' =>
    refine Or.inr ⟨b', rfl, fun i hi => ?_⟩
    rw [unmarshal_into_any _ buf b' h i hi, mem_empty1024]
    by_cases h0 : buf = [] <;> simp [h0]
  | err e b => exact Or.inl ⟨e, b, rfl⟩
  | panic => exact absurd h (unmarshal_never_panics _ _)

-- non-vacuity: a 4-byte sparse string {1, 1023}; an element 1024 is rejected
example : unmarshal empty1024 [1#8, 0#8, 0xff#8, 3#8] = .ok (setI16 (setI16 empty1024 1#16) 1023#16) := by decide +kernel
example : unmarshal empty1024 [0#8, 4#8] = .err (.element 1024) empty1024 := by decide +kernel
example : unmarshal empty1024 [0xff#8, 0xff#8] = .err (.element (-1)) empty1024 := by decide +kernel

/-- the block built from `v` (documented range `0 ≤ v < (2^32−1)·1024`) iterates back to precisely `[v]`,
    in both directions, for every count `n ≥ 1` and every sparse threshold -/
theorem bigu32_roundtrip (c : Cfg) (hc : Proved c) (magic : Int) (rev : Bool) (v : BitVec 64)
    (hv : 0 ≤ v.toInt ∧ v.toInt < 4398046510080) (n : Int) (hn : 1 ≤ n) :
    ∃ blk, newBigFromI64 v = some blk ∧ bigGetN c magic rev blk n = .slice [v] := by
  obtain ⟨h1, h2, h3⟩ := (selI64_spec v).1 hv
  refine ⟨⟨(selI64 v).2.1, setI16 empty1024 (selI64 v).2.2⟩, by simp [newBigFromI64, h1], ?_⟩
  have hval : BitVec.ofNat 64 (v.toInt.toNat % 1024) + BitVec.setWidth 64 (selI64 v).2.1 * 1024#64 = v := by
    apply BitVec.eq_of_toInt_eq
    rw [big_value _ _ (Nat.mod_lt _ (by decide)), h2]
    omega
  simp only [bigGetN, bigIter_proved c hc]
  rw [getN_single c.base hc.1 magic rev _ _ (Nat.mod_lt _ (by decide)) h3 _ n hn, hval]

/-- **Marshal is injective**: two bitmaps with the same serialized bytes are the same bitmap (no two sets share an
    encoding, whichever of the two encodings each one uses) -/
theorem marshal_injective (c : Cfg) (hc : Proved c) (magic : Int) (a b : Bit1024)
    (h : marshal c magic a = marshal c magic b) : a = b := by
  obtain ⟨bs, h1, h2⟩ := marshal_roundtrip c hc magic a
  obtain ⟨bs', h1', h2'⟩ := marshal_roundtrip c hc magic b
  rw [h, h1'] at h1
  cases h1
  rw [h2] at h2'
  cases h2'
  rfl

/-- **`NewBigU32FromI64` is injective on its documented range**: two in-range integers that build the same block are
    the same integer (the block's start and single bit determine the value) -/
theorem bigu32_injective (c : Cfg) (hc : Proved c) (magic : Int) (v w : BitVec 64)
    (hv : 0 ≤ v.toInt ∧ v.toInt < 4398046510080) (hw : 0 ≤ w.toInt ∧ w.toInt < 4398046510080)
    (h : newBigFromI64 v = newBigFromI64 w) : v = w := by
  obtain ⟨blk, h1, h2⟩ := bigu32_roundtrip c hc magic false v hv 1 (by omega)
  obtain ⟨blk', h1', h2'⟩ := bigu32_roundtrip c hc magic false w hw 1 (by omega)
  rw [h, h1'] at h1
  cases h1
  rw [h2] at h2'
  simpa using h2'

/-- integers outside the documented range are rejected by the constructor -/
theorem bigu32_rejects_out_of_range (v : BitVec 64) (hv : ¬(0 ≤ v.toInt ∧ v.toInt < 4398046510080)) :
    newBigFromI64 v = none := by
  simp [newBigFromI64, (selI64_spec v).2 hv]

/-- a block accepts a further integer exactly when it is in range and belongs to the block; the accepted integer's
    offset joins the block, a rejected one changes nothing -/
theorem bigu32_accepts_iff_same_block (blk : Block) (v : BitVec 64) :
    ((bigSetI64 blk v).2 = .ok ↔
      (0 ≤ v.toInt ∧ v.toInt < 4398046510080 ∧ blk.start.toNat = v.toInt.toNat / 1024)) ∧
    ((bigSetI64 blk v).2 ≠ .ok → (bigSetI64 blk v).1 = blk) ∧
    ((bigSetI64 blk v).2 = .ok → (bigSetI64 blk v).1.start = blk.start ∧
      ∀ j, mem1024 (bigSetI64 blk v).1.bits j = (mem1024 blk.bits j || decide (v.toInt.toNat % 1024 = j))) := by
  by_cases hv : 0 ≤ v.toInt ∧ v.toInt < 4398046510080
  · obtain ⟨h1, h2, h3⟩ := (selI64_spec v).1 hv
    have h := set_same_block blk (selI64 v).2.1 (selI64 v).2.2 (v.toInt.toNat % 1024) (by omega) h3
      (bigSetI64 blk v) (by simp [bigSetI64, h1])
    rw [h2] at h
    exact ⟨h.1.trans ⟨fun e => ⟨hv.1, hv.2, e⟩, fun e => e.2.2⟩, h.2⟩
  · have e : bigSetI64 blk v = (blk, .unsupported) := by simp [bigSetI64, (selI64_spec v).2 hv]
    rw [e]
    exact ⟨⟨(fun h => nomatch h), fun h => absurd ⟨h.1, h.2.1⟩ hv⟩, fun _ => rfl, (fun h => nomatch h)⟩

-- non-vacuity of the range hypothesis: its largest value
example : (0 : Int) ≤ (4398046510079#64 : BitVec 64).toInt ∧ (4398046510079#64 : BitVec 64).toInt < 4398046510080 := by decide

/-- a whole history of `SetI64` calls on one block, of any length and order (so also when the block passes through every
    size 1…1024): the start never changes and the members afterwards are the old ones plus exactly the offsets of the
    accepted integers — no member is ever dropped or invented -/
theorem bigu32_set_history (vs : List (BitVec 64)) (blk : Block) :
    (vs.foldl (fun b v => (bigSetI64 b v).1) blk).start = blk.start ∧
    ∀ j, mem1024 (vs.foldl (fun b v => (bigSetI64 b v).1) blk).bits j =
      (mem1024 blk.bits j || vs.any (fun v => decide ((bigSetI64 blk v).2 = .ok ∧ v.toInt.toNat % 1024 = j))) := by
  induction vs generalizing blk with
  | nil => simp
  | cons v vs ih =>
    obtain ⟨_, hrej, hacc⟩ := bigu32_accepts_iff_same_block blk v
    -- one call: the start stays, and the offset joins exactly when the call is accepted
    have hstep : (bigSetI64 blk v).1.start = blk.start ∧ ∀ j, mem1024 (bigSetI64 blk v).1.bits j =
        (mem1024 blk.bits j || decide ((bigSetI64 blk v).2 = .ok ∧ v.toInt.toNat % 1024 = j)) := by
      by_cases hok : (bigSetI64 blk v).2 = .ok
      · exact ⟨(hacc hok).1, fun j => by rw [(hacc hok).2 j]; simp only [hok, true_and]⟩
      · rw [hrej hok]
        exact ⟨rfl, fun j => by simp only [hok, false_and, decide_false, Bool.or_false]⟩
    -- acceptance depends on the start only, which the call preserves
    have hsame : ∀ u, (bigSetI64 (bigSetI64 blk v).1 u).2 = .ok ↔ (bigSetI64 blk u).2 = .ok := fun u => by
      rw [(bigu32_accepts_iff_same_block _ u).1, (bigu32_accepts_iff_same_block blk u).1, hstep.1]
    obtain ⟨ih1, ih2⟩ := ih (bigSetI64 blk v).1
    refine ⟨ih1.trans hstep.1, fun j => ?_⟩
    rw [List.foldl_cons, ih2 j, hstep.2 j, List.any_cons, Bool.or_assoc]
    simp only [hsame]

/-- every `uint32` builds a block that iterates back to precisely `[u]` (both directions, every `n ≥ 1`) -/
theorem u32tip_roundtrip (c : Cfg) (hc : Proved c) (magic : Int) (rev : Bool) (u : BitVec 32) (n : Int) (hn : 1 ≤ n) :
    tipGetN c magic rev (newTipFromU32 u) n = .slice [u] := by
  obtain ⟨h2, h3⟩ := selU32_spec u
  have lu := u.isLt
  have hval : BitVec.ofNat 32 (u.toNat % 1024) + (selU32 u).1 * 1024#32 = u := by
    apply BitVec.eq_of_toNat_eq
    have := tip_value (selU32 u).1 (by omega) (u.toNat % 1024) (Nat.mod_lt _ (by decide))
    omega
  simp only [tipGetN, tipIter_proved c hc, newTipFromU32]
  rw [getN_single c.base hc.1 magic _ _ _ (Nat.mod_lt _ (by decide)) h3 _ n hn, hval]

/-- a tip block accepts a further integer exactly when it belongs to the block -/
theorem u32tip_accepts_iff_same_block (blk : Block) (u : BitVec 32) :
    ((tipSetU32 blk u).2 = .ok ↔ blk.start.toNat = u.toNat / 1024) ∧
    ((tipSetU32 blk u).2 ≠ .ok → (tipSetU32 blk u).1 = blk) ∧
    ((tipSetU32 blk u).2 = .ok → (tipSetU32 blk u).1.start = blk.start ∧
      ∀ j, mem1024 (tipSetU32 blk u).1.bits j = (mem1024 blk.bits j || decide (u.toNat % 1024 = j))) := by
  obtain ⟨h2, h3⟩ := selU32_spec u
  have h := set_same_block blk (selU32 u).1 (selU32 u).2 (u.toNat % 1024) (by omega) h3 (tipSetU32 blk u) rfl
  rw [h2] at h
  exact h

/-- **`BigU32.GetNAsI64 / RGetNAsI64`, exact output** (n ≥ 0, any `uint32` start, every threshold): the returned list
    `l` (nil when empty) consists, as `int64` values, of exactly `Start·1024 + m` for the first `min(n, Len)` members
    `m` of the block's set in ascending (`rev = false`) resp. descending (`rev = true`) order — no wrap-around. -/
theorem block_iteration_exact (c : Cfg) (hc : Proved c) (magic : Int) (rev : Bool) (blk : Block) (n : Int) (hn : 0 ≤ n) :
    ∃ l, bigGetN c magic rev blk n = (if l = [] then GetN.nil else .slice l) ∧
      l.map BitVec.toInt =
        ((if rev then (members1024 blk.bits).reverse else members1024 blk.bits).take n.toNat).map
          (fun (m : Nat) => ((blk.start.toNat * 1024 : Nat) : Int) + (m : Int)) := by
  obtain ⟨l, h1, h2, _⟩ := getN_block c.base hc.1 magic rev blk.bits _ n hn BitVec.toInt _ (big_value blk.start)
  exact ⟨l, by simpa only [bigGetN, bigIter_proved c hc] using h1, h2⟩

/-- forward iteration of a BigU32 block: exactly the first `min(n, Len)` integers of the block, strictly ascending -/
theorem block_forward_ascending (c : Cfg) (hc : Proved c) (magic : Int) (blk : Block) (n : Int) (hn : 0 ≤ n) :
    ∃ l, bigGetN c magic false blk n = (if l = [] then GetN.nil else .slice l) ∧
      l.map BitVec.toInt = ((members1024 blk.bits).take n.toNat).map (fun (m : Nat) => ((blk.start.toNat * 1024 : Nat) : Int) + (m : Int)) ∧
      l.length = min n.toNat (members1024 blk.bits).length ∧ (l.map BitVec.toInt).Pairwise (· < ·) := by
  obtain ⟨l, h1, h2, h3, h4, _⟩ :=
    getN_block c.base hc.1 magic false blk.bits _ n hn BitVec.toInt _ (big_value blk.start)
  exact ⟨l, by simpa only [bigGetN, bigIter_proved c hc] using h1, h2, h3, h4 rfl⟩

/-- reverse iteration: exactly the last `min(n, Len)` integers of the block, largest first, strictly descending -/
theorem block_reverse_descending (c : Cfg) (hc : Proved c) (magic : Int) (blk : Block) (n : Int) (hn : 0 ≤ n) :
    ∃ l, bigGetN c magic true blk n = (if l = [] then GetN.nil else .slice l) ∧
      l.map BitVec.toInt = ((members1024 blk.bits).reverse.take n.toNat).map (fun (m : Nat) => ((blk.start.toNat * 1024 : Nat) : Int) + (m : Int)) ∧
      l.length = min n.toNat (members1024 blk.bits).length ∧ (l.map BitVec.toInt).Pairwise (· > ·) := by
  obtain ⟨l, h1, h2, h3, _, h4⟩ :=
    getN_block c.base hc.1 magic true blk.bits _ n hn BitVec.toInt _ (big_value blk.start)
  exact ⟨l, by simpa only [bigGetN, bigIter_proved c hc] using h1, h2, h3, h4 rfl⟩

/-- `U32BitTip.GetNAsU32 / RGetNAsU32`, exact output (start within `MaxU32TipStart`, as every constructor guarantees):
    the `uint32` values are exactly `Start·1024 + m` for the first `min(n, Len)` members, ascending resp. descending -/
theorem tip_forward_ascending (c : Cfg) (hc : Proved c) (magic : Int) (blk : Block) (hst : blk.start.toNat ≤ 4194303)
    (n : Int) (hn : 0 ≤ n) :
    ∃ l, tipGetN c magic false blk n = (if l = [] then GetN.nil else .slice l) ∧
      l.map (fun v => (v.toNat : Int)) = ((members1024 blk.bits).take n.toNat).map (fun (m : Nat) => ((blk.start.toNat * 1024 : Nat) : Int) + (m : Int)) ∧
      l.length = min n.toNat (members1024 blk.bits).length ∧ (l.map (fun v => (v.toNat : Int))).Pairwise (· < ·) := by
  obtain ⟨l, h1, h2, h3, h4, _⟩ :=
    getN_block c.base hc.1 magic false blk.bits _ n hn (fun v => (v.toNat : Int)) _ (tip_value blk.start hst)
  exact ⟨l, by simpa only [tipGetN, tipDir_proved c hc, tipIter_proved c hc] using h1, h2, h3, h4 rfl⟩

theorem tip_reverse_descending (c : Cfg) (hc : Proved c) (magic : Int) (blk : Block) (hst : blk.start.toNat ≤ 4194303)
    (n : Int) (hn : 0 ≤ n) :
    ∃ l, tipGetN c magic true blk n = (if l = [] then GetN.nil else .slice l) ∧
      l.map (fun v => (v.toNat : Int)) = ((members1024 blk.bits).reverse.take n.toNat).map (fun (m : Nat) => ((blk.start.toNat * 1024 : Nat) : Int) + (m : Int)) ∧
      l.length = min n.toNat (members1024 blk.bits).length ∧ (l.map (fun v => (v.toNat : Int))).Pairwise (· > ·) := by
  obtain ⟨l, h1, h2, h3, _, h4⟩ :=
    getN_block c.base hc.1 magic true blk.bits _ n hn (fun v => (v.toNat : Int)) _ (tip_value blk.start hst)
  exact ⟨l, by simpa only [tipGetN, tipDir_proved c hc, tipIter_proved c hc] using h1, h2, h3, h4 rfl⟩

-- non-vacuity: a full block exists (all 1024 members: the complement of the empty block)
example (j : Nat) (hj : j < 1024) : mem1024 (reverse1024 empty1024) j = true := by
  rw [reverse1024_mem _ _ hj, mem_empty1024]; rfl

/-- every block the constructors produce satisfies the start bound used above -/
theorem newTip_start_le (u : BitVec 32) : (newTipFromU32 u).start.toNat ≤ 4194303 := by
  have := (selU32_spec u).1
  have l := u.isLt
  simp only [newTipFromU32]
  omega

/-- **`BigU32s.GetNAsI64 / RGetNAsI64`** (as coded: blocks are visited in *index order for both directions*; inside a block
    the direction applies). The result is `nil` for an empty list, a panic for `n < 0` on a non-empty list (`make`),
    otherwise exactly the first `n` values of the concatenation of the per-block full iterations
    (`blockAll rev bits (Start·1024)`; its `take k` is the single-block output of `block_iteration_exact`). The loop's
    bookkeeping (`pos = iterN`, `left = n - iterN`, stop once `iterN >= n`) is the invariant `listChain_spec`. -/
theorem bigs_list_concat (c : Cfg) (hc : Proved c) (magic : Int) (rev : Bool) (bs : List Block) (n : Int) :
    bigsGetN c magic rev bs n =
      if bs = [] then .nil else if n < 0 then .panic
      else .slice ((bs.flatMap (fun b => blockAll rev b.bits (BitVec.setWidth 64 b.start * 1024#64))).take n.toNat) := by
  simp only [bigsGetN, bigIter_proved c hc]
  exact listGetN_blocks c.base hc.1 magic rev (fun b => BitVec.setWidth 64 b.start * 1024#64) n bs

/-- **`U32BitTips.GetNAsU32 / RGetNAsU32`** (as coded: the reverse form visits the blocks in *reverse index order* and
    iterates each block downwards; the forward form visits them in index order) -/
theorem tips_list_concat (c : Cfg) (hc : Proved c) (magic : Int) (rev : Bool) (bs : List Block) (n : Int) :
    tipsGetN c magic rev bs n =
      if bs = [] then .nil else if n < 0 then .panic
      else .slice (((if rev then bs.reverse else bs).flatMap (fun b => blockAll rev b.bits (b.start * 1024#32))).take n.toNat) := by
  simp only [tipsGetN, tipIter_proved c hc]
  rw [listGetN_blocks c.base hc.1 magic rev (fun b => b.start * 1024#32) n]
  cases rev <;> simp

/-- total produced by a list form: `min(n, Σ Len)` — nothing is skipped, nothing is produced after `n` is exhausted -/
theorem list_forms_total (rev : Bool) (bs : List Block) (add : Block → BitVec 64) (n : Int) :
    ((bs.flatMap (fun b => blockAll rev b.bits (add b))).take n.toNat).length =
      min n.toNat ((bs.map (fun b => (members1024 b.bits).length)).sum) := by
  rw [List.length_take, length_flatMap_blockAll]

/-- the values of a BigU32s list iteration as `int64`s: block after block, `Start·1024 + m` -/
theorem bigs_list_values (rev : Bool) (bs : List Block) (n : Int) :
    (((bs.flatMap (fun b => blockAll rev b.bits (BitVec.setWidth 64 b.start * 1024#64))).take n.toNat).map BitVec.toInt) =
      (bs.flatMap (fun b => (if rev then (members1024 b.bits).reverse else members1024 b.bits).map
        (fun (m : Nat) => ((b.start.toNat * 1024 : Nat) : Int) + (m : Int)))).take n.toNat := by
  rw [List.map_take, List.map_flatMap]
  congr 2
  funext b
  exact blockAll_map rev b.bits _ BitVec.toInt _ (big_value b.start)

-- non-vacuity: two blocks {5} (start 0) and {1} (start 8388608 = 2^23), forward, n = 5
example : bigsGetN cfgFixed 9 false [⟨0#32, setI16 empty1024 5#16⟩, ⟨8388608#32, setI16 empty1024 1#16⟩] 5 =
    .slice [5#64, 8589934593#64] := by decide +kernel
example : tipsGetN cfgFixed 9 true [⟨0#32, setI16 empty1024 5#16⟩, ⟨1#32, setI16 (setI16 empty1024 1#16) 2#16⟩] 2 =
    .slice [1026#32, 1025#32] := by decide +kernel

/-! ### the unrepaired configuration (before f369e56 / d9c43db): the property is false of it, by concrete witnesses -/

/-- F07 — `int64(b.Start*C1K)` multiplies in `uint32`: the block of `2^33+5` iterates to `[5]` -/
theorem witness_bigu32_offset_wraps :
    (newBigFromI64 8589934597#64).map (fun b => bigGetN cfgUnrepaired 9 false b 1) = some (.slice [5#64]) := by decide +kernel

theorem witness_bigu32_roffset_wraps :
    (newBigFromI64 8589934597#64).map (fun b => bigGetN cfgUnrepaired 9 true b 1) = some (.slice [5#64]) := by decide +kernel

/-- F08 — `getNAsU32` dispatch swapped: the forward call on {7, 9} answers `[9, 7]`, the reverse call `[7, 9]` -/
theorem witness_u32tip_forward_descending :
    tipGetN cfgUnrepaired 9 false (tipSetU32 (newTipFromU32 7#32) 9#32).1 2 = .slice [9#32, 7#32] := by decide +kernel

theorem witness_u32tip_reverse_ascending :
    tipGetN cfgUnrepaired 9 true (tipSetU32 (newTipFromU32 7#32) 9#32).1 2 = .slice [7#32, 9#32] := by decide +kernel

/-- hence `bigu32_roundtrip` does not hold for `cfgUnrepaired` -/
theorem not_bigu32_roundtrip_unrepaired :
    ¬ (∀ (v : BitVec 64), 0 ≤ v.toInt ∧ v.toInt < 4398046510080 →
        ∃ blk, newBigFromI64 v = some blk ∧ bigGetN cfgUnrepaired 9 false blk 1 = .slice [v]) := by
  intro h
  obtain ⟨blk, h1, h2⟩ := h 8589934597#64 (by decide)
  have hw := witness_bigu32_offset_wraps
  rw [h1] at hw
  simp only [Option.map_some, Option.some.injEq] at hw
  rw [hw] at h2
  exact absurd h2 (by decide)

/-- the same inputs under the repaired configuration -/
example : (newBigFromI64 8589934597#64).map (fun b => bigGetN cfgFixed 9 false b 1) = some (.slice [8589934597#64]) := by decide +kernel
example : tipGetN cfgFixed 9 false (tipSetU32 (newTipFromU32 7#32) 9#32).1 2 = .slice [7#32, 9#32] := by decide +kernel

end Nv.C09
