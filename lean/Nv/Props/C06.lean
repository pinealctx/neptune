import Nv.Proofs.C06Step
/-!
C06 — property theorems for the id generators (model `Nv/Model/C06.lean`).

Ids are compared as Go compares them: signed 64-bit integers (`.toInt`).
"Whatever the clock does" = the theorems quantify over *every* list of `now` values (`coreRun`) resp.
every list of clock readings (`hardRun`); no bound on the length of the run.
The one hypothesis, as in DESIGN §5: the internal time stays inside the timestamp width of the
layout (`InWidth` — a decidable predicate on the run); beyond it `<<` drops bits.
-/
namespace Nv.C06

/-- every state reached along the run keeps its time inside the timestamp width -/
def InWidth (nb : BitVec 8) (nal : Bool) : HState → List (BitVec 64) → Prop
  | _, [] => True
  | st, now :: nows =>
    (hardCore nb nal st now).1.time.toNat < 2 ^ tsWidth nb ∧ InWidth nb nal (hardCore nb nal st now).1 nows

instance (nb : BitVec 8) (nal : Bool) : ∀ (st : HState) (nows : List (BitVec 64)), Decidable (InWidth nb nal st nows)
  | _, [] => isTrue trivial
  | st, now :: nows =>
    have := instDecidableInWidth nb nal (hardCore nb nal st now).1 nows
    by unfold InWidth; exact inferInstance

theorem core_run_above {nb : BitVec 8} (hl : LayoutOk nb) (nal : Bool) :
    ∀ (nows : List (BitVec 64)) (st : HState), WF nb st → InWidth nb nal st nows →
      (coreRun nb nal st nows).Pairwise (fun a b => a.toInt < b.toInt) ∧
      (∀ id ∈ coreRun nb nal st nows, (join nb nal st.time st.node st.step).toInt < id.toInt) ∧
      ∀ id ∈ coreRun nb nal st nows, (idFields id nb nal).2.1 = st.node
  | [], _, _, _ => ⟨List.Pairwise.nil, nofun, nofun⟩
  | now :: nows, st, wf, ⟨hpost, hrest⟩ => by
    obtain ⟨wf', hnode, hid, hlt, _⟩ := hardCore_step hl nal wf (Prod.eta _).symm hpost
    obtain ⟨hpw, habove, hfield⟩ := core_run_above hl nal nows _ wf' hrest
    rw [← hid] at habove
    refine ⟨(increasing_cons hlt hpw habove).1, (increasing_cons hlt hpw habove).2, List.forall_mem_cons.2 ⟨?_, ?_⟩⟩
    · rw [hid, idFields_join hl nal wf'.time wf'.node wf'.step, hnode]
    · exact fun id h => (hfield id h).trans hnode

/-- **strictly increasing**: every id is greater than every id returned before, for every sequence of
    `now` values — stalls, steps back, far jumps, any number of calls inside one millisecond -/
theorem hard_strictly_increasing {nb : BitVec 8} (hl : LayoutOk nb) (nal : Bool) :
    ∀ (nows : List (BitVec 64)) (st : HState), WF nb st → InWidth nb nal st nows →
      (coreRun nb nal st nows).Pairwise (fun a b => a.toInt < b.toInt) :=
  fun nows st wf hw => (core_run_above hl nal nows st wf hw).1

theorem hard_unique {nb : BitVec 8} (hl : LayoutOk nb) (nal : Bool) (nows : List (BitVec 64)) (st : HState)
    (wf : WF nb st) (hw : InWidth nb nal st nows) : (coreRun nb nal st nows).Nodup :=
  nodup_of_increasing (hard_strictly_increasing hl nal nows st wf hw)

theorem hard_node_field {nb : BitVec 8} (hl : LayoutOk nb) (nal : Bool) (nows : List (BitVec 64)) (st : HState)
    (wf : WF nb st) (hw : InWidth nb nal st nows) :
    ∀ id ∈ coreRun nb nal st nows, (idFields id nb nal).2.1 = st.node :=
  (core_run_above hl nal nows st wf hw).2.2

/-- concurrent callers: `Generate` is one critical section (facts `hardLocked`, `hardClockUnderLock`), so the
    calls of all goroutines form one sequence in lock order; what one goroutine (or any subset of them) sees is a
    sub-sequence of it — still strictly increasing, still duplicate-free -/
theorem hard_concurrent_view {nb : BitVec 8} (hl : LayoutOk nb) (nal : Bool) (nows : List (BitVec 64)) (st : HState)
    (wf : WF nb st) (hw : InWidth nb nal st nows) (view : List (BitVec 64))
    (hsub : view.Sublist (coreRun nb nal st nows)) :
    view.Pairwise (fun a b => a.toInt < b.toInt) ∧ view.Nodup :=
  ⟨(hard_strictly_increasing hl nal nows st wf hw).sublist hsub, (hard_unique hl nal nows st wf hw).sublist hsub⟩

theorem hard_ts_ge_now {nb : BitVec 8} (hl : LayoutOk nb) (nal : Bool) :
    ∀ (nows : List (BitVec 64)) (st : HState), WF nb st → InWidth nb nal st nows →
      ∀ p ∈ List.zip nows (coreRun nb nal st nows), p.1.toInt ≤ (idFields p.2 nb nal).1.toInt
  | [], _, _, _ => nofun
  | now :: nows, st, wf, ⟨hpost, hrest⟩ => by
    obtain ⟨wf', _, hid, _, hge⟩ := hardCore_step hl nal wf (Prod.eta _).symm hpost
    refine List.forall_mem_cons.2 ⟨?_, hard_ts_ge_now hl nal nows _ wf' hrest⟩
    show now.toInt ≤ (idFields (hardCore nb nal st now).2 nb nal).1.toInt
    rw [hid, idFields_join hl nal wf'.time wf'.node wf'.step]
    exact hge

theorem hardRun_eq_coreRun (c : Cfg) (nb : BitVec 8) (nal : Bool) :
    ∀ (ts : List Clock) (st : HState),
      hardRun c nb nal st ts = coreRun nb nal st (ts.map (fun t => hardNow c st.epoch (accWord c.nowAcc t)))
  | [], _ => rfl
  | t :: ts, st => by
    have he : (hardGen c nb nal st t).1.epoch = st.epoch := by rw [hardGen, hardCore_keeps]
    simp only [hardRun, List.map_cons, coreRun]
    rw [hardRun_eq_coreRun c nb nal ts, he]
    rfl

/-- a clock reading and an epoch far from the int64 limits (|·| < 2^62 ms ≈ 146 million years) -/
def ClockOk (epoch : BitVec 64) (t : Clock) : Prop :=
  -2 ^ 62 ≤ t.ms ∧ t.ms < 2 ^ 62 ∧ -2 ^ 62 ≤ epoch.toInt ∧ epoch.toInt < 2 ^ 62
instance (e : BitVec 64) (t : Clock) : Decidable (ClockOk e t) := by unfold ClockOk; exact inferInstance

theorem hardNow_milli {c : Cfg} (hc : Proved c) {epoch : BitVec 64} {t : Clock} (ht : ClockOk epoch t) :
    (hardNow c epoch (accWord c.nowAcc t)).toInt = t.ms - epoch.toInt := by
  obtain ⟨h1, h2, h3, h4⟩ := ht
  unfold hardNow
  rw [hc.1]
  simp only [accMs, accWord]
  rw [BitVec.toInt_sub, BitVec.toInt_ofInt_eq_self (by omega) (by omega) (by omega)]
  apply Int.bmod_eq_of_le <;> omega

/-- **timestamp ≥ clock**: for the repaired accessor, every id carries a timestamp (relative to the epoch) that
    is not earlier than the clock reading it was generated at -/
theorem hard_ts_ge_clock {c : Cfg} (hc : Proved c) {nb : BitVec 8} (hl : LayoutOk nb) (nal : Bool)
    (ts : List Clock) (st : HState) (wf : WF nb st) (hok : ∀ t ∈ ts, ClockOk st.epoch t)
    (hw : InWidth nb nal st (ts.map (fun t => hardNow c st.epoch (accWord c.nowAcc t)))) :
    ∀ p ∈ List.zip ts (hardRun c nb nal st ts), p.1.ms - st.epoch.toInt ≤ (idFields p.2 nb nal).1.toInt := by
  intro p hp
  rw [hardRun_eq_coreRun] at hp
  rw [← hardNow_milli hc (hok p.1 (List.of_mem_zip hp).1)]
  refine hard_ts_ge_now hl nal _ st wf hw (hardNow c st.epoch (accWord c.nowAcc p.1), p.2) ?_
  rw [List.zip_map_left]
  exact List.mem_map.2 ⟨p, hp, rfl⟩

theorem nodeEpoch_milli {c : Cfg} (hc : Proved c) (epochG : BitVec 64) : nodeEpoch c epochG = epochG := by
  unfold nodeEpoch; rw [hc.2.1]; simp only [accMs, accWord, BitVec.ofInt_toInt]

theorem newNode_seed {c : Cfg} {nb : BitVec 8} (hl : LayoutOk nb) (nal : Bool) {epochG node min : BitVec 64} {st : HState}
    (hnew : newNode c nb nal epochG node min = some st) (hmin : 0 ≤ min.toInt)
    (hnode : (idFields min nb nal).2.1 = node) :
    WF nb st ∧ join nb nal st.time st.node st.step = min ∧ st.node = node := by
  have hlt := toNat_lt_of_toInt_nonneg hmin
  obtain ⟨r1, r2, r3⟩ := idFields_ranges hl nal hlt
  unfold newNode at hnew
  split at hnew
  · cases hnew
  · cases hnew
    subst hnode
    exact ⟨⟨r1, r2, r3⟩, join_idFields hl nal hlt, rfl⟩

/-- **restart**: a wall-clock node restarted with the last id it issued (any non-negative id carrying its node
    number) continues strictly above that id, whatever the clock does afterwards -/
theorem hard_restart_above {c : Cfg} {nb : BitVec 8} (hl : LayoutOk nb) (nal : Bool) {epochG node min : BitVec 64} {st : HState}
    (hnew : newNode c nb nal epochG node min = some st) (hmin : 0 ≤ min.toInt)
    (hnode : (idFields min nb nal).2.1 = node) (nows : List (BitVec 64)) (hw : InWidth nb nal st nows) :
    ∀ id ∈ coreRun nb nal st nows, min.toInt < id.toInt := by
  obtain ⟨wf, hv, _⟩ := newNode_seed hl nal hnew hmin hnode
  rw [← hv]
  exact (core_run_above hl nal nows st wf hw).2.1

theorem newNode_isSome_iff (c : Cfg) {nb : BitVec 8} (hl : LayoutOk nb) (nal : Bool) (epochG node min : BitVec 64) :
    (newNode c nb nal epochG node min).isSome ↔ (0 ≤ node.toInt ∧ node.toInt < 2 ^ nb.toNat) := by
  have hm : ((1#64 <<< nb.toNat) - 1#64).toInt = 2 ^ nb.toNat - 1 := by
    have hnb := hl.le
    have hm := nodeMax_toNat (w := nb.toNat) (by omega)
    have hpow := Nat.pow_le_pow_right (n := 2) (by decide) hnb
    have hpos := Nat.two_pow_pos nb.toNat
    rw [toInt_eq_toNat_of_lt (by omega), hm, Int.natCast_sub hpos, Int.natCast_pow]
    rfl
  unfold newNode
  split
  · next h =>
    rw [Bool.or_eq_true, BitVec.slt_iff_toInt_lt, BitVec.slt_iff_toInt_lt, hm, BitVec.toInt_zero] at h
    simp only [Option.isSome_none, Bool.false_eq_true, false_iff]
    omega
  · next h =>
    rw [Bool.or_eq_true, BitVec.slt_iff_toInt_lt, BitVec.slt_iff_toInt_lt, hm, BitVec.toInt_zero] at h
    simp only [Option.isSome_some, true_iff]
    omega

/-- the counter never sits at MaxInt64 when a call starts (there `current++` wraps to MinInt64) -/
def NanoBelowMax : BitVec 64 → List (BitVec 64) → Prop
  | _, [] => True
  | cur, ts :: rest => cur.toInt < 2 ^ 63 - 1 ∧ NanoBelowMax (nanoGen ts cur).2 rest

instance : ∀ (cur : BitVec 64) (tss : List (BitVec 64)), Decidable (NanoBelowMax cur tss)
  | _, [] => isTrue trivial
  | cur, ts :: rest =>
    have := instDecidableNanoBelowMax (nanoGen ts cur).2 rest
    by unfold NanoBelowMax; exact inferInstance

theorem nano_run_above : ∀ (tss : List (BitVec 64)) (cur : BitVec 64), NanoBelowMax cur tss →
    (nanoRun cur tss).Pairwise (fun a b => a.toInt < b.toInt) ∧ ∀ id ∈ nanoRun cur tss, cur.toInt < id.toInt
  | [], _, _ => ⟨List.Pairwise.nil, nofun⟩
  | ts :: rest, cur, ⟨h, hrest⟩ => by
    obtain ⟨h1, h2, _⟩ := nanoGen_step ts cur h
    obtain ⟨hp, ha⟩ := nano_run_above rest _ hrest
    exact increasing_cons h1 hp (fun x hx => h2 ▸ ha x hx)

/-- **unix-nano generator**: strictly increasing for every sequence of supplied timestamps (any order, repeated,
    far future), below MaxInt64 -/
theorem nano_strictly_increasing : ∀ (tss : List (BitVec 64)) (cur : BitVec 64), NanoBelowMax cur tss →
    (nanoRun cur tss).Pairwise (fun a b => a.toInt < b.toInt) :=
  fun tss cur h => (nano_run_above tss cur h).1

theorem nano_ge_ts : ∀ (tss : List (BitVec 64)) (cur : BitVec 64), NanoBelowMax cur tss →
    ∀ p ∈ List.zip tss (nanoRun cur tss), p.1.toInt ≤ p.2.toInt
  | [], _, _ => nofun
  | ts :: rest, cur, ⟨h, hrest⟩ =>
    List.forall_mem_cons.2 ⟨(nanoGen_step ts cur h).2.2, nano_ge_ts rest _ hrest⟩

/-- at MaxInt64 the counter wraps — the boundary `NanoBelowMax` excludes -/
theorem witness_nano_wraps_at_max :
    (nanoGen 0#64 9223372036854775807#64).1.toInt = -9223372036854775808 := by decide

/-- the readings are those of a clock that never runs backwards (each reading is at or after the time the node
    last used; the reading that ends the spin loop is past it), and the time stays inside the width -/
def MonoOk (nb : BitVec 8) (nal : Bool) : MState → List (BitVec 64 × BitVec 64) → Prop
  | _, [] => True
  | st, r :: rs => st.time.toInt ≤ r.1.toInt ∧
    match monoGen nb nal st r.1 r.2 with
    | none => False
    | some (st', _) => st'.time.toNat < 2 ^ tsWidth nb ∧ MonoOk nb nal st' rs

instance instDecMonoOk (nb : BitVec 8) (nal : Bool) :
    ∀ (st : MState) (rs : List (BitVec 64 × BitVec 64)), Decidable (MonoOk nb nal st rs)
  | _, [] => isTrue trivial
  | st, r :: rs =>
    match h : monoGen nb nal st r.1 r.2 with
    | none => isFalse (by simp only [MonoOk, h]; exact fun x => x.2)
    | some (st', _) =>
      have := instDecMonoOk nb nal st' rs
      decidable_of_iff (st.time.toInt ≤ r.1.toInt ∧ st'.time.toNat < 2 ^ tsWidth nb ∧ MonoOk nb nal st' rs)
        (by simp only [MonoOk, h])

theorem mono_run_above {nb : BitVec 8} (hl : LayoutOk nb) (nal : Bool) :
    ∀ (rs : List (BitVec 64 × BitVec 64)) (st : MState), MWF nb st → MonoOk nb nal st rs →
      ∃ ids, monoRun nb nal st rs = some ids ∧ ids.Pairwise (fun a b => a.toInt < b.toInt) ∧
        (∀ id ∈ ids, (join nb nal st.time st.node st.step).toInt < id.toInt) ∧
        ∀ id ∈ ids, (idFields id nb nal).2.1 = st.node
  | [], _, _, _ => ⟨[], rfl, List.Pairwise.nil, nofun, nofun⟩
  | r :: rs, st, wf, ⟨hmono, hm⟩ => by
    cases hg : monoGen nb nal st r.1 r.2 with
    | none => rw [hg] at hm; exact hm.elim
    | some q =>
      obtain ⟨st', id⟩ := q
      rw [hg] at hm
      obtain ⟨hpost, hrest⟩ := hm
      obtain ⟨wf', hnode, hid, hlt⟩ := monoGen_step hl nal wf hmono hg hpost
      obtain ⟨ids, hrun, hpw, habove, hfield⟩ := mono_run_above hl nal rs st' wf' hrest
      rw [← hid] at habove
      refine ⟨id :: ids, by simp only [monoRun, hg, hrun, Option.map_some], (increasing_cons hlt hpw habove).1,
        (increasing_cons hlt hpw habove).2, List.forall_mem_cons.2 ⟨?_, fun id h => (hfield id h).trans hnode⟩⟩
      rw [hid, idFields_join hl nal wf'.time wf'.node wf'.step, hnode]

/-- **monotonic node**: under readings of a clock that never runs backwards the ids are strictly increasing
    (also across the wrap-and-spin branch) and carry the node number -/
theorem mono_strictly_increasing {nb : BitVec 8} (hl : LayoutOk nb) (nal : Bool)
    (rs : List (BitVec 64 × BitVec 64)) (st : MState) (wf : MWF nb st) (hok : MonoOk nb nal st rs) :
    ∃ ids, monoRun nb nal st rs = some ids ∧ ids.Pairwise (fun a b => a.toInt < b.toInt) ∧ ids.Nodup ∧
      ∀ id ∈ ids, (idFields id nb nal).2.1 = st.node := by
  obtain ⟨ids, h1, h2, _, h4⟩ := mono_run_above hl nal rs st wf hok
  exact ⟨ids, h1, h2, nodup_of_increasing h2, h4⟩

/-- MonoNode is *not* monotone when a reading decreases: that Go's monotonic clock never does is an assumption
    of the property for this generator, not something the code enforces -/
theorem witness_mono_decreasing_reading :
    monoRun 10#8 false ⟨0#64, 1#64, 0#64⟩ [(5#64, 0#64), (3#64, 0#64)] = some [20975616#64, 12587008#64] := by decide

/-- whatever mode is passed, `Setup` leaves one of the three node widths: every theorem's `LayoutOk` holds of a
    configuration made through the package's own options -/
theorem setup_layout_ok (c : Cfg) (epochMs : BitVec 64) (mode : BitVec 8) (lowest : Bool) :
    LayoutOk (setupCfg c epochMs mode lowest).2.1 := by
  show LayoutOk (if mode == 8#8 || mode == 9#8 then mode else 10#8)
  split
  · next h =>
    rw [Bool.or_eq_true, beq_iff_eq, beq_iff_eq] at h
    exact h.elim Or.inl (fun h => Or.inr (Or.inl h))
  · exact Or.inr (Or.inr rfl)

theorem setup_epoch_milli {c : Cfg} (hc : Proved c) (epochMs : BitVec 64) (mode : BitVec 8) (lowest : Bool) :
    (setupCfg c epochMs mode lowest).1 = epochMs ∧ (setupCfg c epochMs mode lowest).2.2 = lowest := by
  unfold setupCfg; rw [hc.2.2]; simp only [accMs, accWord, BitVec.ofInt_toInt, and_self]

/-- a node configured through `Setup` (any mode, any epoch far from the int64 limits, node-at-lowest on or off) and
    then run under clock readings: every id carries a timestamp not earlier than the reading, relative to the epoch
    that was asked for -/
theorem setup_then_ts_ge_clock {c : Cfg} (hc : Proved c) (epochMs : BitVec 64) (mode : BitVec 8) (lowest : Bool)
    (ts : List Clock) (st : HState) (hep : st.epoch = (setupCfg c epochMs mode lowest).1)
    (wf : WF (setupCfg c epochMs mode lowest).2.1 st) (hok : ∀ t ∈ ts, ClockOk st.epoch t)
    (hw : InWidth (setupCfg c epochMs mode lowest).2.1 (setupCfg c epochMs mode lowest).2.2 st
      (ts.map (fun t => hardNow c st.epoch (accWord c.nowAcc t)))) :
    ∀ p ∈ List.zip ts (hardRun c (setupCfg c epochMs mode lowest).2.1 (setupCfg c epochMs mode lowest).2.2 st ts),
      p.1.ms - epochMs.toInt ≤ (idFields p.2 (setupCfg c epochMs mode lowest).2.1 (setupCfg c epochMs mode lowest).2.2).1.toInt := by
  have h := hard_ts_ge_clock hc (setup_layout_ok c epochMs mode lowest) (setupCfg c epochMs mode lowest).2.2 ts st wf hok hw
  rw [hep, (setup_epoch_milli hc epochMs mode lowest).1] at h
  exact h

/-- `UseEpoch` through `UnixNano` (same root cause as F06): the epoch 2300-01-01 is stored as a negative number of
    milliseconds -/
theorem witness_unixNano_useEpoch :
    (setupCfg ⟨.unixMilli, .unixMilli, .unixNano⟩ 10413792000000#64 10#8 false).1.toInt = -8032952073709 := by decide

/-! ### beyond the timestamp width (the hypothesis `InWidth` is necessary) -/

/-- **known limit of the format**: a clock reading 2^41 ms (69.7 years) after the epoch — a "far future" reading — under
    the Node1024 layout: `<<` shifts the timestamp into the sign bit, and the id is *lower* than the one issued before.
    `InWidth` fails for this run, the other hypotheses hold. -/
theorem witness_clock_beyond_width :
    hardRun ⟨.unixMilli, .unixMilli, .unixMilli⟩ 10#8 false ⟨1609430400000#64, 0#64, 1#64, 0#64⟩
      [⟨1700000000000, 0⟩, ⟨3808453655552, 0⟩] = [379876435558404096#64, BitVec.ofInt 64 (-9223372036854771712)]
    ∧ WF 10#8 ⟨1609430400000#64, 0#64, 1#64, 0#64⟩
    ∧ ¬ InWidth 10#8 false ⟨1609430400000#64, 0#64, 1#64, 0#64⟩ [90569600000#64, 2199023255552#64] :=
  ⟨by decide, ⟨by decide, by decide, by decide⟩, by decide⟩

theorem not_increasing_beyond_width :
    ¬ (∀ (nows : List (BitVec 64)) (st : HState), WF 10#8 st →
        (coreRun 10#8 false st nows).Pairwise (fun a b => a.toInt < b.toInt)) := by
  intro h
  have := h [90569600000#64, 2199023255552#64] ⟨1609430400000#64, 0#64, 1#64, 0#64⟩ witness_clock_beyond_width.2.1
  revert this; decide

/-! ### non-vacuity -/

/-- a state in the middle of a millisecond, Node1024 layout, and a clock that stalls, steps back and jumps -/
example : WF 10#8 ⟨1609430400000#64, 90569600000#64, 1023#64, 4094#64⟩ := ⟨by decide, by decide, by decide⟩
example : InWidth 10#8 false ⟨1609430400000#64, 90569600000#64, 1023#64, 4094#64⟩
    [90569600000#64, 90569600000#64, 90569599000#64, 0#64, 2199023255551#64] := by decide
example : coreRun 10#8 false ⟨1609430400000#64, 90569600000#64, 1023#64, 4094#64⟩
      [90569600000#64, 90569600000#64, 90569599000#64, 0#64, 2199023255551#64] =
    [379876435562594303#64, 379876435566784512#64, 379876435566784513#64, 379876435566784514#64, 9223372036854771712#64] := by decide
example : LayoutOk 8#8 ∧ LayoutOk 9#8 ∧ LayoutOk 10#8 := by decide
example : Proved ⟨.unixMilli, .unixMilli, .unixMilli⟩ := by decide
/-- hypotheses of `hard_ts_ge_clock` and `hard_restart_above` together: a node restarted with an id of its own, readings
    before and after it -/
example : newNode ⟨.unixMilli, .unixMilli, .unixMilli⟩ 10#8 false 1609430400000#64 1023#64 379876435562594303#64 =
      some ⟨1609430400000#64, 90569600000#64, 1023#64, 4095#64⟩
    ∧ (0 : Int) ≤ (379876435562594303#64).toInt ∧ (idFields 379876435562594303#64 10#8 false).2.1 = 1023#64
    ∧ ClockOk 1609430400000#64 ⟨1700000000000, 0⟩ ∧ ClockOk 1609430400000#64 ⟨1600000000000, 0⟩ := by decide
example : NanoBelowMax 100#64 [50#64, 100#64, 9223372036854775806#64, 0#64] := by decide
example : nanoRun 100#64 [50#64, 100#64, 103#64, 103#64] = [101#64, 102#64, 103#64, 104#64] := by decide
example : MWF 10#8 ⟨7#64, 1#64, 4095#64⟩ := ⟨by decide, by decide, by decide⟩
/-- a burst across the step-counter wrap: the reading still says 7, the loop leaves at 8 -/
example : MonoOk 10#8 false ⟨7#64, 1#64, 4095#64⟩ [(7#64, 8#64), (8#64, 0#64), (9#64, 0#64)] := by decide

/-! ### the accessor `UnixNano()/MsDivNs`: negation by witness (defect F06) -/

/-- `UnixNano()/MsDivNs`: Node256 layout (43-bit timestamp, good until 2299), fresh node 3, the clock reads
    2270-01-01T00:00:00Z — inside the width — and the id comes out stamped with the epoch (timestamp 0) -/
theorem witness_unixNano_stamp_before_clock :
    (hardGen ⟨.unixNano, .unixNano, .unixNano⟩ 8#8 false ⟨1609430400000#64, 0#64, 3#64, 0#64⟩ ⟨9467020800000, 0⟩).2 = 12289#64
    ∧ idFields 12289#64 8#8 false = (0#64, 3#64, 1#64) := by decide

/-- so `hard_ts_ge_clock` is false of that configuration -/
theorem not_ts_ge_clock_unixNano :
    ¬ (∀ (ts : List Clock) (st : HState), WF 8#8 st → (∀ t ∈ ts, ClockOk st.epoch t) →
        InWidth 8#8 false st (ts.map (fun t => hardNow ⟨.unixNano, .unixNano, .unixNano⟩ st.epoch (accWord .unixNano t))) →
        ∀ p ∈ List.zip ts (hardRun ⟨.unixNano, .unixNano, .unixNano⟩ 8#8 false st ts),
          p.1.ms - st.epoch.toInt ≤ (idFields p.2 8#8 false).1.toInt) := by
  intro h
  have := h [⟨9467020800000, 0⟩] ⟨1609430400000#64, 0#64, 3#64, 0#64⟩ ⟨by decide, by decide, by decide⟩
    (by intro t ht; simp only [List.mem_singleton] at ht; subst ht; decide) (by decide)
    (⟨9467020800000, 0⟩, 12289#64) (by decide)
  revert this; decide

/-- `NewNode`'s conversion of `_epoch` through `UnixNano`: an epoch of 2300-01-01 is stored as a different number -/
theorem witness_unixNano_epoch :
    nodeEpoch ⟨.unixMilli, .unixNano, .unixMilli⟩ 10413792000000#64 ≠ 10413792000000#64 := by decide

end Nv.C06
