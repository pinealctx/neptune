import Nv.Proofs.C15Commute
import Nv.Proofs.C15Queue
/-!
C15 — property theorems for the mux worker group (model: `Nv.Model.C15`).
-/
namespace Nv.C15

/-- the repaired `locHash` is in range for every hash and every positive worker count -/
theorem lochash_in_range_remFirst : LocOk locRemFirst := by
  intro n h hs
  have hb := srem_bounds h n hs
  simp only [locRemFirst, BitVec.slt_iff_toInt_lt, BitVec.toInt_zero]
  split
  · rename_i hneg
    rw [neg_toInt_of_srem_neg h n hs]
    exact ⟨Int.neg_nonneg_of_nonpos (Int.le_of_lt hneg), Int.neg_lt_of_neg_lt hb.1⟩
  · rename_i hnn
    exact ⟨Int.not_lt.1 hnn, hb.2⟩

/-- today's `locHash`: the minimum integer on 3 workers gives −2 (`index out of range [-2]`) -/
theorem witness_locAbsFirst_minInt : (locAbsFirst 3#64 (BitVec.intMin 64)).toInt = -2 := by decide

theorem not_lochash_in_range_absFirst : ¬ LocOk locAbsFirst := by
  intro h
  have := (h 3#64 (BitVec.intMin 64) (by decide)).1
  rw [witness_locAbsFirst_minInt] at this
  omega

/-- `mux_same_key_same_worker`: the worker of an operation is a function of its key alone, and — for an
in-range kernel — it exists (no panic) and is below the worker count, for every key -/
theorem mux_same_key_same_worker (loc : Loc) (hl : LocOk loc) (n : Nat) (hn : 0 < n) (hb : n < 2^63)
    (a b : Op) (hk : a.key = b.key) :
    workerOf loc n a.key = workerOf loc n b.key ∧ ∃ w, workerOf loc n a.key = some w ∧ w < n := by
  refine ⟨by rw [hk], ?_⟩
  have hi := toInt_ofNat_small n hb
  have := hl (BitVec.ofNat 64 n) (BitVec.ofInt 64 a.key) (by rw [hi]; omega)
  rw [hi] at this
  have hw : workerOf loc n a.key = some _ := if_pos this
  exact ⟨_, hw, workerOf_lt hw⟩

example : workerOf locRemFirst 3 (-9223372036854775808) = some 2 := by decide
/-- today's kernel: the minimum integer has no worker on 3 workers (the indexing expression panics) -/
theorem witness_workerOf_minInt : workerOf locAbsFirst 3 (-9223372036854775808) = none := by decide

/-- `mux_coherent`: for every configuration, every kernel, both facades, every capacity and worker count,
every operation sequence and every fault pattern: after each completed operation, whatever any worker's
cache holds for a key is exactly what the store holds for it. -/
theorem mux_coherent (cfg : Cfg) (hd : DelOk cfg) (loc : Loc) (lru sized : Bool) (cap workers : Nat)
    (ops : List (Op × List Bool)) :
    Coherent (final (step cfg loc) (State.init lru sized cap workers) ops) :=
  coherent_of_inv (inv_final cfg hd loc ops _ (inv_init loc lru sized cap workers))

/-- the same, after every prefix (`final` of every prefix is coherent) -/
theorem mux_coherent_prefix (cfg : Cfg) (hd : DelOk cfg) (loc : Loc) (lru sized : Bool) (cap workers : Nat)
    (pre post : List (Op × List Bool)) :
    Coherent (final (step cfg loc) (State.init lru sized cap workers) pre) ∧
    Coherent (final (step cfg loc) (State.init lru sized cap workers) (pre ++ post)) :=
  ⟨mux_coherent cfg hd loc lru sized cap workers pre, mux_coherent cfg hd loc lru sized cap workers (pre ++ post)⟩

/-! ### any store that meets the callback contract -/

/-- `mux_coherent_any_callbacks`: coherence does not depend on the in-memory store of the model. For ANY five callbacks
that meet `CBSpec` — a load returns what is stored and writes nothing; a mutation either fails and leaves the store as
it was or changes it at its key only and returns the row now stored; an upsert not handed the cached row may return a
partial row; none touches the cache — every operation sequence leaves every worker's cache coherent with the store. -/
theorem mux_coherent_any_callbacks (cb : CBs) (hs : CBSpec cb) (cfg : Cfg) (hd : DelOk cfg) (loc : Loc)
    (lru sized : Bool) (cap workers : Nat) (ops : List (Op × List Bool)) :
    Coherent (final (G.step cb cfg loc) (State.init lru sized cap workers) ops) :=
  coherent_of_inv (G.inv_final hs cfg hd loc ops _ (inv_init loc lru sized cap workers))

/-- every handler over such callbacks keeps its cache coherent, writes the store at its own key only, and caches
nothing under another key -/
theorem mux_handler_ok_any_callbacks (cb : CBs) (hs : CBSpec cb) (cfg : Cfg) (hd : DelOk cfg) (c : Ctx) (op : Op) :
    HOk op.key c (G.handle cb cfg c op).1 := G.handle_ok hs cfg hd c op

/-- the model of the property is the instance at the in-memory callbacks, and those meet the contract -/
theorem mux_model_is_instance (cfg : Cfg) (loc : Loc) :
    CBSpec memCBs ∧ (∀ s inp, G.step memCBs cfg loc s inp = step cfg loc s inp) :=
  ⟨memCBs_spec, fun s inp => by rw [step_mem]⟩

/-- nil rows are ordinary values of the model (`Val` 0 is the Go value nil; `MutSpec`/`CBSpec` put no condition on the value a
callback hands back): a cached row updated to the nil row is cached as the nil row — not left as it was, not dropped -/
theorem witness_update_to_nil_cached :
    let s := final (step ⟨.storeFirst, .once⟩ locRemFirst) (State.init false false 0 1) [(.add 1 5, []), (.upd 1 0, [])]
    s.store = [(1, 0)] ∧ s.caches = [⟨false, false, 0, [(1, 0)]⟩] := by decide +kernel

/-- the contract has teeth: an `addFn` that reports success without storing the row (so `MutSpec` fails) leaves the
cache holding a row the store does not have -/
def lyingAdd : CBs := { memCBs with add := fun c _ v => (.ok v, c) }

theorem witness_lying_add_incoherent :
    let s := final (G.step lyingAdd ⟨.storeFirst, .once⟩ locRemFirst) (State.init false false 0 1) [(.add 1 5, [])]
    s.store = [] ∧ s.caches = [⟨false, false, 0, [(1, 5)]⟩] := by decide +kernel

theorem lyingAdd_not_spec : ¬ CBSpec lyingAdd := by
  intro hs
  have h := mux_coherent_any_callbacks lyingAdd hs ⟨.storeFirst, .once⟩ (Or.inl rfl) locRemFirst false false 0 1 [(.add 1 5, [])]
  obtain ⟨hst, hca⟩ := witness_lying_add_incoherent
  have := h ⟨false, false, 0, [(1, 5)]⟩ (by rw [hca]; exact List.mem_singleton.2 rfl) 1 5 (List.mem_singleton.2 rfl)
  rw [hst] at this
  cases this

/-- what `Get`/`Peek` of any worker returns is the store's value -/
theorem mux_cached_value_is_stored (cfg : Cfg) (hd : DelOk cfg) (loc : Loc) (lru sized : Bool) (cap workers : Nat)
    (ops : List (Op × List Bool)) (c : Cache) (k : Key) (v : Val)
    (hc : c ∈ (final (step cfg loc) (State.init lru sized cap workers) ops).caches) (hp : cPeek c k = some v) :
    sGet (final (step cfg loc) (State.init lru sized cap workers) ops).store k = some v :=
  mux_coherent cfg hd loc lru sized cap workers ops c hc k v (sGet_mem hp)

-- non-vacuity: a run with a failing update in the middle leaves cache and store equal
set_option maxRecDepth 8192 in
example : (final (step ⟨.storeFirst, .once⟩ locRemFirst) (State.init true false 2 2)
    [(.add 1 5, []), (.upd 1 2, [true]), (.upd 1 2, []), (.utl 3 4, [false, true])]) =
    ⟨[(3, 4), (1, 7)], [⟨true, false, 2, []⟩, ⟨true, false, 2, [(1, 7)]⟩]⟩ := by decide +kernel

-- sized values on a small LRU: an update that grows the row past the capacity evicts it (never keeps the old row);
-- an upsert on a cache miss returns the partial row and caches nothing
set_option maxRecDepth 8192 in
example : (final (step ⟨.storeFirst, .once⟩ locRemFirst) (State.init true true 1 1)
    [(.add 1 4, []), (.upd 1 1, []), (.utr 2 3, []), (.utr 2 1, [])]) =
    ⟨[(2, 4), (1, 5)], [⟨true, true, 1, []⟩]⟩ := by decide +kernel

-- zero-sized rows (value % 3 = 0) fit an LRU of any capacity, even 0, and a delete removes them
set_option maxRecDepth 8192 in
example : (final (step ⟨.storeFirst, .once⟩ locRemFirst) (State.init true true 0 1)
    [(.add 1 3, []), (.add 2 6, []), (.del 1, [])]) =
    ⟨[(2, 6)], [⟨true, true, 0, [(2, 6)]⟩]⟩ := by decide +kernel

/-- `Proved` has teeth: with a handler that forgets `ca.Delete` (configuration `noDelete`) a successful delete leaves
the cache holding a value the store no longer has — coherence and `mux_delete_uncaches` are false of it -/
theorem witness_noDelete_incoherent :
    let s := final (step ⟨.noDelete, .once⟩ locRemFirst) (State.init false false 0 1) [(.add 1 5, []), (.del 1, [])]
    s.store = [] ∧ s.caches = [⟨false, false, 0, [(1, 5)]⟩] := by decide +kernel

theorem not_coherent_noDelete : ¬ (∀ ops, Coherent (final (step ⟨.noDelete, .once⟩ locRemFirst) (State.init false false 0 1) ops)) := by
  intro h
  obtain ⟨hst, hca⟩ := witness_noDelete_incoherent
  have := h [(.add 1 5, []), (.del 1, [])] ⟨false, false, 0, [(1, 5)]⟩ (by rw [hca]; exact List.mem_singleton.2 rfl) 1 5
    (List.mem_singleton.2 rfl)
  rw [hst] at this
  cases this

/-- in a state where every cached entry sits in its key's worker (`Inv`), a delete that reports success leaves the key
cached nowhere: its own worker has dropped it, no other worker ever had it -/
theorem delete_uncaches_of_inv (cfg : Cfg) (hd : DelOk cfg) (loc : Loc) (s : State) (hinv : Inv loc s) (k : Key)
    (f : List Bool) (hres : (step cfg loc s (.del k, f)).2.res = .nil) :
    ∀ c ∈ (step cfg loc s (.del k, f)).1.caches, cPeek c k = none := by
  rcases step_cases cfg loc s (.del k, f) with ⟨_, e⟩ | ⟨w, ca, hw, hca, e⟩ <;> rw [e] at hres ⊢
  · cases hres
  · intro c hc
    rcases List.mem_iff_getElem?.1 hc with ⟨w', hw'⟩
    rw [getElem?_set_of_getElem? hca] at hw'
    split at hw'
    · cases hw'; exact hDelete_nil cfg hd _ k hres
    · rename_i hww
      cases hp : cPeek c k with
      | none => rfl
      | some v =>
        have := (hinv w' c hw' k v (sGet_mem hp)).2
        rw [show workerOf loc s.caches.length k = some w from hw] at this
        exact absurd (Option.some.inj this).symm hww

/-- `mux_delete_uncaches`: in every state reachable by operations, a delete that reports success leaves
no cached entry for the key in any worker's cache -/
theorem mux_delete_uncaches (cfg : Cfg) (hd : DelOk cfg) (loc : Loc) (lru sized : Bool) (cap workers : Nat)
    (ops : List (Op × List Bool)) (k : Key) (f : List Bool)
    (hres : (step cfg loc (final (step cfg loc) (State.init lru sized cap workers) ops) (.del k, f)).2.res = .nil) :
    ∀ c ∈ (step cfg loc (final (step cfg loc) (State.init lru sized cap workers) ops) (.del k, f)).1.caches,
      cPeek c k = none :=
  delete_uncaches_of_inv cfg hd loc _ (inv_final cfg hd loc ops _ (inv_init loc lru sized cap workers)) k f hres

/-- `mux_add_dup_no_store_call`: an add for a key its worker has cached reports the duplicate-key error,
invokes no callback, consumes no fault bit and leaves store and caches exactly as they were -/
theorem mux_add_dup_no_store_call (cfg : Cfg) (loc : Loc) (s : State) (k : Key) (v v0 : Val) (f : List Bool)
    (w : Nat) (ca : Cache) (hw : workerOf loc s.caches.length k = some w) (hca : s.caches[w]? = some ca)
    (hcached : cPeek ca k = some v0) :
    step cfg loc s (.add k v, f) = (s, ⟨.err .dup, []⟩) := by
  have hh : handle cfg ⟨s.store, ca, f, []⟩ (.add k v) = (⟨s.store, ca, f, []⟩, .err .dup) := by
    show hAdd _ k v = _
    simp only [hAdd, hcached]
  rw [step_eq cfg loc s (.add k v, f) hw hca, hh, set_of_getElem? hca]

-- non-vacuity: key 1 cached by worker 1 of 2, the add is rejected without a callback
set_option maxRecDepth 8192 in
example : step ⟨.storeFirst, .once⟩ locRemFirst ⟨[(1, 5)], [⟨false, false, 0, []⟩, ⟨false, false, 0, [(1, 5)]⟩]⟩ (.add 1 9, [true]) =
    (⟨[(1, 5)], [⟨false, false, 0, []⟩, ⟨false, false, 0, [(1, 5)]⟩]⟩, ⟨.err .dup, []⟩) := by decide +kernel

/-! ### one at a time, in acceptance order (per-worker FIFO + single consumer) -/

/-- `mux_key_serial_order`: under every interleaving of callers enqueueing and workers processing, the
operations applied for a key, followed by those still queued for it at its worker, are exactly the
operations accepted for that key, in acceptance order.  (Operations are applied one at a time: `applied`
is a sequence, each `complete` step applies exactly one operation.) -/
theorem mux_key_serial_order (cfg : Cfg) (loc : Loc) (lru sized : Bool) (cap workers : Nat) (q : QState)
    (hr : (qLTS cfg loc lru sized cap workers).Reach q) (k : Key) (w : Nat)
    (hw : workerOf loc q.st.caches.length k = some w) :
    q.applied.filter (keyIs k) ++ ((q.pending[w]?).getD []).filter (keyIs k) = q.accepted.filter (keyIs k) :=
  (LTS.inv_of_step (qLTS cfg loc lru sized cap workers) (QInv loc) (qinv_init loc lru sized cap workers)
    (fun s a s' hi hs => qinv_step cfg loc s s' a hi hs) q hr).2 k w hw

theorem mux_applied_prefix_of_accepted (cfg : Cfg) (loc : Loc) (lru sized : Bool) (cap workers : Nat) (q : QState)
    (hr : (qLTS cfg loc lru sized cap workers).Reach q) (k : Key) (w : Nat)
    (hw : workerOf loc q.st.caches.length k = some w) :
    q.applied.filter (keyIs k) <+: q.accepted.filter (keyIs k) :=
  ⟨_, mux_key_serial_order cfg loc lru sized cap workers q hr k w hw⟩

/-- the store and the caches are those of the sequential run of the applied operations -/
theorem mux_state_is_sequential_run (cfg : Cfg) (loc : Loc) (lru sized : Bool) (cap workers : Nat) (q : QState)
    (hr : (qLTS cfg loc lru sized cap workers).Reach q) :
    q.st = final (step cfg loc) (State.init lru sized cap workers) q.applied :=
  LTS.inv_of_step (qLTS cfg loc lru sized cap workers)
    (fun q => q.st = final (step cfg loc) (State.init lru sized cap workers) q.applied) rfl
    (fun q a q' ih hs => sequential_step cfg loc _ q q' a ih hs) q hr

theorem mux_coherent_all_schedules (cfg : Cfg) (hd : DelOk cfg) (loc : Loc) (lru sized : Bool) (cap workers : Nat) (q : QState)
    (hr : (qLTS cfg loc lru sized cap workers).Reach q) : Coherent q.st := by
  rw [mux_state_is_sequential_run cfg loc lru sized cap workers q hr]
  exact mux_coherent cfg hd loc lru sized cap workers q.applied

/-! ### operations of different workers commute -/

/-- states that no observer can tell apart: the same caches, the same row under every key (the store is a set of rows, the
model's list is one representation of it) -/
def StEq (s t : State) : Prop := s.caches = t.caches ∧ ∀ k, sGet s.store k = sGet t.store k

/-- `mux_ops_of_different_workers_commute`: two operations whose keys belong to different workers can be applied in either
order — each returns the same result and makes the same callbacks in both orders, and the two end states have the same
caches and the same rows. So the atomic-handler granularity of `mux_coherent_all_schedules` loses nothing for handlers of
different workers that run at the same time: every interleaving of their steps equals one of the two sequential orders,
and those agree. (Handlers of one worker never run at the same time: `mux_one_at_a_time`.) -/
theorem mux_ops_of_different_workers_commute (cfg : Cfg) (hd : DelOk cfg) (loc : Loc) (s : State) (a b : Op × List Bool)
    {wa wb : Nat} (hwa : workerOf loc s.caches.length a.1.key = some wa)
    (hwb : workerOf loc s.caches.length b.1.key = some wb) (hne : wa ≠ wb) :
    (step cfg loc (step cfg loc s b).1 a).2 = (step cfg loc s a).2 ∧
    (step cfg loc (step cfg loc s a).1 b).2 = (step cfg loc s b).2 ∧
    StEq (step cfg loc (step cfg loc s a).1 b).1 (step cfg loc (step cfg loc s b).1 a).1 := by
  have hk : a.1.key ≠ b.1.key := by
    intro e; rw [e, hwb] at hwa; exact hne (Option.some.inj hwa).symm
  obtain ⟨ca, hca⟩ : ∃ ca, s.caches[wa]? = some ca := ⟨_, List.getElem?_eq_getElem (workerOf_lt hwa)⟩
  obtain ⟨cb, hcb⟩ : ∃ cb, s.caches[wb]? = some cb := ⟨_, List.getElem?_eq_getElem (workerOf_lt hwb)⟩
  -- each operation alone, from s
  obtain ⟨a1, a2, a3, a4⟩ := step_local cfg hd loc (st := s.store) hwa hca rfl
  obtain ⟨b1, b2, b3, b4⟩ := step_local cfg hd loc (st := s.store) hwb hcb rfl
  -- each after the other: the other left this one's cache and this one's row as they were in s
  obtain ⟨a1', a2', a3', a4'⟩ := step_local cfg hd loc (t := (step cfg loc s b).1) (st := s.store) (inp := a)
    (by rw [step_caches_length]; exact hwa) (by rw [b2, List.getElem?_set_ne (Ne.symm hne)]; exact hca) (b4 _ hk)
  obtain ⟨b1', b2', b3', b4'⟩ := step_local cfg hd loc (t := (step cfg loc s a).1) (st := s.store) (inp := b)
    (by rw [step_caches_length]; exact hwb) (by rw [a2, List.getElem?_set_ne hne]; exact hcb) (a4 _ (Ne.symm hk))
  refine ⟨a1'.trans a1.symm, b1'.trans b1.symm, ?_, fun k => ?_⟩
  · rw [b2', a2, a2', b2]; exact List.set_comm _ _ hne
  · by_cases h1 : k = a.1.key
    · rw [h1, b4' _ hk, a3, a3']
    · by_cases h2 : k = b.1.key
      · rw [h2, b3', a4' _ (Ne.symm hk), b3]
      · rw [b4' k h2, a4 k h1, a4' k h1, b4 k h2]

/-- `StEq` is a congruence for the group: from indistinguishable states every operation returns the same result, makes the
same callbacks and leads to indistinguishable states — so the two orders of `mux_ops_of_different_workers_commute` stay
indistinguishable under everything that follows -/
theorem mux_step_respects_steq (cfg : Cfg) (hd : DelOk cfg) (loc : Loc) (s t : State) (inp : Op × List Bool) (h : StEq s t) :
    (step cfg loc t inp).2 = (step cfg loc s inp).2 ∧ StEq (step cfg loc s inp).1 (step cfg loc t inp).1 := by
  obtain ⟨hc, hs⟩ := h
  rcases step_cases cfg loc s inp with ⟨hw, e1⟩ | ⟨w, ca, hw, hca, _⟩
  · obtain ⟨_, e2⟩ | ⟨w, _, hw', _⟩ := step_cases cfg loc t inp
    · rw [e1, e2]; exact ⟨rfl, hc, hs⟩
    · rw [← hc, hw] at hw'; cases hw'
  · obtain ⟨s1, s2, s3, s4⟩ := step_local cfg hd loc (st := s.store) hw hca rfl
    obtain ⟨t1, t2, t3, t4⟩ := step_local cfg hd loc (t := t) (st := s.store) (inp := inp)
      (by rw [← hc]; exact hw) (by rw [← hc]; exact hca) (hs _).symm
    refine ⟨t1.trans s1.symm, by rw [s2, t2, hc], fun k => ?_⟩
    by_cases hk : k = inp.1.key
    · rw [hk, s3, t3]
    · rw [s4 k hk, t4 k hk]; exact hs k

/-! ### one consumer per worker: handlers of one worker never run at the same time -/

/-- for every configuration and under every schedule, a worker handles at most as many operations at a time as it has
consumers -/
theorem inFlight_le_consumers (cfg : Cfg) (loc : Loc) (lru sized : Bool) (cap workers : Nat)
    (q : QState) (hr : (qLTS cfg loc lru sized cap workers).Reach q) (w : Nat) : (inFlight q w).length ≤ q.consumers := by
  have hb : BInv q := LTS.inv_of_step (qLTS cfg loc lru sized cap workers) BInv (binv_init lru sized cap workers)
    (fun s a s' hi hs => binv_step cfg loc s s' a hi hs) q hr
  refine Nat.le_trans (List.length_take_le _ _) ?_
  cases hbw : q.busy[w]? with
  | none => exact Nat.zero_le _
  | some b => exact hb w b hbw

/-- a guarded `Start` never makes a second consumer -/
theorem consumers_le_one (cfg : Cfg) (hg : cfg.startGuard = .once) (loc : Loc) (lru sized : Bool) (cap workers : Nat)
    (q : QState) (hr : (qLTS cfg loc lru sized cap workers).Reach q) : q.consumers ≤ 1 :=
  LTS.inv_of_step (qLTS cfg loc lru sized cap workers) (fun q => q.consumers ≤ 1) (Nat.zero_le 1)
    (fun q a q' hc hs => consumers_step cfg hg loc q q' a hc hs) q hr

/-- `mux_one_at_a_time`: with a guarded `Start`, under every schedule of Start calls, callers and consumers, at most
one operation of a worker is being handled at any moment — in particular never two operations on the same key
(same key ⇒ same worker) -/
theorem mux_one_at_a_time (cfg : Cfg) (hg : cfg.startGuard = .once) (loc : Loc) (lru sized : Bool) (cap workers : Nat)
    (q : QState) (hr : (qLTS cfg loc lru sized cap workers).Reach q) (w : Nat) : (inFlight q w).length ≤ 1 :=
  Nat.le_trans (inFlight_le_consumers cfg loc lru sized cap workers q hr w)
    (consumers_le_one cfg hg loc lru sized cap workers q hr)

/-- today's `Worker.Start` (no guard): after `Start(); Start()` two operations on the same key are handled at the
same time -/
theorem witness_start_twice_two_in_flight :
    ((qLTS ⟨.storeFirst, .unguarded⟩ locRemFirst false false 0 1).run (qInit false false 0 1)
      [.start, .start, .enqueue (.utr 7 1, []), .enqueue (.utr 7 1, []), .take 0, .take 0]).map (fun q => inFlight q 0) =
    some [(.utr 7 1, []), (.utr 7 1, [])] := by decide +kernel

/-- with the guard the second consumer does not exist: the second `take` is not enabled -/
example : (qLTS ⟨.storeFirst, .once⟩ locRemFirst false false 0 1).run (qInit false false 0 1)
      [.start, .start, .enqueue (.utr 7 1, []), .enqueue (.utr 7 1, []), .take 0, .take 0] = none := by decide +kernel

end Nv.C15
