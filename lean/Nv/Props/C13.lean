import Nv.Model.C13
import Nv.Proofs.C13
/-!
C13 — property theorems (model: `Nv.Model.C13`, lemmas: `Nv.Proofs.C13`).

Every statement quantifies over all reachable states of the transition system, i.e. over all numbers of
producers and consumers, all interleavings of the critical sections (add / prior add / close / try-close / consumer
entry / resume of a woken consumer) and all choices a `Signal` can make; over every queue shape of C12 (`Par.sh`,
`Par.ssh` are arbitrary) and over every wake configuration in `ProvedWake` — `Broadcast` on close, *either*
primitive on add (one item needs one consumer).
Progress ("returns as soon as") is stated as safety: in no quiescent reachable state does a consumer wait beside a
closed queue or beside an item; that a woken goroutine eventually runs is an assumption on the Go scheduler.
-/
namespace Nv.C13
open Nv.C12

theorem inv_reachable (P : Par) (hP : ProvedWake P.kind P.wk) (a b : Int) :
    ∀ s, (lts P (P.newQ a b)).Reach s → Inv' P s :=
  LTS.inv_of_step _ _ ⟨inv_init _, fun _ => rfl⟩ fun s act s' hI h => inv_step P hP s s' act hI h

/-- **No stuck waiter.** In every reachable state in which no thread is mid-operation (nobody has been woken and
    not yet re-tested the loop guard), a consumer is parked only if the queue is open and holds nothing. -/
theorem q_no_stuck_waiter (P : Par) (hP : ProvedWake P.kind P.wk) (a b : Int) (s : CS)
    (hr : (lts P (P.newQ a b)).Reach s) (hq : s.woken = []) (hp : s.parked ≠ []) :
    s.q.closed = false ∧ s.q.ctrl = [] ∧ s.q.req = [] := by
  have hI := (inv_reachable P hP a b s hr).1
  cases hc : s.q.closed with
  | true => exact absurd (hI.1 hc) hp
  | false =>
    have := hI.2 hc hp
    rw [hq] at this
    simp [LQ.size] at this
    exact ⟨rfl, this.1, this.2⟩

/-- Whatever closed the queue: once it is closed and nobody is mid-operation, every thread there was has returned. -/
theorem all_done_when_closed (P : Par) (hP : ProvedWake P.kind P.wk) (a b : Int) (s s' : CS) (as : List Act)
    (hr : (lts P (P.newQ a b)).Reach s) (hrun : (lts P (P.newQ a b)).run s as = some s')
    (hcl : s'.q.closed = true) (hq : s'.woken = []) (t : Tid) (ht : s.has t) : t ∈ tids s'.done := by
  have hI := (inv_reachable P hP a b s' (LTS.reach_of_run _ _ s s' hr hrun)).1
  have hhas : s'.has t := run_preserves P _ (·.has t) (step_has · t) as s s' hrun ht
  -- nobody is parked beside a closed queue, nobody is woken, and `t` is still somewhere
  rw [CS.has, hI.1 hcl, hq] at hhas
  exact hhas.resolve_left nofun

/-- **Close releases every blocked consumer.** From any reachable state, after `Close` and any further steps, once
    nobody is mid-operation every consumer that was parked (or woken) at the time of the close has returned. -/
theorem close_releases_all (P : Par) (hP : ProvedWake P.kind P.wk) (a b : Int) (s s' : CS) (w : Tid) (as : List Act)
    (hr : (lts P (P.newQ a b)).Reach s) (hrun : (lts P (P.newQ a b)).run s (.close w :: as) = some s')
    (hq : s'.woken = []) :
    ∀ t, (t ∈ tids s.parked ∨ t ∈ tids s.woken) → t ∈ tids s'.done := by
  intro t ht
  refine all_done_when_closed P hP a b s s' _ hr hrun ?_ hq t (.inl ?_)
  · -- the close sets `closed`, and no later step resets it
    simp only [LTS.run] at hrun
    split at hrun
    · cases hrun
    · rename_i s1 hs1
      exact run_preserves P _ (·.q.closed = true) step_closed as s1 s' hrun (close_sets_closed P s s1 w hs1)
  · simp only [tids, List.map_append, List.mem_append]
    exact ht

/-- the system in which items leave the queue only through consumers (`SyncQueue.TryPop` by an outsider excluded) -/
def ltsC (P : Par) (q0 : LQ) : LTS CS Act :=
  ⟨CS.init q0, fun s a => if a = .tryPop then none else step P s a⟩

theorem stepC_step {P : Par} {q0 : LQ} {s s' : CS} {a : Act} (h : (ltsC P q0).step s a = some s') :
    a ≠ .tryPop ∧ step P s a = some s' := by
  simp only [ltsC] at h
  split at h
  · cases h
  · exact ⟨‹_›, h⟩

theorem reach_of_reachC (P : Par) (q0 : LQ) (s : CS) (h : (ltsC P q0).Reach s) : (lts P q0).Reach s := by
  induction h with
  | init => exact LTS.Reach.init
  | step _ hs ih => exact LTS.Reach.step ih (stepC_step hs).2

/-- **Nothing lost, duplicated or invented under concurrency**: in every reachable state, for every item value, the
    copies handed to consumers plus the copies still queued are exactly the copies accepted by adds. -/
theorem conc_conservation (P : Par) (a b : Int) (s : CS) (hr : (ltsC P (P.newQ a b)).Reach s) : Cons s :=
  LTS.inv_of_step (ltsC P (P.newQ a b)) Cons (cons_init _ ⟨rfl, rfl⟩)
    (fun s1 act s2 hC h => cons_step P s1 s2 act (stepC_step h).1 hC (stepC_step h).2) s hr

/-- handed out ⊎ queued = accepted, as a permutation (and hence with equal lengths) -/
theorem conc_conservation_perm (P : Par) (a b : Int) (s : CS) (hr : (ltsC P (P.newQ a b)).Reach s) :
    (vals s.done ++ (s.q.ctrl ++ s.q.req)).Perm s.accepted := by
  rw [List.perm_iff_count]
  intro y
  rw [List.count_append]
  exact conc_conservation P a b s hr y

/-- **k items, k consumers.** In every quiescent reachable state in which some consumer is still parked, every
    accepted item has been handed to a consumer, each exactly as often as it was accepted: the multiset of items
    returned by consumers *is* the multiset of accepted items. Hence k accepted (distinct) items while at least k
    consumers were blocked means k consumers have returned, with k distinct items; and whenever fewer consumers
    than items were blocked nobody is parked at all (`q_no_stuck_waiter`). -/
theorem k_items_k_consumers (P : Par) (hP : ProvedWake P.kind P.wk) (a b : Int) (s : CS)
    (hr : (ltsC P (P.newQ a b)).Reach s) (hq : s.woken = []) (hp : s.parked ≠ []) :
    (vals s.done).Perm s.accepted := by
  have hn := q_no_stuck_waiter P hP a b s (reach_of_reachC P _ s hr) hq hp
  have := conc_conservation_perm P a b s hr
  rwa [hn.2.1, hn.2.2, List.append_nil, List.append_nil] at this

theorem doneVal_reachable (P : Par) (a b : Int) (s : CS) (hr : (ltsC P (P.newQ a b)).Reach s) : DoneVal s :=
  LTS.inv_of_step (lts P (P.newQ a b)) DoneVal (fun _ _ hd => nomatch hd)
    (fun s1 act s2 hD h => doneVal_step P s1 s2 act hD h) s (reach_of_reachC P _ s hr)

/-- the general form: in every quiescent reachable state of an open queue, `#returned consumers + #queued items =
    #accepted items`, every returned consumer carries an item, and if anybody is still parked the queue is empty — so
    with at least as many blocked consumers as items, all items have been delivered; with more items than consumers,
    nobody is parked. -/
theorem items_vs_consumers (P : Par) (hP : ProvedWake P.kind P.wk) (a b : Int) (s : CS)
    (hr : (ltsC P (P.newQ a b)).Reach s) (hq : s.woken = []) (ho : s.q.closed = false) :
    s.done.length + (s.q.ctrl.length + s.q.req.length) = s.accepted.length ∧
    (s.parked ≠ [] → s.q.ctrl = [] ∧ s.q.req = [] ∧ s.done.length = s.accepted.length) ∧
    (s.parked.length + s.done.length < s.accepted.length → s.parked = []) := by
  have hl : s.done.length + (s.q.ctrl.length + s.q.req.length) = s.accepted.length := by
    have := (conc_conservation_perm P a b s hr).length_eq
    rwa [List.length_append, List.length_append,
      vals_length_of_all_val s.done (doneVal_reachable P a b s hr ho)] at this
  -- beside a parked consumer the queue is empty, so everything accepted has been handed out
  have hpk : s.parked ≠ [] → s.q.ctrl = [] ∧ s.q.req = [] ∧ s.done.length = s.accepted.length := fun hp => by
    have hn := q_no_stuck_waiter P hP a b s (reach_of_reachC P _ s hr) hq hp
    rw [hn.2.1, hn.2.2] at hl
    exact ⟨hn.2.1, hn.2.2, hl⟩
  refine ⟨hl, hpk, fun hlt => Decidable.byContradiction fun hp => ?_⟩
  have := (hpk hp).2.2
  omega

/-- **k items, k consumers — the exact case of the property.** In every quiescent reachable state of an open queue
    (no close so far — `closed` is never reset) in which exactly as many items have been accepted as consumers have
    called `Pop`/`PopAnyway` (`parked + done`; nobody is woken): nobody is left parked, the queue is empty, every
    consumer returned with an item, and the returned items are exactly the accepted ones as a multiset — so k distinct
    accepted items are k distinct returned items. -/
theorem k_items_k_consumers_exact (P : Par) (hP : ProvedWake P.kind P.wk) (a b : Int) (s : CS)
    (hr : (ltsC P (P.newQ a b)).Reach s) (hq : s.woken = []) (ho : s.q.closed = false)
    (hk : s.accepted.length = s.parked.length + s.done.length) :
    s.parked = [] ∧ s.q.ctrl = [] ∧ s.q.req = [] ∧ (∀ d ∈ s.done, ∃ v, d.2 = .val v) ∧
    (vals s.done).Perm s.accepted ∧ (s.accepted.Nodup → (vals s.done).Nodup) := by
  obtain ⟨hl, hpk, -⟩ := items_vs_consumers P hP a b s hr hq ho
  -- a parked consumer would leave `done` short of `accepted`
  have hp0 : s.parked = [] := Decidable.byContradiction fun hp =>
    hp (List.eq_nil_of_length_eq_zero (by have := (hpk hp).2.2; omega))
  rw [hp0, List.length_nil] at hk
  have h0 := Nat.eq_zero_of_add_eq_zero (show s.q.ctrl.length + s.q.req.length = 0 by omega)
  have hc : s.q.ctrl = [] := List.eq_nil_of_length_eq_zero h0.1
  have hrq : s.q.req = [] := List.eq_nil_of_length_eq_zero h0.2
  have hperm : (vals s.done).Perm s.accepted := by
    have := conc_conservation_perm P a b s hr
    rwa [hc, hrq, List.append_nil, List.append_nil] at this
  exact ⟨hp0, hc, hrq, doneVal_reachable P a b s hr ho, hperm, hperm.nodup_iff.2⟩

/-- **An accepted add always wakes a waiter — also one that went back to sleep.** In ANY reachable state with a parked
    consumer (no matter how it got there: first park, or woken by an earlier add, beaten to the item by a barging
    `TryPop`/`Pop` and parked again), an add that is accepted moves at least one parked consumer to `woken`, and no
    consumer disappears. The wake-up bookkeeping of the model is the code's: `Signal`/`Broadcast` on every accepted add,
    unconditionally — there is no "already signalled" state a re-parked consumer could be stuck in. -/
theorem accepted_add_wakes_a_waiter (P : Par) (hP : ProvedWake P.kind P.wk) (s s' : CS) (x : Nat) (w : Tid)
    (hp : s.parked ≠ []) (h : step P s (.add x w) = some s') (hacc : s'.accepted = s.accepted ++ [x]) :
    s'.woken ≠ [] ∧ s'.woken.length + s'.parked.length = s.woken.length + s.parked.length := by
  -- only an insertion lengthens `accepted`
  cases step_move h with
  | quiet => simp at hacc
  | @insert _ _ _ p _ _ _ _ hp' hw =>
    have hpw : p.wakes = true := by
      rcases hp' with rfl | rfl
      · exact hP.1
      · exact hP.2.1
    -- a wake only moves threads (`woke_perm`), and this one moves at least one
    have hlen := (woke_perm (wake_woke hw)).length_eq
    simp only [List.length_append] at hlen
    refine ⟨?_, by omega⟩
    cases wake_woke hw with
    | nobody h0 => exact absurd (h0 hpw) hp
    | all => exact fun h0 => hp (List.append_eq_nil_iff.1 h0).2
    | one => exact List.append_ne_nil_of_right_ne_nil _ (List.cons_ne_nil _ _)
  | close _ hw =>
    rw [(wake_frame hw).2.2] at hacc
    simp at hacc

/-- the barging history on the repaired SyncQueue: the consumer is signalled, a `TryPop` takes the item first, the
    consumer re-parks, the next push signals it again and it returns that item -/
example :
    (lts ⟨.syncq, Shape.expected, SyncShape.expected, ⟨.signal, .signal, .broadcast, .none⟩⟩ (LQ.new .syncq 0 0)).run
      (CS.init (LQ.new .syncq 0 0)) [.popCall 1 false, .add 7 1, .tryPop, .resume 1, .add 8 1, .resume 1]
      = some ⟨LQ.new .syncq 0 0, [], [], [(1, .val 8)], [7, 8]⟩ := by decide +kernel

/-- after a close the woken consumers can always run to completion: a woken thread's resume is enabled, and on a
    closed queue it returns (it never parks again) -/
theorem resume_returns_when_closed (P : Par) (s : CS) (e : Tid × Bool) (he : s.woken.find? (fun x => x.1 == e.1) = some e)
    (hc : s.q.closed = true) (hk : P.kind = .syncq → s.q.ctrl = []) :
    ∃ s', step P s (.resume e.1) = some s' ∧ s'.parked = s.parked ∧ s'.woken = s.woken.erase e ∧
      e.1 ∈ tids s'.done := by
  have _ := hk  -- not needed: whatever the lists hold, a pass parks only beside an open queue
  refine ⟨_, step_resume P s e he, ?_⟩
  rcases enter_cases P.kind P.sh e.1 e.2 { s with woken := s.woken.erase e } with ⟨ho, _⟩ | ⟨r, _, hen⟩
  · rw [show s.q.closed = false from ho] at hc; cases hc
  · rw [hen]; exact ⟨rfl, rfl, List.mem_cons_self⟩

/-! ### the oracle's quiescence function takes LTS steps only and ends with nobody woken -/

theorem resume_head (P : Par) (s : CS) (e : Tid × Bool) (r : List (Tid × Bool)) (hw : s.woken = e :: r) :
    ∃ s', step P s (.resume e.1) = some s' ∧ s'.woken = r := by
  refine ⟨_, step_resume P s e (by rw [hw]; simp), ?_⟩
  rw [enter_woken]; simp [hw]

theorem settle_run (P : Par) (q0 : LQ) : ∀ (n : Nat) (s : CS),
    ∃ as, (lts P q0).run s as = some (settle P n s) ∧ (settle P n s).woken = s.woken.drop n
  | 0, s => ⟨[], rfl, rfl⟩
  | n + 1, s => by
    unfold settle
    cases hw : s.woken with
    | nil => exact ⟨[], rfl, hw⟩
    | cons e r =>
      obtain ⟨s', hs, hr⟩ := resume_head P s e r hw
      obtain ⟨as, hrun, hwk⟩ := settle_run P q0 n s'
      simp only [hs]
      refine ⟨.resume e.1 :: as, ?_, by rw [hwk, hr]; rfl⟩
      simp only [LTS.run, lts, hs]
      exact hrun

theorem settle_reach (P : Par) (q0 : LQ) : ∀ (n : Nat) (s : CS), (lts P q0).Reach s → (lts P q0).Reach (settle P n s) := by
  intro n s h
  obtain ⟨as, hrun, _⟩ := settle_run P q0 n s
  exact LTS.reach_of_run _ as s _ h hrun

theorem settle_quiescent (P : Par) : ∀ (n : Nat) (s : CS), s.woken.length ≤ n → (settle P n s).woken = [] := by
  intro n s h
  obtain ⟨_, _, hw⟩ := settle_run P s.q n s
  rw [hw]
  exact List.drop_eq_nil_of_le h

/-- **PriQueue: the wait channel is readable beside a non-empty queue.** In every reachable state in which the
    queue is non-empty, no `Push`/`Pop` is between its unlock and its signal, and no consumer holds a received
    signal it has not yet followed by a `Pop`, the channel holds its element. All interleavings of the locked
    parts, the signal parts and the receives are covered, for every `Less` shape and capacity. -/
theorem priq_waitch_readable (sh : PriShape) (pc : PriCfg) (hp : ProvedPri pc) (cap : Int) (s : PS)
    (hr : (plts sh pc cap).Reach s) (hne : s.q.entries ≠ []) (h1 : s.pushGap = 0) (h2 : s.popGap = 0)
    (h3 : s.holders = 0) : s.token = true := by
  have hI : PInv s :=
    LTS.inv_of_step (plts sh pc cap) PInv (pinv_init cap) (fun s a s' hI h => pinv_step sh pc hp s s' a hI h) s hr
  have := hI hne
  rw [h1, h2, h3] at this
  exact this.resolve_right (by decide)

/-! ### non-vacuity -/

example : ProvedWake .q ⟨.broadcast, .broadcast, .broadcast, .none⟩ := by decide
example : ProvedWake .mq ⟨.broadcast, .signal, .broadcast, .broadcast⟩ := by decide
/-- the negative control of DESIGN Appendix B: `Signal` instead of `Broadcast` in an add is inside the proved set -/
example : ProvedWake .q ⟨.signal, .broadcast, .broadcast, .none⟩ := by decide
/-- the repaired SyncQueue -/
example : ProvedWake .syncq ⟨.signal, .signal, .broadcast, .none⟩ := by decide
example : ProvedPri ⟨true, true⟩ := by decide

/-- a reachable quiescent state with a parked consumer (hypotheses of `q_no_stuck_waiter` are satisfiable):
    two consumers park, one item arrives, one consumer takes it, the other parks again -/
example :
    (lts ⟨.q, Shape.expected, SyncShape.expected, ⟨.broadcast, .broadcast, .broadcast, .none⟩⟩ (LQ.new .q 0 0)).run
      (CS.init (LQ.new .q 0 0)) [.popCall 1 false, .popCall 2 true, .add 7 0, .resume 2, .resume 1]
      = some ⟨LQ.new .q 0 0, [(1, false)], [], [(2, .val 7)], [7]⟩ := by decide +kernel

/-- the hypotheses of `k_items_k_consumers_exact` are satisfiable: two consumers block, two items arrive, everybody
    resumes — quiescent, open, `accepted.length = parked.length + done.length = 2` -/
example :
    (ltsC ⟨.q, Shape.expected, SyncShape.expected, ⟨.broadcast, .broadcast, .broadcast, .none⟩⟩ (LQ.new .q 0 0)).run
      (CS.init (LQ.new .q 0 0)) [.popCall 1 false, .popCall 2 false, .add 7 0, .add 8 0, .resume 2, .resume 1]
      = some ⟨LQ.new .q 0 0, [], [], [(1, .val 8), (2, .val 7)], [7, 8]⟩ := by decide +kernel

/-- the window between a wake-up and the woken consumer's re-acquisition of the lock is part of the system: two
    consumers parked on the (repaired) SyncQueue, `Push` signals one, `Close` arrives before it resumes, and the
    broadcast releases the other one too — the run the harness drives with `atomic add 1 ; close` -/
example :
    (lts ⟨.syncq, Shape.expected, SyncShape.expected, ⟨.signal, .signal, .broadcast, .none⟩⟩ (LQ.new .syncq 0 0)).run
      (CS.init (LQ.new .syncq 0 0)) [.popCall 1 false, .popCall 2 false, .add 7 1, .close 0, .resume 1, .resume 2]
      = some ⟨closeQ (LQ.new .syncq 0 0), [], [], [(2, .nil), (1, .val 7)], [7]⟩ := by decide +kernel

/-- a reachable PriQueue state satisfying the hypotheses of `priq_waitch_readable` -/
example : (plts PriShape.expected ⟨true, true⟩ 3).run (PS.init 3)
      [.pushLock 1 0, .pushSignal, .pushLock 2 5, .pushSignal, .recv, .popLock true, .popSignal]
      = some ⟨⟨[⟨0, 1, 1⟩], 3, 2⟩, true, 0, 0, 0⟩ := by decide +kernel

/-! ### the configuration of defect F12, and the mutations of DESIGN Appendix B: the property is false -/

/-- `SyncQueue.Close` with `Signal` (defect F12, repaired in /repo since): two consumers parked, Close, the woken one
    resumes and returns — the other stays parked beside a closed queue with nobody mid-operation (script `new syncq /
    pop / pop / close` replays it on the code with that defect). -/
theorem witness_signal_on_close :
    (lts ⟨.syncq, Shape.expected, SyncShape.expected, ⟨.signal, .signal, .signal, .none⟩⟩ (LQ.new .syncq 0 0)).run
      (CS.init (LQ.new .syncq 0 0)) [.popCall 1 false, .popCall 2 false, .close 1, .resume 1]
      = some ⟨closeQ (LQ.new .syncq 0 0), [(2, false)], [], [(1, .nil)], []⟩ := by decide +kernel

theorem not_no_stuck_waiter_signal_on_close :
    ¬ (∀ s, (lts ⟨.syncq, Shape.expected, SyncShape.expected, ⟨.signal, .signal, .signal, .none⟩⟩ (LQ.new .syncq 0 0)).Reach s →
        s.woken = [] → s.parked ≠ [] → s.q.closed = false) := by
  intro h
  have hr := LTS.reach_of_run _ _ _ _ LTS.Reach.init witness_signal_on_close
  have := h _ hr rfl (by decide)
  revert this; decide

/-- an add that wakes nobody loses the wake-up: consumer parked, item added, consumer still parked beside it -/
theorem witness_add_without_wake :
    (lts ⟨.q, Shape.expected, SyncShape.expected, ⟨.none, .broadcast, .broadcast, .none⟩⟩ (LQ.new .q 0 0)).run
      (CS.init (LQ.new .q 0 0)) [.popCall 1 false, .add 7 0]
      = some ⟨{ LQ.new .q 0 0 with req := [7] }, [(1, false)], [], [], [7]⟩ := by decide +kernel

/-- PriQueue `Pop` without the re-signal: two entries, one signal received, one Pop — an entry is left, nothing is
    in flight, nobody holds a signal, and the channel is empty -/
theorem witness_priq_no_resignal :
    (plts PriShape.expected ⟨true, false⟩ 3).run (PS.init 3)
      [.pushLock 1 0, .pushSignal, .pushLock 2 0, .pushSignal, .recv, .popLock true]
      = some ⟨⟨[⟨0, 2, 2⟩], 3, 2⟩, false, 0, 0, 0⟩ := by decide +kernel

theorem not_waitch_readable_no_resignal :
    ¬ (∀ s, (plts PriShape.expected ⟨true, false⟩ 3).Reach s → s.q.entries ≠ [] → s.pushGap = 0 → s.popGap = 0 →
        s.holders = 0 → s.token = true) := by
  intro h
  have hr := LTS.reach_of_run _ _ _ _ LTS.Reach.init witness_priq_no_resignal
  have := h _ hr (by decide) rfl rfl rfl
  revert this; decide

end Nv.C13
