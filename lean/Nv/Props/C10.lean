import Nv.Model.C10
import Nv.Proofs.C10
/-!
C10 — property theorems for `bytex.BufferX` / `bytex.ReaderX` (model: `Nv.Model.C10`, lemmas: `Nv.Proofs.C10`).
All statements quantify over every value / value list / byte string / truncation point / limit / chunking; the
configuration `c` of the stream reader ranges over `Proved` (`io.ReadFull` strategy, empty string accepted).
-/
namespace Nv.C10

/-! ### (1) typed writes followed by the same typed reads -/

/-- one value: the typed read of what the typed write appended returns the value and leaves exactly what followed.
    Covers bool, u8, 16/32/64-bit signed and unsigned, float64 bit patterns (every NaN payload), all four varints,
    strings (also empty), size-limited strings within the limit (also exactly at it), raw bytes. -/
theorem codec_roundtrip_value (v : Val) (rest : Bytes) (h : Valid v) :
    decBuf (tyOf v) (enc v ++ rest) = (.ok v, rest) :=
  roundtrip_one v rest h

/-- **the encoding of each type is prefix-free and injective**: if two valid values of the same type are written and the
    resulting byte streams (each followed by anything) coincide, the values are equal and so is what followed — a typed
    read can never confuse two different writes -/
theorem enc_prefix_free (v w : Val) (r r' : Bytes) (hv : Valid v) (hw : Valid w) (hty : tyOf v = tyOf w)
    (h : enc v ++ r = enc w ++ r') : v = w ∧ r = r' := by
  have h1 := codec_roundtrip_value v r hv
  have h2 := codec_roundtrip_value w r' hw
  rw [hty, h, h2] at h1
  simp only [Prod.mk.injEq] at h1
  obtain ⟨a, b⟩ := h1
  cases a
  exact ⟨rfl, b.symm⟩

theorem enc_injective (v w : Val) (hv : Valid v) (hw : Valid w) (hty : tyOf v = tyOf w) (h : enc v = enc w) : v = w :=
  (enc_prefix_free v w [] [] hv hw hty (by rw [h])).1

theorem write_appends (v : Val) (buf : Bytes) (h : Valid v) : write v buf = (.ok (), buf ++ enc v) := by
  simp [write, writeOk_of_valid v h]

/-- the encodings of a list of values, followed by anything: the same sequence of typed reads returns the values;
    bytes written later (or already there) are left untouched -/
theorem codec_roundtrip_rest (vs : List Val) (rest : Bytes) (h : ∀ v ∈ vs, Valid v) :
    readAll (vs.map tyOf) (vs.flatMap enc ++ rest) = (vs.map .ok, rest) := by
  induction vs with
  | nil => rfl
  | cons v vs ih =>
    simp only [List.map_cons, List.flatMap_cons, List.append_assoc, readAll]
    rw [codec_roundtrip_value v _ (h v (by simp))]
    simp only
    rw [ih (fun w hw => h w (by simp [hw]))]

/-- any sequence of typed writes followed by the same sequence of typed reads returns the written values and
    leaves the buffer empty -/
theorem codec_roundtrip (vs : List Val) (h : ∀ v ∈ vs, Valid v) :
    readAll (vs.map tyOf) (writeAll vs []) = (vs.map .ok, []) := by
  have := codec_roundtrip_rest vs [] h
  rw [writeAll_valid vs [] h]
  simpa using this

/-- history form (writes and reads interleaved, FIFO): if the buffer holds the encodings of the values written and
    not yet read, a write keeps that true … -/
theorem fifo_write (pending : List Val) (v : Val) (h : Valid v) :
    write v (pending.flatMap enc) = (.ok (), (pending ++ [v]).flatMap enc) := by
  simp [write_appends v _ h]

/-- … and a read of the oldest value's type returns it and keeps that true -/
theorem fifo_read (v : Val) (pending : List Val) (h : Valid v) :
    decBuf (tyOf v) ((v :: pending).flatMap enc) = (.ok v, pending.flatMap enc) := by
  simpa using codec_roundtrip_value v (pending.flatMap enc) h

/-- all histories: however typed writes and reads (each of the type of the oldest unread value) are interleaved,
    the buffer machine started empty answers exactly like an ideal FIFO queue of values, and holds exactly the
    encodings of the values still queued — in particular it is empty whenever everything was read back -/
theorem codec_history_fifo (ops : List BOp) (hops : ∀ o ∈ ops, o.valid) :
    history [] [] ops = ((fifoSpec [] ops).1.map .ok, (fifoSpec [] ops).2.flatMap enc) := by
  simpa using history_refines_fifo ops hops [] (by simp)

theorem codec_history_empty_when_drained (ops : List BOp) (hops : ∀ o ∈ ops, o.valid)
    (h : (fifoSpec [] ops).2 = []) : (history [] [] ops).2 = [] := by
  rw [codec_history_fifo ops hops, h]; rfl

/-- raw bytes come back through all three raw readers: `Read(p)` is `codec_roundtrip_value (.raw p)`; `ZReadN(len p)`
    always; `ReadN(len p)` for a non-empty slice … -/
theorem raw_roundtrip_zreadN' (p rest : Bytes) : decBuf (.zreadN p.length) (p ++ rest) = (.ok (.raw p), rest) := by
  have hl : ¬ ((p.length : Int) < 0) := Int.not_lt.2 (Int.natCast_nonneg _)
  simp only [decBuf, hl, if_false, Int.toNat_natCast, bufNext_append, Out.map]

theorem raw_roundtrip_readN' (p rest : Bytes) (h : p ≠ []) : decBuf (.readN p.length) (p ++ rest) = (.ok (.raw p), rest) := by
  have hl : ¬ ((p.length : Int) ≤ 0) := Int.not_le.2 (Int.natCast_pos.2 (List.length_pos_iff.2 h))
  simp only [decBuf, hl, if_false, Int.toNat_natCast, bufRead_append, Out.map]

/-- … while `ReadN(0)` (the read-back of an empty raw write) is refused, as coded, and consumes nothing -/
theorem readN_zero_refused (bs : Bytes) : decBuf (.readN 0) bs = (.err .wrongNum, bs) := by simp [decBuf]

/-- the buffers the constructors make: nothing unread, whatever the capacity (bodies checked by the surface tie);
    so every round-trip theorem above starts from them -/
theorem codec_roundtrip_from_constructors (n : Nat) (vs : List Val) (h : ∀ v ∈ vs, Valid v) :
    readAll (vs.map tyOf) (writeAll vs newBuffer) = (vs.map .ok, []) ∧
    readAll (vs.map tyOf) (writeAll vs (newSized n)) = (vs.map .ok, []) :=
  ⟨codec_roundtrip vs h, codec_roundtrip vs h⟩

/-- after `Reset()` — whatever was written, read or grown before — the buffer is a fresh one: the next writes come back
    and leave it empty -/
theorem codec_roundtrip_after_reset (old : Bytes) (vs : List Val) (h : ∀ v ∈ vs, Valid v) :
    reset old = [] ∧ readAll (vs.map tyOf) (writeAll vs (reset old)) = (vs.map .ok, []) :=
  ⟨rfl, codec_roundtrip vs h⟩

/-- a size-limited string beyond its limit is refused and nothing is written -/
theorem write_over_limit (l : UInt32) (s buf : Bytes) (h : l.toNat < s.length) (hs : s.length < 2 ^ 32) :
    write (.lstr l s) buf = (.err .sizeLimit, buf) := by
  have hw : writeOk (.lstr l s) = false := by
    rw [writeOk, Nat.mod_eq_of_lt hs]
    exact decide_eq_false (Nat.not_le.2 h)
  rw [write, hw]
  rfl

/-- a varint never needs more than the 10 bytes `binary.MaxVarintLen64` (the scratch arrays have 12) -/
theorem uvarint_length_le (x : UInt64) : (uvarintEnc x).length ≤ 10 := uvarintEncF_length_le 9 x.toNat

/-- the loop bound in the model of `PutUvarint` (9 rounds) is never what ends the loop for a 64-bit value -/
theorem uvarint_fuel_enough (x : UInt64) (k : Nat) : uvarintEncF (9 + k) x.toNat = uvarintEnc x :=
  uvarintEncF_fuel (f := 9) x.toNat_lt (Nat.le_add_right 9 k)

/-! ### (2) truncated and arbitrary input -/

/-- every strict prefix of an encoding yields an error, never a value -/
theorem decode_truncated_errors (v : Val) (n : Nat) (h : Valid v) (hn : n < (enc v).length) :
    ∃ e, (decBuf (tyOf v) ((enc v).take n)).1 = .err e :=
  truncated_one v n h hn

/-- no read panics: with the panicking Go primitives explicit (`Next`/`make` with a negative count; `int(n)` of the
    length field on a 64-bit `int`), every typed read on every byte string reaches a result — a value or one of the
    error values — and that result is the one of `decBuf`. (Allocation failure is outside the model: see docs.) -/
theorem decode_never_panics (ty : Ty) (bs : Bytes) : decBufP 64 ty bs = some (decBuf ty bs) :=
  decBufP_eq (by decide) ty bs

/-- the same for `ReaderX.ReadN` (`make` is the only panicking primitive of ioreader.go), for every configuration -/
theorem stream_readN_never_panics (c : Cfg) (n : Int) (s : Src) : streamReadNP c n s = some (streamReadN c n s) := by
  unfold streamReadNP streamReadN
  by_cases h : n ≤ 0
  · rw [if_pos h, if_pos h]
  · rw [if_neg h, if_neg h, goMake, if_neg (fun hn => h (Int.le_of_lt hn))]; rfl

/-- malformed varints never yield a value: ten continuation bytes (`ff…`, `80…`) … -/
theorem varint_ten_continuation_overflows (ty : Ty) (hty : ty.isVarint = true) (cs rest : Bytes) (hl : cs.length = 10)
    (hc : ∀ b ∈ cs, 128 ≤ b.toNat) : decBuf ty (cs ++ rest) = (.err .overflow, rest) :=
  decBuf_varint_overflow ty hty _ rest (uvarint_ten_continuation_overflows cs rest hl hc)

/-- … or nine of them and a tenth byte above 1 (more than 64 bits): every `ReadVar*` reports overflow -/
theorem varint_tenth_byte_overflows (ty : Ty) (hty : ty.isVarint = true) (cs rest : Bytes) (b : UInt8) (hl : cs.length = 9)
    (hc : ∀ x ∈ cs, 128 ≤ x.toNat) (h1 : b.toNat < 128) (h2 : 1 < b.toNat) :
    decBuf ty (cs ++ b :: rest) = (.err .overflow, rest) :=
  decBuf_varint_overflow ty hty _ rest (uvarint_tenth_byte_overflows cs rest b hl hc h1 h2)

/-- on a 32-bit `int` the guard is missing: a length field ≥ 2^31 becomes a negative `Next` count (witness) -/
theorem witness_int32_panics : decBufP 32 .str [0xff, 0xff, 0xff, 0xff, 1] = none := rfl

/-- on arbitrary bytes a read never panics, returns a value or an error, and only consumes from the front: what is
    left is a suffix of the input -/
theorem decode_total (ty : Ty) (bs : Bytes) :
    decBufP 64 ty bs = some (decBuf ty bs) ∧
    ((∃ v, (decBuf ty bs).1 = .ok v) ∨ (∃ e, (decBuf ty bs).1 = .err e)) ∧
    (decBuf ty bs).2 <:+ bs := by
  refine ⟨decode_never_panics ty bs, ?_, decBuf_suffix ty bs⟩
  cases (decBuf ty bs).1 with
  | ok v => exact Or.inl ⟨v, rfl⟩
  | err e => exact Or.inr ⟨e, rfl⟩

/-- every strict prefix of the encoding of a LIST of values: the reads return the values whose encodings are complete
    (`pre`), then an error for the value that was cut (`v`) -/
theorem decode_truncated_list (vs : List Val) (h : ∀ v ∈ vs, Valid v) (n : Nat) (hn : n < (vs.flatMap enc).length) :
    ∃ pre v post e tail, vs = pre ++ v :: post ∧
      (pre.flatMap enc).length ≤ n ∧ n < (pre.flatMap enc).length + (enc v).length ∧
      (readAll (vs.map tyOf) ((vs.flatMap enc).take n)).1 = pre.map .ok ++ .err e :: tail := by
  induction vs generalizing n with
  | nil => exact absurd hn (Nat.not_lt_zero n)
  | cons v vs ih =>
    have hv := h v List.mem_cons_self
    simp only [List.flatMap_cons, List.length_append] at hn
    by_cases hlt : n < (enc v).length
    · -- the cut is inside the first value
      obtain ⟨e, he⟩ := truncated_one v n hv hlt
      refine ⟨[], v, vs, e, (readAll (vs.map tyOf) (decBuf (tyOf v) ((enc v).take n)).2).1, rfl, Nat.zero_le n,
        (Nat.zero_add _).symm ▸ hlt, ?_⟩
      simp only [List.flatMap_cons, List.map_cons, readAll, List.map_nil, List.nil_append]
      rw [List.take_append_of_le_length (Nat.le_of_lt hlt), he]
    · -- the first value is read back whole and the cut is further on
      have hge : (enc v).length ≤ n := Nat.le_of_not_lt hlt
      obtain ⟨pre, w, post, e, tail, hvs, h1, h2, hr⟩ :=
        ih (fun u hu => h u (List.mem_cons_of_mem v hu)) (n - (enc v).length) (Nat.sub_lt_left_of_lt_add hge hn)
      have hlen : ((v :: pre).flatMap enc).length = (enc v).length + (pre.flatMap enc).length := by
        rw [List.flatMap_cons, List.length_append]
      refine ⟨v :: pre, w, post, e, tail, by rw [hvs]; rfl, hlen ▸ Nat.add_le_of_le_sub' hge h1, ?_, ?_⟩
      · rw [hlen, Nat.add_assoc]
        exact (Nat.sub_lt_iff_lt_add' hge).1 h2
      · simp only [List.flatMap_cons, List.map_cons, readAll]
        rw [List.take_append, List.take_of_length_le hge, codec_roundtrip_value v _ hv]
        simp only [hr, List.cons_append]

/-- a read program on arbitrary bytes: one outcome per read, and what is left is a suffix of the input -/
theorem decode_program_total (ts : List Ty) (bs : Bytes) :
    (readAll ts bs).1.length = ts.length ∧ (readAll ts bs).2 <:+ bs :=
  ⟨readAll_length ts bs, readAll_suffix ts bs⟩

theorem decode_fixed_short (w : Nat) (bs : Bytes) (h : bs.length < w) : ∃ e, (bufFixed w bs).1 = .err e :=
  ⟨_, congrArg Prod.fst (bufFixed_of_lt h)⟩

/-- fixed-width decoding is injective on its bytes: re-encoding the decoded number gives the bytes back -/
theorem fixed_width_canonical (bs : Bytes) : leBytes bs.length (leVal bs) = bs := by
  induction bs with
  | nil => rfl
  | cons b bs ih =>
    have hb := b.toNat_lt
    rw [List.length_cons, leVal, leBytes, Nat.add_mul_mod_self_left, Nat.add_mul_div_left _ _ (by decide),
      Nat.mod_eq_of_lt hb, Nat.div_eq_of_lt hb, Nat.zero_add, ih, UInt8.ofNat_toNat]

/-! ### (3) ReWrite changes exactly the addressed bytes -/

theorem rewrite_exact (pos : Nat) (p buf : Bytes) (h : pos + p.length ≤ buf.length) :
    ∃ buf', rewrite (pos : Int) p buf = some buf' ∧ buf'.length = buf.length ∧
      (∀ j, j < p.length → buf'[pos + j]? = p[j]?) ∧
      (∀ i, i < pos ∨ pos + p.length ≤ i → buf'[i]? = buf[i]?) := by
  have hl : (buf.take pos).length = pos := List.length_take_of_le (Nat.le_trans (Nat.le_add_right _ _) h)
  refine ⟨_, rewrite_in_range pos p buf h, ?_, fun j hj => ?_, fun i hi => ?_⟩
  · rw [List.length_append, List.length_append, hl, List.length_drop, Nat.add_sub_cancel' h]
  · rw [List.append_assoc, List.getElem?_append_right (by rw [hl]; exact Nat.le_add_right pos j), hl,
      Nat.add_sub_cancel_left, List.getElem?_append_left hj]
  · rcases hi with hi | hi
    · rw [List.append_assoc, List.getElem?_append_left (by rw [hl]; exact hi), List.getElem?_take_of_lt hi]
    · rw [List.getElem?_append_right (by rw [List.length_append, hl]; exact hi), List.length_append, hl,
        List.getElem?_drop, Nat.add_sub_cancel' hi]

theorem rewriteU32_exact (pos : Nat) (v : UInt32) (buf : Bytes) (h : pos + 4 ≤ buf.length) :
    ∃ buf', rewriteU32 (pos : Int) v buf = some buf' ∧ buf'.length = buf.length ∧
      (∀ j, j < 4 → buf'[pos + j]? = (leBytes 4 v.toNat)[j]?) ∧
      (∀ i, i < pos ∨ pos + 4 ≤ i → buf'[i]? = buf[i]?) := by
  have := rewrite_exact pos (leBytes 4 v.toNat) buf
  rw [leBytes_length] at this
  exact this h

/-- outside `0 … len` the slice expression panics (modelled as `none`); nothing is claimed there -/
theorem rewrite_out_of_range (pos : Int) (p buf : Bytes) (h : pos < 0 ∨ pos > buf.length) :
    rewrite pos p buf = none := by
  simp [rewrite, h]

/-- `ReWrite` panics exactly when `pos` is outside `0 … len` (whatever `p` is: bytes that do not fit are dropped) -/
theorem rewrite_panics_iff (pos : Int) (p buf : Bytes) : rewrite pos p buf = none ↔ (pos < 0 ∨ pos > buf.length) := by
  unfold rewrite
  by_cases h : pos < 0 ∨ pos > buf.length
  · rw [if_pos h]; exact ⟨fun _ => h, fun _ => rfl⟩
  · rw [if_neg h]; exact ⟨fun e => (nomatch e), fun e => absurd e h⟩

/-- `ReWrite(pos, Bytes()[from:to])` — the payload aliases the buffer: the addressed bytes become the OLD contents of
    the window (memmove semantics, also where the window and the destination overlap), everything else is unchanged -/
theorem rewriteSelf_exact (pos frm to : Nat) (buf : Bytes) (h1 : frm ≤ to) (h2 : to ≤ buf.length)
    (h3 : pos + (to - frm) ≤ buf.length) :
    ∃ buf', rewriteSelf (pos : Int) frm to buf = some buf' ∧ buf'.length = buf.length ∧
      (∀ j, j < to - frm → buf'[pos + j]? = buf[frm + j]?) ∧
      (∀ i, i < pos ∨ pos + (to - frm) ≤ i → buf'[i]? = buf[i]?) := by
  have hl : ((buf.take to).drop frm).length = to - frm := by
    rw [List.length_drop, List.length_take_of_le h2]
  obtain ⟨b, hb, hlen, inside, outside⟩ := rewrite_exact pos ((buf.take to).drop frm) buf (hl.symm ▸ h3)
  rw [hl] at inside outside
  refine ⟨b, hb, hlen, fun j hj => ?_, outside⟩
  rw [inside j hj, List.getElem?_drop, List.getElem?_take_of_lt (Nat.add_lt_of_lt_sub' hj)]

/-! ### (4) the stream reader decodes what the buffer reader decodes, however the source is fragmented -/

/-- one typed read: ReaderX over any chunking `s` and BufferX over the concatenated bytes return the same value or
    both an error, and leave the same bytes -/
theorem stream_equals_buffer (c : Cfg) (hc : Proved c) (ty : Ty) (hty : ty.streamable = true) (s : Src) :
    Out.agree (decStream c ty s).1 (decBuf ty s.flat).1 = true ∧ (decStream c ty s).2.flat = (decBuf ty s.flat).2 :=
  decStream_sim c hc ty hty s

/-- with the `io.ErrUnexpectedEOF → ErrByteBufferEmpty` mapping of the repair, reads built on `Read(p)` alone agree with
    the buffer reader in the error kind too (strings do not: a missing body is `io.EOF` on a stream, `ErrByteBufferEmpty`
    on a buffer) -/
theorem stream_equals_buffer_exact (c : Cfg) (hc : Proved c) (hm : c.mapShort = true) (ty : Ty)
    (hty : ty.fixedLike = true) (s : Src) (hnf : s.fail = false) : (decStream c ty s).1 = (decBuf ty s.flat).1 := by
  have hr := fun n => streamRead_exact c hc.1 hm n s hnf
  have fixed : ∀ n, (streamFixed c n s).1 = (bufFixed n s.flat).1 := fun n => congrArg (Out.map leVal) (hr n)
  cases ty
  case bool | u8 => simp only [decStream, decBuf, bufReadByte_eq, Out.map_map, hr]
  case u16 | i16 | u32 | i32 | u64 | i64 | f64 => exact congrArg (Out.map _) (fixed _)
  case read n => exact congrArg (Out.map _) (hr n)
  case readN n =>
    simp only [decStream, decBuf, streamReadN]
    by_cases hn : n ≤ 0
    · rw [if_pos hn, if_pos hn]; rfl
    · rw [if_neg hn, if_neg hn]; exact congrArg (Out.map _) (hr _)
  all_goals exact Bool.noConfusion hty

/-- a source that FAILS (an I/O error of its own instead of EOF) after delivering fewer bytes than a read needs: the
    read reports the source's error -/
theorem stream_source_failure_reported (c : Cfg) (hc : Proved c) (n : Nat) (s : Src) (hf : s.fail = true)
    (hn : s.flat.length < n) : (streamRead c n s).1 = .err .io := by
  rw [streamRead_full hc.1, if_neg (Nat.not_le.2 hn), hf]; rfl

/-- for every typed read and every source, failing or not: a value comes back only if the buffer reader decodes that
    very value from the bytes the source delivered; where those bytes do not suffice, the read is an error — never a value -/
theorem stream_value_only_if_delivered (c : Cfg) (hc : Proved c) (ty : Ty) (hty : ty.streamable = true) (s : Src) :
    (∀ v, (decStream c ty s).1 = .ok v → (decBuf ty s.flat).1 = .ok v) ∧
    (∀ e, (decBuf ty s.flat).1 = .err e → ∃ e', (decStream c ty s).1 = .err e') := by
  have h := (decStream_sim c hc ty hty s).1
  exact ⟨fun v hv => Out.agree_ok (Out.agree_symm (hv ▸ h)), fun e he => Out.agree_err (he ▸ h)⟩

/-- every read program (also continuing after errors) -/
theorem stream_program_equals_buffer (c : Cfg) (hc : Proved c) (ts : List Ty)
    (hts : ∀ t ∈ ts, t.streamable = true) (s : Src) :
    agreeAll (readAllStream c ts s).1 (readAll ts s.flat).1 = true ∧
    (readAllStream c ts s).2.flat = (readAll ts s.flat).2 :=
  readAllStream_sim c hc ts hts s

/-- chunking independence: two sources delivering the same bytes (1 byte at a time … everything at once, empty
    reads in between, EOF with or after the last bytes) decode alike -/
theorem chunking_independent (c : Cfg) (hc : Proved c) (ty : Ty) (hty : ty.streamable = true) (s₁ s₂ : Src)
    (h : s₁.flat = s₂.flat) :
    Out.agree (decStream c ty s₁).1 (decStream c ty s₂).1 = true ∧ (decStream c ty s₁).2.flat = (decStream c ty s₂).2.flat := by
  obtain ⟨a1, r1⟩ := decStream_sim c hc ty hty s₁
  obtain ⟨a2, r2⟩ := decStream_sim c hc ty hty s₂
  rw [h] at a1 r1
  exact ⟨Out.agree_trans a1 (Out.agree_symm a2), r1.trans r2.symm⟩

/-- hence a stream carrying a written value, however fragmented, reads it back -/
theorem stream_roundtrip_value (c : Cfg) (hc : Proved c) (v : Val) (hv : Valid v) (hty : (tyOf v).streamable = true)
    (s : Src) (rest : Bytes) (hs : s.flat = enc v ++ rest) :
    (decStream c (tyOf v) s).1 = .ok v ∧ (decStream c (tyOf v) s).2.flat = rest := by
  obtain ⟨a, r⟩ := decStream_sim c hc (tyOf v) hty s
  rw [hs, codec_roundtrip_value v rest hv] at a r
  exact ⟨Out.agree_ok a, r⟩

/-- a whole list of written values read back through a stream, however fragmented; the stream is then exhausted -/
theorem stream_codec_roundtrip (c : Cfg) (hc : Proved c) (vs : List Val) (hv : ∀ v ∈ vs, Valid v)
    (hs : ∀ v ∈ vs, (tyOf v).streamable = true) (s : Src) (hflat : s.flat = vs.flatMap enc) :
    (readAllStream c (vs.map tyOf) s).1 = vs.map .ok ∧ (readAllStream c (vs.map tyOf) s).2.flat = [] := by
  have hts : ∀ t ∈ vs.map tyOf, t.streamable = true := by
    intro t ht; obtain ⟨v, hvm, rfl⟩ := List.mem_map.1 ht; exact hs v hvm
  obtain ⟨a, r⟩ := readAllStream_sim c hc (vs.map tyOf) hts s
  have hb := codec_roundtrip_rest vs [] hv
  rw [List.append_nil] at hb
  rw [hflat, hb] at a r
  exact ⟨agreeAll_ok _ _ a, r⟩

/-- what the oracle answers for `bigrt` (values of 1 MiB … 128 MiB, not materialised by the oracle): the value written is
    read back followed by the marker byte, nothing is left, and the digest printed is the one of the pattern — through
    the buffer, and (for `Proved c`) through every chunking of a stream -/
theorem bigrt_answer (seed n : Nat) (hn : n < 2 ^ 32) :
    readAll [.str, .u8] (writeAll [.str (pat seed n), .u8 7] newBuffer) = ([.ok (.str (pat seed n)), .ok (.u8 7)], []) ∧
    digest (pat seed n) = digestPat seed n ∧
    (∀ c, Proved c → ∀ s : Src, s.flat = writeAll [.str (pat seed n), .u8 7] newBuffer →
      (readAllStream c [.str, .u8] s).1 = [.ok (.str (pat seed n)), .ok (.u8 7)] ∧ (readAllStream c [.str, .u8] s).2.flat = []) := by
  have hstr : Valid (.str (pat seed n)) := by
    show (pat seed n).length < 2 ^ 32
    rw [pat_length]; exact hn
  have hv : ∀ v ∈ [Val.str (pat seed n), Val.u8 7], Valid v ∧ (tyOf v).streamable = true := by
    intro v hm
    rcases List.mem_cons.1 hm with rfl | hm
    · exact ⟨hstr, rfl⟩
    · rw [List.mem_singleton.1 hm]; exact ⟨trivial, rfl⟩
  refine ⟨codec_roundtrip _ fun v hm => (hv v hm).1, (digestPat_eq seed n).symm, ?_⟩
  intro c hc s hs
  rw [writeAll_valid _ newBuffer fun v hm => (hv v hm).1] at hs
  exact stream_codec_roundtrip c hc _ (fun v hm => (hv v hm).1) (fun v hm => (hv v hm).2) s hs

/-- incremental sources: whatever was read before (also reads that ran into `io.EOF` or an error), once more bytes have
    arrived on the source a read decodes them exactly as the buffer reader does from what was left plus the new bytes —
    no end-of-data seen earlier sticks to the reader -/
theorem stream_after_feed (c : Cfg) (hc : Proved c) (ts₁ : List Ty) (h₁ : ∀ t ∈ ts₁, t.streamable = true) (s : Src)
    (cs : List Bytes) (ts₂ : List Ty) (h₂ : ∀ t ∈ ts₂, t.streamable = true) :
    let s₁ := (readAllStream c ts₁ s).2
    let b₁ := (readAll ts₁ s.flat).2
    agreeAll (readAllStream c ts₂ (s₁.feed cs)).1 (readAll ts₂ (b₁ ++ cs.flatten)).1 = true ∧
    (readAllStream c ts₂ (s₁.feed cs)).2.flat = (readAll ts₂ (b₁ ++ cs.flatten)).2 := by
  intro s₁ b₁
  have := readAllStream_sim c hc ts₂ h₂ (s₁.feed cs)
  rw [flat_feed, (readAllStream_sim c hc ts₁ h₁ s).2] at this
  exact this

/-- in particular: a reader that hit a clean EOF at a value boundary reads the value that arrives next -/
theorem stream_value_after_eof (c : Cfg) (hc : Proved c) (s : Src) (hs : s.flat = []) (v : Val) (hv : Valid v)
    (hty : (tyOf v).streamable = true) (cs : List Bytes) (hcs : cs.flatten = enc v) :
    (decStream c (tyOf v) (s.feed cs)).1 = .ok v := by
  have hflat : (s.feed cs).flat = enc v ++ [] := by
    rw [flat_feed, hs, hcs, List.nil_append, List.append_nil]
  exact (stream_roundtrip_value c hc v hv hty (s.feed cs) [] hflat).1

/-! ### non-vacuity -/

example : Proved ⟨.full, .accept, true⟩ := by decide
example : Proved ⟨.full, .accept, false⟩ := by decide
example : Valid (.lstr 3 [97, 98, 99]) := by decide
example : Valid (.str []) := by decide
example : (Ty.lstr 5).streamable = true := rfl

/-- a concrete program: u16, empty string, negative varint, NaN payload — written, read back, buffer empty -/
example : readAll [.u16, .str, .varI64, .f64] (writeAll [.u16 513, .str [], .varI64 (-3), .f64 0x7ff8000000000001] []) =
    ([.ok (.u16 513), .ok (.str []), .ok (.varI64 (-3)), .ok (.f64 0x7ff8000000000001)], []) := rfl

example : history [] [] [.w (.u8 7), .w (.str [1, 2]), .r, .w (.i16 (-2)), .r, .r, .r] =
    ([.ok (.u8 7), .ok (.str [1, 2]), .ok (.i16 (-2))], []) := rfl

/-- truncation really produces errors: 3 of the 4 bytes of a u32 -/
example : decBuf .u32 [1, 0, 0] = (.err .empty, []) := rfl

example : rewrite 1 [0xff, 0xee] [1, 2, 3, 4, 5] = some [1, 0xff, 0xee, 4, 5] := rfl

/-- moving a field inside the frame: overlapping window, old contents win -/
example : rewriteSelf 2 0 6 [1, 2, 3, 4, 5, 6, 7, 8] = some [1, 2, 1, 2, 3, 4, 5, 6] := rfl

/-- read to EOF, two more bytes arrive, read again -/
example : (decStream ⟨.full, .accept, true⟩ .u8 ⟨false, [], false⟩).1 = .err .eof ∧
    decStream ⟨.full, .accept, true⟩ .u16 ((decStream ⟨.full, .accept, true⟩ .u8 ⟨false, [], false⟩).2.feed [[1], [2]]) =
      (.ok (.u16 513), ⟨false, [], false⟩) := ⟨rfl, rfl⟩

/-- the source breaks after 3 of the 4 bytes of a u32: its error is reported, not a value -/
example : decStream ⟨.full, .accept, true⟩ .u32 ⟨false, [[1, 0], [0]], true⟩ = (.err .io, ⟨false, [], true⟩) := rfl
example : decBuf .varU64 [0xff, 0xff, 0xff, 0xff, 0xff, 0xff, 0xff, 0xff, 0xff, 0x02, 7] = (.err .overflow, [7]) := rfl

/-- the repaired reader over one-byte chunks and over an EOF-with-data source -/
example : decStream ⟨.full, .accept, true⟩ .u32 ⟨false, [[1], [0], [0], [0]], false⟩ = (.ok (.u32 1), ⟨false, [], false⟩) := rfl
example : decStream ⟨.full, .accept, true⟩ .u32 ⟨true, [[1, 0, 0, 0]], false⟩ = (.ok (.u32 1), ⟨true, [], false⟩) := rfl
example : decStream ⟨.full, .accept, true⟩ .str ⟨false, [[0, 0], [0, 0]], false⟩ = (.ok (.str []), ⟨false, [], false⟩) := rfl

/-! ### the property is false of today's configuration: concrete witnesses (also the replays on the real code) -/

/-- a single `reader.Read`: a source delivering one byte per call makes `ReadU32` fail although the four bytes are
    there (`sload 0 01,00,00,00` / `ru32`) -/
theorem witness_single_fragmented :
    decStream ⟨.single, .accept, false⟩ .u32 ⟨false, [[1], [0], [0], [0]], false⟩ = (.err .empty, ⟨false, [[0], [0], [0]], false⟩) ∧
    decBuf .u32 [1, 0, 0, 0] = (.ok (.u32 1), []) := ⟨rfl, rfl⟩

/-- a single `reader.Read`: a source that reports EOF together with the last bytes loses them
    (`sload 1 01000000` / `ru32`) -/
theorem witness_single_eof_with_data :
    decStream ⟨.single, .accept, false⟩ .u32 ⟨true, [[1, 0, 0, 0]], false⟩ = (.err .eof, ⟨true, [], false⟩) := rfl

/-- `ZReadN(0)` falling into `ReadN`: the empty string is rejected (`sload 0 00000000` / `rstr`) -/
theorem witness_reject_empty_string :
    decStream ⟨.full, .reject, true⟩ .str ⟨false, [[0, 0, 0, 0]], false⟩ = (.err .wrongNum, ⟨false, [], false⟩) ∧
    decBuf .str [0, 0, 0, 0] = (.ok (.str []), []) := ⟨rfl, rfl⟩

theorem not_stream_equals_buffer_single (z : ZeroLen) (m : Bool) :
    ¬ (∀ ty s, ty.streamable = true →
        Out.agree (decStream ⟨.single, z, m⟩ ty s).1 (decBuf ty s.flat).1 = true) :=
  fun h => Bool.false_ne_true (h .u32 ⟨false, [[1], [0], [0], [0]], false⟩ rfl)

theorem not_stream_equals_buffer_reject (m : Bool) :
    ¬ (∀ ty s, ty.streamable = true →
        Out.agree (decStream ⟨.full, .reject, m⟩ ty s).1 (decBuf ty s.flat).1 = true) :=
  fun h => Bool.false_ne_true (h .str ⟨false, [[0, 0, 0, 0]], false⟩ rfl)

end Nv.C10
