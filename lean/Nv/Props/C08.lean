import Nv.Proofs.C08Chain
/-!
C08 — property theorems for `bitmap1024` (model: `Nv.Model.C08`; proofs: `Nv/Proofs/C08*.lean`).

Every statement quantifies over all 2^64 words / all 2^1024 bitmaps, every `n : Int` (negative included), every
position, every `add`, every element width `w` (the Go code instantiates 8/16/32/64), both directions and
**every** value of the sparse threshold `magic`. The configuration `c` ranges over `Proved` (`B64 = 64`, `L16 = 16`,
any initial threshold). Membership: `b.getLsbD i` for a word, `mem1024 b i` for a 1024-bit map.

Index — clause of the property statement ↦ theorem(s):
* "behaves as a set of integers in [0,1023]" ............... `mem1024_range`, `mem_members1024`, `members1024_ascending`, `bitmap_ext`
* "setting or clearing an in-range index changes membership of exactly that index"
      `setI32_spec`, `unsetI32_spec`, `setI16_spec`, `unsetI16_spec` (1024-bit), `set64_spec`, `unset64_spec` (64-bit layer)
* "out-of-range indices (negative or >= 1024) are ignored" .. same four `…_spec` (the `decide (0 ≤ i ∧ i < 1024 ∧ …)` term),
      `setI32_out_of_range`; 64-bit layer (> 63): `set64_spec`, `unset64_spec`
* "Len/NLen count members and non-members" ................. `len_nlen`, `nlen_eq` (1024-bit), `len64_spec`, `full64_spec` (64-bit);
      `len_setI32`, `len_unsetI32`, `len_setI16`, `len_unsetI16` (±1 exactly when membership changes), `setI32_history`,
      `setI16_history` (whole set histories never lose a member)
* "And/Or/Reverse/OrThenReverse/Equal are ∩, ∪, complement, complement-of-union, equality"
      `and_or_rev_equal` (all five), `equal1024_spec`, `orThenReverse_eq`, `reverse_reverse`; 64-bit layer `algebra64`
* "every iterator, every width, forward or reverse, writes exactly the first min(n, Len) members in ascending (descending)
   order, each offset by add, starting at pos, and returns that count"
      `iter64_spec` (Bit64.IterAs*/RIterAs*, all widths), `iter1024_spec` (Bit1024.IterAs*/RIterAs*), `expected_length`
      (the count), `members_ascending` / `members1024_ascending` (the order), `iter64_no_write`, `iter64_empty`,
      `iter1024_no_write` (n ≤ 0 / empty word: 0, nothing touched, any pos)
* "GetN*" (every width, both layers) ........................ `getN64_spec`, `getN1024_spec`, `getN_values`, `getN_negative_panics`
* "the result does not depend on the sparse/dense traversal threshold"
      `iter64_threshold_irrelevant`, `iter1024_threshold_irrelevant` (and `magic` is universally quantified in every spec)
-/
namespace Nv.C08

theorem mem_members (b : Bit64) (i : Nat) : i ∈ members b ↔ i < 64 ∧ b.getLsbD i = true := by
  simp [members]

theorem mem_members1024 (b : Bit1024) (i : Nat) : i ∈ members1024 b ↔ mem1024 b i = true := by
  unfold members1024
  rw [List.mem_filter, List.mem_range]
  exact ⟨fun h => h.2, fun h => ⟨mem1024_lt b i h, h⟩⟩

/-- a 1024-bit map is a set of integers in [0,1023] -/
theorem mem1024_range (b : Bit1024) (i : Nat) (h : mem1024 b i = true) : i < 1024 := mem1024_lt b i h

theorem members_ascending (b : Bit64) : (members b).Pairwise (· < ·) :=
  List.Pairwise.filter _ List.pairwise_lt_range

theorem members1024_ascending (b : Bit1024) : (members1024 b).Pairwise (· < ·) :=
  List.Pairwise.filter _ List.pairwise_lt_range

theorem bitmap_ext (a b : Bit1024) (h : ∀ j, j < 1024 → mem1024 a j = mem1024 b j) : a = b := ext1024 a b h

/-- `Bit64.Set(i)`: bit `i` joins when `i ≤ 63`, every other `i : byte` is ignored -/
theorem set64_spec (b : Bit64) (i : BitVec 8) (j : Nat) :
    (set64 b i).getLsbD j = (b.getLsbD j || (decide (i.toNat ≤ 63) && decide (i.toNat = j))) := set64_getLsbD b i j

theorem unset64_spec (b : Bit64) (i : BitVec 8) (j : Nat) :
    (unset64 b i).getLsbD j = (b.getLsbD j && !(decide (i.toNat ≤ 63) && decide (i.toNat = j))) := unset64_getLsbD b i j

/-- `Bit1024.SetI32(i)` for all 2^32 arguments: index `i` joins iff `0 ≤ i < 1024`; nothing else changes
    (negative and ≥ 1024 are ignored — for −63…−1 only because `Bit64.Set` rejects the byte `256 + i%64`) -/
theorem setI32_spec (b : Bit1024) (i : BitVec 32) (j : Nat) :
    mem1024 (setI32 b i) j = (mem1024 b j || decide (0 ≤ i.toInt ∧ i.toInt < 1024 ∧ i.toInt = (j : Int))) := setI32_mem b i j

theorem unsetI32_spec (b : Bit1024) (i : BitVec 32) (j : Nat) :
    mem1024 (unsetI32 b i) j = (mem1024 b j && !decide (0 ≤ i.toInt ∧ i.toInt < 1024 ∧ i.toInt = (j : Int))) := unsetI32_mem b i j

theorem setI16_spec (b : Bit1024) (i : BitVec 16) (j : Nat) :
    mem1024 (setI16 b i) j = (mem1024 b j || decide (0 ≤ i.toInt ∧ i.toInt < 1024 ∧ i.toInt = (j : Int))) := setI16_mem b i j

theorem unsetI16_spec (b : Bit1024) (i : BitVec 16) (j : Nat) :
    mem1024 (unsetI16 b i) j = (mem1024 b j && !decide (0 ≤ i.toInt ∧ i.toInt < 1024 ∧ i.toInt = (j : Int))) := unsetI16_mem b i j

/-- out-of-range indices leave the bitmap unchanged (corollary, as an equation between bitmaps) -/
theorem setI32_out_of_range (b : Bit1024) (i : BitVec 32) (h : ¬(0 ≤ i.toInt ∧ i.toInt < 1024)) : setI32 b i = b := by
  apply ext1024
  intro j _
  rw [setI32_mem]
  have : ¬(0 ≤ i.toInt ∧ i.toInt < 1024 ∧ i.toInt = (j : Int)) := fun hh => h ⟨hh.1, hh.2.1⟩
  simp [this]

theorem len64_spec (b : Bit64) :
    len64 b = (members b).length ∧ nlen64 b = ((List.range 64).filter (fun i => !b.getLsbD i)).length :=
  ⟨len64_eq b, by rw [nlen64, len64_eq, length_filter_not]; rfl⟩

theorem len_nlen (b : Bit1024) :
    len1024 b = (members1024 b).length ∧
    nlen1024 b = ((List.range 1024).filter (fun i => !mem1024 b i)).length :=
  ⟨len1024_eq b, by rw [nlen1024, len1024_eq, length_filter_not]; rfl⟩

/-- `Len` after `SetI32` (all 2^32 arguments): +1 exactly when the index is in range and was not a member -/
theorem len_setI32 (b : Bit1024) (i : BitVec 32) :
    len1024 (setI32 b i) =
      len1024 b + (if 0 ≤ i.toInt ∧ i.toInt < 1024 ∧ mem1024 b i.toInt.toNat = false then 1 else 0) :=
  len_of_set b _ i.toInt (setI32_mem b i)

/-- `Len` after `UnsetI32`: −1 exactly when the index is in range and was a member -/
theorem len_unsetI32 (b : Bit1024) (i : BitVec 32) :
    len1024 (unsetI32 b i) + (if 0 ≤ i.toInt ∧ i.toInt < 1024 ∧ mem1024 b i.toInt.toNat = true then 1 else 0) = len1024 b :=
  len_of_unset b _ i.toInt (unsetI32_mem b i)

theorem len_setI16 (b : Bit1024) (i : BitVec 16) :
    len1024 (setI16 b i) =
      len1024 b + (if 0 ≤ i.toInt ∧ i.toInt < 1024 ∧ mem1024 b i.toInt.toNat = false then 1 else 0) :=
  len_of_set b _ i.toInt (setI16_mem b i)

theorem len_unsetI16 (b : Bit1024) (i : BitVec 16) :
    len1024 (unsetI16 b i) + (if 0 ≤ i.toInt ∧ i.toInt < 1024 ∧ mem1024 b i.toInt.toNat = true then 1 else 0) = len1024 b :=
  len_of_unset b _ i.toInt (unsetI16_mem b i)

/-- a whole history of `SetI32` calls, of any length and in any order (so also when `Len` passes through every value
    0…1024): the members afterwards are the old ones plus exactly the in-range arguments — nothing is ever dropped -/
theorem setI32_history (l : List (BitVec 32)) (b : Bit1024) (j : Nat) :
    mem1024 (l.foldl setI32 b) j =
      (mem1024 b j || l.any (fun i => decide (0 ≤ i.toInt ∧ i.toInt < 1024 ∧ i.toInt = (j : Int)))) :=
  foldl_mem setI32 (fun i j => decide (0 ≤ i.toInt ∧ i.toInt < 1024 ∧ i.toInt = (j : Int))) setI32_mem l b j

theorem setI16_history (l : List (BitVec 16)) (b : Bit1024) (j : Nat) :
    mem1024 (l.foldl setI16 b) j =
      (mem1024 b j || l.any (fun i => decide (0 ≤ i.toInt ∧ i.toInt < 1024 ∧ i.toInt = (j : Int)))) :=
  foldl_mem setI16 (fun i j => decide (0 ≤ i.toInt ∧ i.toInt < 1024 ∧ i.toInt = (j : Int))) setI16_mem l b j

theorem and_or_rev_equal (a b : Bit1024) :
    (∀ j, mem1024 (and1024 a b) j = (mem1024 a j && mem1024 b j)) ∧
    (∀ j, mem1024 (or1024 a b) j = (mem1024 a j || mem1024 b j)) ∧
    (∀ j, j < 1024 → mem1024 (reverse1024 a) j = !mem1024 a j) ∧
    (∀ j, j < 1024 → mem1024 (orThenReverse1024 a b) j = !(mem1024 a j || mem1024 b j)) ∧
    (equal1024 a b = true ↔ a = b) :=
  ⟨and1024_mem a b, or1024_mem a b, reverse1024_mem a, orThenReverse1024_mem a b, equal1024_iff a b⟩

theorem algebra64 (a b : Bit64) (j : Nat) (hj : j < 64) :
    (and64 a b).getLsbD j = (a.getLsbD j && b.getLsbD j) ∧ (or64 a b).getLsbD j = (a.getLsbD j || b.getLsbD j) ∧
    (reverse64 a).getLsbD j = !a.getLsbD j := by
  simp [and64, or64, reverse64, hj]

/-- **Every 64-bit iterator** (`Bit64.IterAs*/RIterAs*`, any width, either direction, any threshold): writes exactly
    the first `min(n, Len)` members in ascending (descending) order, each offset by `add` (wrapping in the element
    width), at `pos…`, leaves every other cell untouched, and returns that count. Precondition: `pos ≥ 0` and room. -/
theorem iter64_spec {w : Nat} (magic : Int) (rev : Bool) (b : Bit64) (s : List (BitVec w)) (pos : Int)
    (add : BitVec w) (n : Int) (h0 : 0 ≤ pos)
    (hroom : pos.toNat + (expected rev (members b) add n).length ≤ s.length) :
    iter64 magic rev b s pos add n =
      some (writeAt s pos.toNat (expected rev (members b) add n), (expected rev (members b) add n).length) :=
  iter64_eq_spec magic rev b s pos add n h0 hroom

/-- the count is `min(n, Len)` (0 for negative n) -/
theorem expected_length {w : Nat} (rev : Bool) (ms : List Nat) (add : BitVec w) (n : Int) :
    (expected rev ms add n).length = min n.toNat ms.length := by
  unfold expected; cases rev <;> simp

-- non-vacuity: word {0,7,56..63}, int8, pos 1, slice of 5, n = 3
example : (0 : Int) ≤ 1 ∧ (1 : Int).toNat + (expected (w := 8) false (members 0xff00000000000081#64) 120#8 3).length ≤ 5 := by decide
example : iter64 (w := 8) 9 false 0xff00000000000081#64 [1#8, 2#8, 3#8, 4#8, 5#8] 1 120#8 3 =
    some ([1#8, 120#8, 127#8, 176#8, 5#8], 3) := by decide

/-- the result does not depend on the sparse/dense traversal threshold -/
theorem iter64_threshold_irrelevant {w : Nat} (m1 m2 : Int) (rev : Bool) (b : Bit64) (s : List (BitVec w)) (pos : Int)
    (add : BitVec w) (n : Int) (h0 : 0 ≤ pos)
    (hroom : pos.toNat + (expected rev (members b) add n).length ≤ s.length) :
    iter64 m1 rev b s pos add n = iter64 m2 rev b s pos add n := by
  rw [iter64_eq_spec m1 rev b s pos add n h0 hroom, iter64_eq_spec m2 rev b s pos add n h0 hroom]

/-- **Every 1024-bit iterator** (`Bit1024.IterAs*/RIterAs*`): same statement over the 1024-bit set -/
theorem iter1024_spec {w : Nat} (c : Cfg) (hc : Proved c) (magic : Int) (rev : Bool) (b : Bit1024)
    (s : List (BitVec w)) (pos : Int) (add : BitVec w) (n : Int) (h0 : 0 ≤ pos)
    (hroom : pos.toNat + (expected rev (members1024 b) add n).length ≤ s.length) :
    iter1024 c magic rev b s pos add n =
      some (writeAt s pos.toNat (expected rev (members1024 b) add n), (expected rev (members1024 b) add n).length) :=
  iter1024_eq_spec c hc magic rev b s pos add n h0 hroom

theorem iter1024_threshold_irrelevant {w : Nat} (c : Cfg) (hc : Proved c) (m1 m2 : Int) (rev : Bool) (b : Bit1024)
    (s : List (BitVec w)) (pos : Int) (add : BitVec w) (n : Int) (h0 : 0 ≤ pos)
    (hroom : pos.toNat + (expected rev (members1024 b) add n).length ≤ s.length) :
    iter1024 c m1 rev b s pos add n = iter1024 c m2 rev b s pos add n := by
  rw [iter1024_eq_spec c hc m1 rev b s pos add n h0 hroom, iter1024_eq_spec c hc m2 rev b s pos add n h0 hroom]

example : Proved ⟨9, 64, 16⟩ := by decide
example : Proved ⟨-5, 64, 16⟩ := by decide

/-! ### calls that have nothing to write (n ≤ 0, or an empty word) return 0 and touch nothing — for *any* `pos` -/

/-- `n ≤ 0` (negative counts included): every 64-bit iterator returns 0 and leaves the slice alone, whatever `pos` is -/
theorem iter64_no_write {w : Nat} (magic : Int) (rev : Bool) (b : Bit64) (s : List (BitVec w)) (pos : Int)
    (add : BitVec w) (n : Int) (hn : n ≤ 0) : iter64 magic rev b s pos add n = some (s, 0) := by
  rw [iter64_eq_emit]
  split
  · rfl
  · rw [emit_stop add n _ _ _ (Or.inl (Int.le_trans hn (Int.natCast_nonneg 0)))]
    rfl

/-- an empty word: 0, slice untouched, for any `n` and `pos` -/
theorem iter64_empty {w : Nat} (magic : Int) (rev : Bool) (s : List (BitVec w)) (pos : Int) (add : BitVec w) (n : Int) :
    iter64 magic rev 0#64 s pos add n = some (s, 0) := by
  rw [iter64_eq_emit, if_pos (by decide)]

theorem chain_stop {w : Nat} (c : Cfg) (magic : Int) (rev : Bool) (add : BitVec w) (n : Int)
    (ws : List (Bit64 × Nat)) (s : List (BitVec w)) (cursor : Int) (iterN : Nat) (h : (iterN : Int) ≥ n) :
    chain c magic rev add n ws s cursor iterN = some (s, iterN) := by
  cases ws with
  | nil => rfl
  | cons p rest => rw [chain, if_pos h]

/-- `n ≤ 0`: every 1024-bit iterator returns 0 at once (`iterN >= n` before the first word) -/
theorem iter1024_no_write {w : Nat} (c : Cfg) (magic : Int) (rev : Bool) (b : Bit1024) (s : List (BitVec w)) (pos : Int)
    (add : BitVec w) (n : Int) (hn : n ≤ 0) : iter1024 c magic rev b s pos add n = some (s, 0) :=
  chain_stop c magic rev add n _ s pos 0 hn

/-! ### the outer loop's stop test `iterN >= n` may as well be `iterN > n` (blind mutants of bit1024.go:225/271/294/340) -/

/-- the chaining loop with the weaker stop test `iterN > n` -/
def chainGt {w : Nat} (c : Cfg) (magic : Int) (rev : Bool) (add : BitVec w) (n : Int) :
    List (Bit64 × Nat) → List (BitVec w) → Int → Nat → Option (List (BitVec w) × Nat)
  | [], s, _, iterN => some (s, iterN)
  | (word, k) :: rest, s, cursor, iterN =>
    if (iterN : Int) > n then some (s, iterN)
    else match iter64 magic rev word s cursor (BitVec.ofNat w (c.b64 * k) + add) (n - iterN) with
      | none => none
      | some (s', e) => chainGt c magic rev add n rest s' (cursor + e) (iterN + e)

/-- when `iterN = n` the weaker test lets the loop go on, but every further word is asked for `n - iterN = 0` values and
    (by `iter64_no_write`) writes nothing and returns 0 — the results are identical for every input -/
theorem chainGt_eq_chain {w : Nat} (c : Cfg) (magic : Int) (rev : Bool) (add : BitVec w) (n : Int) :
    ∀ (ws : List (Bit64 × Nat)) (s : List (BitVec w)) (cursor : Int) (iterN : Nat),
      chainGt c magic rev add n ws s cursor iterN = chain c magic rev add n ws s cursor iterN
  | [], _, _, _ => rfl
  | (wd, k) :: rest, s, cursor, iterN => by
    rw [chainGt, chain]
    by_cases hlt : (iterN : Int) < n
    · rw [if_neg (Int.not_lt.2 (Int.le_of_lt hlt)), if_neg (Int.not_le.2 hlt)]
      cases iter64 magic rev wd s cursor (BitVec.ofNat w (c.b64 * k) + add) (n - iterN) with
      | none => rfl
      | some r => exact chainGt_eq_chain c magic rev add n rest r.1 _ _
    · rw [if_pos (Int.not_lt.1 hlt)]
      by_cases hgt : (iterN : Int) > n
      · rw [if_pos hgt]
      · have heq : (iterN : Int) = n := by omega
        rw [if_neg hgt, iter64_no_write magic rev wd s cursor _ _ (by omega)]
        dsimp only
        rw [chainGt_eq_chain c magic rev add n rest s _ _, chain_stop c magic rev add n rest s _ _ (by omega)]
        rfl

/-- `Bit64.Full` -/
theorem full64_spec (b : Bit64) : full b = true ↔ ∀ i, i < 64 → b.getLsbD i = true := by
  unfold full
  constructor
  · intro h i hi
    have : b = ~~~(0#64) := by simpa using h
    rw [this, BitVec.getLsbD_not]; simp [hi]
  · intro h
    have : b = ~~~(0#64) := by
      apply BitVec.eq_of_getLsbD_eq
      intro i hi
      rw [h i hi, BitVec.getLsbD_not]; simp [hi]
    rw [this]; rfl

/-- `Bit64.NLen` / `Bit1024.NLen` as complements of `Len` -/
theorem nlen_eq (b : Bit64) (m : Bit1024) :
    nlen64 b = 64 - (members b).length ∧ nlen1024 m = 1024 - (members1024 m).length := by
  simp [nlen64, nlen1024, len64_eq, len1024_eq]

/-- `Equal` is equality of the member sets -/
theorem equal1024_spec (a b : Bit1024) : equal1024 a b = true ↔ ∀ j, j < 1024 → mem1024 a j = mem1024 b j := by
  rw [equal1024_iff]
  exact ⟨fun h _ _ => by rw [h], ext1024 a b⟩

/-- `OrThenReverse` is the complement of the union, as a bitmap equation -/
theorem orThenReverse_eq (a b : Bit1024) : orThenReverse1024 a b = reverse1024 (or1024 a b) := by
  apply ext1024
  intro j hj
  rw [orThenReverse1024_mem a b j hj, reverse1024_mem _ j hj, or1024_mem]

/-! ### derived laws: the operations form the Boolean algebra of subsets of `[0, 1024)` -/

theorem and_comm1024 (a b : Bit1024) : and1024 a b = and1024 b a :=
  bitmap_ext _ _ fun j _ => by rw [and1024_mem, and1024_mem, Bool.and_comm]

theorem or_comm1024 (a b : Bit1024) : or1024 a b = or1024 b a :=
  bitmap_ext _ _ fun j _ => by rw [or1024_mem, or1024_mem, Bool.or_comm]

theorem and_assoc1024 (a b c : Bit1024) : and1024 (and1024 a b) c = and1024 a (and1024 b c) :=
  bitmap_ext _ _ fun j _ => by simp only [and1024_mem, Bool.and_assoc]

theorem or_assoc1024 (a b c : Bit1024) : or1024 (or1024 a b) c = or1024 a (or1024 b c) :=
  bitmap_ext _ _ fun j _ => by simp only [or1024_mem, Bool.or_assoc]

theorem and_self1024 (a : Bit1024) : and1024 a a = a :=
  bitmap_ext _ _ fun j _ => by rw [and1024_mem, Bool.and_self]

theorem or_self1024 (a : Bit1024) : or1024 a a = a :=
  bitmap_ext _ _ fun j _ => by rw [or1024_mem, Bool.or_self]

theorem and_or_absorb1024 (a b : Bit1024) : and1024 a (or1024 a b) = a :=
  bitmap_ext _ _ fun j _ => by rw [and1024_mem, or1024_mem]; cases mem1024 a j <;> cases mem1024 b j <;> rfl

theorem and_or_distrib1024 (a b c : Bit1024) : and1024 a (or1024 b c) = or1024 (and1024 a b) (and1024 a c) :=
  bitmap_ext _ _ fun j _ => by
    simp only [and1024_mem, or1024_mem]; cases mem1024 a j <;> cases mem1024 b j <;> cases mem1024 c j <;> rfl

theorem de_morgan1024 (a b : Bit1024) :
    reverse1024 (or1024 a b) = and1024 (reverse1024 a) (reverse1024 b) ∧
    orThenReverse1024 a b = and1024 (reverse1024 a) (reverse1024 b) := by
  have h : reverse1024 (or1024 a b) = and1024 (reverse1024 a) (reverse1024 b) :=
    bitmap_ext _ _ fun j hj => by
      rw [reverse1024_mem _ j hj, or1024_mem, and1024_mem, reverse1024_mem _ j hj, reverse1024_mem _ j hj]
      cases mem1024 a j <;> cases mem1024 b j <;> rfl
  exact ⟨h, by rw [orThenReverse_eq, h]⟩

theorem complement_laws1024 (a : Bit1024) (j : Nat) (hj : j < 1024) :
    mem1024 (and1024 a (reverse1024 a)) j = false ∧ mem1024 (or1024 a (reverse1024 a)) j = true := by
  rw [and1024_mem, or1024_mem, reverse1024_mem _ j hj]; cases mem1024 a j <;> exact ⟨rfl, rfl⟩

theorem reverse_reverse (a : Bit1024) : reverse1024 (reverse1024 a) = a :=
  bitmap_ext _ _ fun j hj => by rw [reverse1024_mem _ j hj, reverse1024_mem _ j hj, Bool.not_not]

/-- the slice in `getN64_spec` / `getN1024_spec` (`GetNAs{I8,I16,I32,I64}` / `RGetNAs…` of `Bit64`, `GetNAs{I16,I32,I64}` of
    `Bit1024`), every width at once: the first `min(n, Len)` members themselves (offset 0), converted to the element type -/
theorem getN_values {w : Nat} (rev : Bool) (ms : List Nat) (n : Int) :
    expected rev ms (0 : BitVec w) n = ((if rev then ms.reverse else ms).take n.toNat).map (BitVec.ofNat w) := by
  unfold expected
  apply List.map_congr_left
  intro i _
  simp

/-! ### GetN: allocate `n` cells, iterate from 0 with `add = 0`, return the written prefix (nil when empty) -/

theorem getNOf_spec {w : Nat} (n : Int) (hn : 0 ≤ n) (out : List (BitVec w))
    (it : List (BitVec w) → Option (List (BitVec w) × Nat))
    (hit : ∀ s, s.length = n.toNat → it s = some (writeAt s 0 out, out.length)) :
    getNOf n it = if out = [] then .nil else .slice out := by
  unfold getNOf
  have : ¬ n < 0 := by omega
  simp only [this, if_false, hit _ (List.length_replicate ..)]
  by_cases ho : out = []
  · simp [ho]
  · have : out.length ≠ 0 := fun h => ho (List.length_eq_zero_iff.1 h)
    simp [this, ho, writeAt]

/-- an iterator that meets its specification from position 0 always finds room in the `n` cells `GetN*` allocates -/
theorem getNOf_iter {w : Nat} (n : Int) (hn : 0 ≤ n) (rev : Bool) (ms : List Nat)
    (it : List (BitVec w) → Option (List (BitVec w) × Nat))
    (hit : ∀ s : List (BitVec w), (0 : Int).toNat + (expected rev ms (0 : BitVec w) n).length ≤ s.length →
      it s = some (writeAt s (0 : Int).toNat (expected rev ms 0 n), (expected rev ms (0 : BitVec w) n).length)) :
    getNOf n it = if expected rev ms (0 : BitVec w) n = [] then .nil else .slice (expected rev ms 0 n) :=
  getNOf_spec n hn _ it fun s hs => hit s (by rw [expected_length, hs, Int.toNat_zero, Nat.zero_add]; exact Nat.min_le_left _ _)

theorem getN64_spec {w : Nat} (magic : Int) (rev : Bool) (b : Bit64) (n : Int) (hn : 0 ≤ n) :
    getN64 (w := w) magic rev b n =
      if expected rev (members b) (0 : BitVec w) n = [] then .nil else .slice (expected rev (members b) 0 n) :=
  getNOf_iter n hn rev (members b) _ fun s h => iter64_eq_spec magic rev b s 0 0 n (Int.le_refl 0) h

theorem getN1024_spec {w : Nat} (c : Cfg) (hc : Proved c) (magic : Int) (rev : Bool) (b : Bit1024) (n : Int) (hn : 0 ≤ n) :
    getN1024 (w := w) c magic rev b n =
      if expected rev (members1024 b) (0 : BitVec w) n = [] then .nil else .slice (expected rev (members1024 b) 0 n) :=
  getNOf_iter n hn rev (members1024 b) _ fun s h => iter1024_eq_spec c hc magic rev b s 0 0 n (Int.le_refl 0) h

/-- outside the property: `GetN*` with a negative count panics (in `make`) — exhibited, not hidden -/
theorem getN_negative_panics {w : Nat} (magic : Int) (rev : Bool) (b : Bit64) (n : Int) (hn : n < 0) :
    getN64 (w := w) magic rev b n = .panic := by
  simp [getN64, getNOf, hn]

/-- outside the precondition: without room the iterator panics (index out of range) — `TestBit64_Iter` of the
    baseline hits exactly this with a zero-length slice -/
example : iter64 (w := 64) 9 false 5#64 [] 0 0#64 3 = none := by decide

end Nv.C08
